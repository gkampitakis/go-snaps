/- C11 — snapshot location is a pure function of test file, test name and options. -/
import GoSnaps.Path
import GoSnaps.Generated.Funcs
namespace GoSnaps.C11

/-- the location depends on nothing but the Config, the calling test file, the test name and the
    API kind (it is a function: no working directory, no registry, no file-system state) -/
theorem location_is_function (c : Cfg) (caller tName : Text) (sa : Bool) :
    ∀ c' caller' t' sa', c = c' → caller = caller' → tName = t' → sa = sa' →
      snapshotPath c caller tName sa = snapshotPath c' caller' t' sa' := by
  intro c' caller' t' sa' h1 h2 h3 h4; subst h1 h2 h3 h4; rfl

/-- the name a snapshot file is built from: Filename, else the test file's base name without its
    extension (multi-entry) or the test name with '/' replaced by '_' (standalone) -/
def stem (c : Cfg) (caller tName : Text) (sa : Bool) : Text :=
  if c.filename = [] then
    (if sa then replaceByte tName slash Generated.saReplaceNew
     else trimSuffix (fpBase caller) (fpExt (fpBase caller)))
  else c.filename

/-- the file name of a multi-entry snapshot: stem, `.snap`, extension -/
theorem filename_spec (c : Cfg) (caller tName : Text) :
    constructFilename c caller tName false = stem c caller tName false ++ Generated.snapsExt ++ c.extension := by
  unfold constructFilename stem
  by_cases h : c.filename = [] <;> simp [h]

/-- the file name of a standalone snapshot is a FORMAT: stem and extension escaped (`%` ↦ `%%`),
    the ordinal placeholder `_%d` between the stem and `.snap` -/
theorem filename_spec_standalone (c : Cfg) (caller tName : Text) :
    constructFilename c caller tName true =
      escapeFormat (stem c caller tName true) ++ Generated.saSuffix ++ Generated.snapsExt ++ escapeFormat c.extension := by
  unfold constructFilename stem
  by_cases h : c.filename = [] <;> simp [h]

/-- absolute Dir is used as is; a relative Dir is joined to the calling test file's directory -/
theorem path_spec (c : Cfg) (caller tName : Text) :
    (snapshotPath c caller tName false).1 =
      fpJoin [if fpIsAbs c.snapsDir then c.snapsDir else fpJoin [fpDir caller, c.snapsDir],
              constructFilename c caller tName false] := by
  unfold snapshotPath; rfl

/-- the standalone path: the same directory, escaped, joined with the standalone file-name format -/
theorem path_spec_standalone (c : Cfg) (caller tName : Text) :
    (snapshotPath c caller tName true).1 =
      fpJoin [escapeFormat (if fpIsAbs c.snapsDir then c.snapsDir else fpJoin [fpDir caller, c.snapsDir]),
              constructFilename c caller tName true] := by
  unfold snapshotPath; rfl

theorem consts_ok : Generated.snapsExt = [46, 115, 110, 97, 112] ∧ Generated.saSuffix = [95, 37, 100] ∧
    Generated.saReplaceNew = [95] ∧ Generated.saReplaceOld = [47] ∧
    Generated.defaultSnapsDir = [95, 95, 115, 110, 97, 112, 115, 104, 111, 116, 115, 95, 95] := by decide

/-- **Tie by proof**: `Generated.Funcs.constructFilename` is a transliteration of the Go function
`constructFilename` regenerated from snaps/snapshot.go on every run (tools/extract/funcs.go); the
hand-written model definition used everywhere else is EQUAL to it.  A change of the Go function
changes the left-hand side and this theorem has to be re-proved. -/
theorem constructFilename_tied (c : Cfg) (caller tName : Text) (sa : Bool) :
    Generated.Funcs.constructFilename c caller tName sa = GoSnaps.constructFilename c caller tName sa := by
  have h1 : Generated.go_snapsExt = Generated.snapsExt := by decide
  have h4 : slash = 47 := by decide
  unfold Generated.Funcs.constructFilename GoSnaps.constructFilename Generated.Funcs.escapeFormat GoSnaps.escapeFormat
  -- multi-entry or standalone, `Filename` set or not: in each of the four cases both sides unfold to
  -- the same concatenation once the generated constants are replaced by their values
  cases sa <;> by_cases h : c.filename = [] <;> simp [Id.run, h, h1, consts_ok.2.1, consts_ok.2.2.1, h4, pure]

/-- `/a/b/x_test.go`, default options: `/a/b/__snapshots__/x_test.snap`; standalone `T/s`: `T_s_%d.snap` -/
example :
    (snapshotPath {} [47,97,47,98,47,120,95,116,101,115,116,46,103,111] [84] false).1 =
      [47,97,47,98,47,95,95,115,110,97,112,115,104,111,116,115,95,95,47,120,95,116,101,115,116,46,115,110,97,112] ∧
    constructFilename {} [47,120,46,103,111] [84,47,115] true = [84,95,115,95,37,100,46,115,110,97,112] := by decide +kernel

end GoSnaps.C11
