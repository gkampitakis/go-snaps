/-
C01 — recorded snapshots replay cleanly, at the level of the file format (`render`, `scan`,
`getPrev`; lemmas in Lemmas/Format.lean).

All theorems are about the executable model definitions in Format.lean / Escape.lean /
Model.lean, whose constants are regenerated from /repo on every run and whose behaviour is
compared with the real code by the correspondence suites `match.replay` and `format`.
-/
import GoSnaps.Lemmas.Format
import GoSnaps.Generated.Consts
namespace GoSnaps.C01

open GoSnaps

/-- well-formedness of a file's entry list -/
structure WF (es : List Entry) : Prop where
  idNoNL : ∀ e ∈ es, NoNL e.id
  noCR : ∀ l ∈ fileLines es, NoCRLine l

theorem scan_render (es : List Entry) (h : WF es) : scan (render es) = fileLines es :=
  GoSnaps.scan_render es h.idNoNL h.noCR

/-- `getPrevSnapshot` returns exactly the stored body and the header's line number, at every
position of the file, provided no *earlier* line of the file equals the header (`hnoshadow`; a body
line that equals another slot's header violates this — known finding D9). -/
theorem getPrev_render (pre : List Entry) (e : Entry) (post : List Entry)
    (h : WF (pre ++ e :: post)) (hne : e.id ≠ []) (hesc : Escaped e.body)
    (hnoshadow : e.id ∉ fileLines pre) :
    getPrev e.id (render (pre ++ e :: post)) = some (e.body, (fileLines pre).length + 2) := by
  unfold getPrev
  rw [scan_render _ h]
  have : fileLines (pre ++ e :: post) = fileLines pre ++ (entryLines e ++ fileLines post) := by
    simp [fileLines]
  rw [this, getPrevL_skip _ _ _ _ hnoshadow, getPrevL_hit e _ _ hne hesc]
  congr 2; omega

/-- An id that occurs on no line of the file is reported as not found. -/
theorem getPrev_absent (id : Line) (es : List Entry) (h : WF es) (habs : id ∉ fileLines es) :
    getPrev id (render es) = none := by
  unfold getPrev
  rw [scan_render _ h]
  exact getPrevL_none id _ 1 habs

/-- Appending (what `addNewSnapshot` writes, through the format string read from the source)
    keeps the file a `render` of its entry list. -/
theorem addNew_render (es : List Entry) (id : Line) (body : Text) :
    (frameFmt id body).map (render es ++ ·) = some (render (es ++ [⟨id, body⟩])) := by
  rw [frameFmt_eq]; simp [render]

/-- What every taker of an escaped snapshot stores is `Escaped`, so `getPrev_render` applies
    to every value whatsoever (text containing the terminator included). -/
theorem stored_is_escaped (v : Text) : Escaped (escape v) := escape_escaped v

/-- Record-then-replay on one entry: after `addNewSnapshot` appended the escaped value to a
well-formed file in which the header is not shadowed, `getPrevSnapshot` returns exactly the
stored text, so the replaying call compares a text with itself. -/
theorem record_then_lookup (es : List Entry) (id : Line) (v : Text)
    (h : WF (es ++ [⟨id, escape v⟩])) (hne : id ≠ [])
    (hnoshadow : id ∉ fileLines es) :
    getPrev id (render (es ++ [⟨id, escape v⟩])) = some (escape v, (fileLines es).length + 2) :=
  getPrev_render es ⟨id, escape v⟩ [] h hne (escape_escaped v) hnoshadow

/-- a two-entry file, the second body containing the escaped terminator and a blank line -/
example :
    let e1 : Entry := ⟨[91, 84, 101, 115, 116, 65, 32, 45, 32, 49, 93], [120, 10, 47, 45, 47, 45, 47, 45, 47, 10]⟩
    let e2 : Entry := ⟨[91, 84, 101, 115, 116, 66, 32, 45, 32, 49, 93], escape ([45, 45, 45, 10, 10, 32, 121])⟩
    getPrev e2.id (render [e1, e2]) = some (e2.body, 8) := by decide +kernel

/-- The model's `scan` splits a file into lines of ANY length.  The real scanner has a token limit;
the fact regenerated from the source says that every scanner over a snapshot file is built by
`snapshotScanner` with the limit `math.MaxInt`, i.e. that this idealisation is the code's. -/
theorem source_scanner_unbounded : Generated.scannerUnbounded = true := by decide

end GoSnaps.C01
