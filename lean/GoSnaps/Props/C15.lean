/- C15 — the go-snaps part of the matcher pipeline: `applyJSONMatchers` / `applyYAMLMatchers`
   (snaps/matchJSON.go:166-179, matchYAML.go:171-185) as a fold over abstract matchers. -/
import GoSnaps.Bytes
import GoSnaps.Generated.Consts
namespace GoSnaps.C15

/-- a matcher: document ↦ (output document, errors) -/
abbrev Matcher (ε : Type) := Text → Text × List ε

/-- the fold of `applyJSONMatchers`: a matcher that reports errors is skipped (its output is
    discarded, its errors collected), otherwise its output becomes the next input -/
def applyMatchers {ε : Type} : List (Matcher ε) → Text → List ε → Text × List ε
  | [], b, errs => (b, errs)
  | m :: ms, b, errs =>
    let r := m b
    if r.2 ≠ [] then applyMatchers ms b (errs ++ r.2) else applyMatchers ms r.1 errs

theorem matchers_left_to_right {ε : Type} (m : Matcher ε) (ms : List (Matcher ε)) (b : Text) (errs : List ε)
    (h : (m b).2 = []) : applyMatchers (m :: ms) b errs = applyMatchers ms (m b).1 errs := by
  simp [applyMatchers, h]

/-- no partial leak: a failing matcher's output never becomes the document -/
theorem failed_matcher_skipped {ε : Type} (m : Matcher ε) (ms : List (Matcher ε)) (b : Text) (errs : List ε)
    (h : (m b).2 ≠ []) : applyMatchers (m :: ms) b errs = applyMatchers ms b (errs ++ (m b).2) := by
  simp [applyMatchers, h]

/-- the errors collected so far stay a prefix of the result -/
theorem errors_accumulate {ε : Type} (ms : List (Matcher ε)) (b : Text) (errs : List ε) :
    ∃ more, (applyMatchers ms b errs).2 = errs ++ more := by
  induction ms generalizing b errs with
  | nil => exact ⟨[], (List.append_nil errs).symm⟩
  | cons m ms ih =>
    simp only [applyMatchers]
    split
    · obtain ⟨more, h⟩ := ih b (errs ++ (m b).2)
      exact ⟨(m b).2 ++ more, by rw [h, List.append_assoc]⟩
    · exact ih (m b).1 errs

theorem all_succeed {ε : Type} (ms : List (Matcher ε)) (b : Text)
    (h : ∀ m ∈ ms, ∀ d, (m d).2 = []) :
    applyMatchers ms b [] = (ms.foldl (fun d m => (m d).1) b, []) := by
  induction ms generalizing b with
  | nil => rfl
  | cons m ms ih =>
    rw [matchers_left_to_right m ms b [] (h m (by simp) b)]
    exact ih (m b).1 fun m' hm' => h m' (by simp [hm'])

/-- aliasing facts read from the source: the caller's `[]byte` reaches the matchers uncopied iff
    `validateJSON` returns its argument, and sjson writes into its input iff `ReplaceInPlace`.
    The caller's bytes can only be modified when both hold. -/
def callerBytesAtRisk : Bool := Generated.validateJSONAliases && Generated.sjsonReplaceInPlace

end GoSnaps.C15
