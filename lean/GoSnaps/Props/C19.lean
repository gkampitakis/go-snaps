/- C19 — a standalone snapshot file is the formatted value and nothing else.  Also the outcomes of
   the two tails (`TailOutcome`) and the shape of what they do to the world (`Touches`). -/
import GoSnaps.Model
namespace GoSnaps.C19

theorem fsRead_fsWrite_same (fs : FS) (p c : Text) : fsRead (fsWrite fs p c) p = some c := by
  induction fs with
  | nil => simp [fsWrite, fsRead]
  | cons e fs ih =>
    obtain ⟨p', c'⟩ := e
    simp only [fsWrite]
    split
    · simp [fsRead]
    · rename_i h; simp [fsRead, h, ih]

theorem fsRead_fsWrite_other (fs : FS) (p q c : Text) (h : q ≠ p) :
    fsRead (fsWrite fs p c) q = fsRead fs q := by
  have hpq : ¬ p = q := fun e => h e.symm
  induction fs with
  | nil => simp [fsWrite, fsRead, hpq]
  | cons e fs ih =>
    obtain ⟨p', c'⟩ := e
    simp only [fsWrite]
    split
    · rename_i e; subst e; simp [fsRead, hpq]
    · simp only [fsRead]; split <;> simp_all

end GoSnaps.C19

namespace GoSnaps

/-- `w'` is `w` up to the event counters and at most one file, the one at address `a`; `ws` is
the list of paths reported as written.  Every outcome of a Match* call after its registry bump
has one of these two shapes. -/
inductive Touches (a : Option Text) (w : World) : World → List Text → Prop
  | events (ev : Events) : Touches a w { w with events := ev } []
  | write (p t : Text) (ev : Events) (ha : a = some p) :
      Touches a w { w with fs := fsWrite w.fs p t, events := ev } [p]

namespace Touches
variable {a : Option Text} {w w' : World} {ws : List Text} (h : Touches a w w' ws)
include h

theorem cfgs : w'.cfgs = w.cfgs := by cases h <;> rfl
theorem env : w'.env = w.env := by cases h <;> rfl

theorem fs_other (q : Text) (hq : some q ≠ a) : fsRead w'.fs q = fsRead w.fs q := by
  cases h with
  | events => rfl
  | write p t ev ha => exact C19.fsRead_fsWrite_other _ _ _ _ fun e => hq (by rw [ha, e])

theorem writes (q : Text) (hq : q ∈ ws) : some q = a := by
  cases h with
  | events => cases hq
  | write p t ev ha => rw [ha, List.mem_singleton.mp hq]

end Touches

/-- The five ways a tail (`entryTail`, `standaloneTail`) at path `p` can end: a failure, an input
the model does not cover (`total = false` only), a silent pass, a creation, an update. -/
inductive TailOutcome (total : Bool) (w : World) (c : Cfg) (p : Text) : World × Out → Prop
  | failed (msg : Text) : TailOutcome total w c p (handleError w msg)
  | unsupported (why : String) (ht : total = false) : TailOutcome total w c p (unsup w why)
  | passed : TailOutcome total w c p
      ({ w with events := { w.events with passed := w.events.passed + 1 } }, {})
  | added (t : Text) (hg : Generated.shouldCreate w.env c.update = true) : TailOutcome total w c p
      ({ w with fs := fsWrite w.fs p t, events := { w.events with added := w.events.added + 1 } },
       { events := [.log Generated.go_addedMsg], writes := [p] })
  | updated (t : Text) (hg : Generated.shouldUpdate w.env c.update = true) : TailOutcome total w c p
      ({ w with fs := fsWrite w.fs p t, events := { w.events with updated := w.events.updated + 1 } },
       { events := [.log Generated.go_updatedMsg], writes := [p] })

theorem entryTail_outcome (w : World) (c : Cfg) (p rel id s : Text) (cmp : Cmp) :
    TailOutcome false w c p (entryTail w c p rel id s cmp) := by
  unfold entryTail
  split
  · split
    · exact .failed _
    · rename_i h
      split
      · exact .unsupported _ rfl
      · exact .added _ (by simpa using h)
  · dsimp only
    generalize prettyDiff _ _ _ _ = diff
    split
    · exact .passed
    · split
      · exact .failed _
      · rename_i h
        split
        · exact .unsupported _ rfl
        · exact .updated _ (by simpa using h)

theorem standaloneTail_outcome (w : World) (c : Cfg) (p rel s : Text) :
    TailOutcome true w c p (standaloneTail w c p rel s) := by
  unfold standaloneTail
  split
  · split
    · exact .failed _
    · rename_i h; exact .added _ (by simpa using h)
  · dsimp only
    generalize prettyDiff _ _ _ _ = diff
    split
    · exact .passed
    · split
      · exact .failed _
      · rename_i h; exact .updated _ (by simpa using h)

theorem TailOutcome.touches {total : Bool} {w : World} {c : Cfg} {p : Text} {r : World × Out}
    (h : TailOutcome total w c p r) : Touches (some p) w r.1 r.2.writes := by
  cases h with
  | failed | unsupported | passed => exact .events _
  | added | updated => exact .write _ _ _ rfl

theorem entryTail_touches (w : World) (c : Cfg) (p rel id s : Text) (cmp : Cmp) :
    Touches (some p) w (entryTail w c p rel id s cmp).1 (entryTail w c p rel id s cmp).2.writes :=
  (entryTail_outcome ..).touches

theorem standaloneTail_touches (w : World) (c : Cfg) (p rel s : Text) :
    Touches (some p) w (standaloneTail w c p rel s).1 (standaloneTail w c p rel s).2.writes :=
  (standaloneTail_outcome ..).touches

end GoSnaps

namespace GoSnaps.C19

/-- whenever `standaloneTail` writes (creation, or update of a differing
file), the file's bytes are exactly the snapshot text — no header, terminator, escape or
newline is added, for every byte sequence. -/
theorem standalone_exact (w : World) (c : Cfg) (snapPath rel snapshot : Text)
    (hw : (standaloneTail w c snapPath rel snapshot).2.writes ≠ []) :
    fsRead (standaloneTail w c snapPath rel snapshot).1.fs snapPath = some snapshot := by
  unfold standaloneTail at *
  cases hr : fsRead w.fs snapPath with
  | none =>
    simp only [hr] at hw ⊢
    split at hw
    · simp [handleError] at hw
    · rename_i h; simp only [h]; simp [fsRead_fsWrite_same]
  | some prev =>
    simp only [hr] at hw ⊢
    split at hw
    · simp at hw
    · split at hw
      · simp [handleError] at hw
      · rename_i h1 h2; simp only [h1, h2]; simp [fsRead_fsWrite_same]

/-- every other file is left alone by a standalone call -/
theorem standalone_other_files (w : World) (c : Cfg) (snapPath rel snapshot q : Text) (hq : q ≠ snapPath) :
    fsRead (standaloneTail w c snapPath rel snapshot).1.fs q = fsRead w.fs q :=
  (standaloneTail_touches ..).fs_other q fun e => hq (Option.some.inj e)

/-- a file that holds exactly the value replays silently, whatever the
bytes are (carriage returns, terminator-like and header-like lines included): no event, no write. -/
theorem standalone_replay (w : World) (c : Cfg) (snapPath rel v : Text)
    (h : fsRead w.fs snapPath = some v) :
    (standaloneTail w c snapPath rel v).2.events = [] ∧
    (standaloneTail w c snapPath rel v).2.writes = [] ∧
    (standaloneTail w c snapPath rel v).1.fs = w.fs := by
  unfold standaloneTail
  simp [h, prettyDiff]

end GoSnaps.C19
