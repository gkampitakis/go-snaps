/-
C01World — recorded snapshots replay cleanly, at the level of CALLS and HISTORIES of the step
functions of `GoSnaps/Model.lean` (`entryTail`, `matchEntry`, `endTest`).

File states: `Holds fs p es` (Lemmas/World.lean) — path `p` holds `render es`, or does not exist
and `es = []`.  Well-formedness: `C06Refine.Good es` (usable headers and bodies, no body line
equals a header of the file (NoShadow, known finding D9 otherwise), headers pairwise distinct).

All single-call theorems are stated for an arbitrary header `id`; `matchEntry` passes
`id = testID tName k = "[tName - k]"` (`Wld.matchEntry_eq`, `C03.testID_eq`).

Byte legend for the examples: `[91,65,32,45,32,49,93]` = "[A - 1]", `[65]` = "A", `[66]` = "B",
`[47,116,47,97,95,116,101,115,116,46,103,111]` = "/t/a_test.go",
`[47,116,47,95,95,115,110,97,112,115,104,111,116,115,95,95,47,97,95,116,101,115,116,46,115,110,97,112]`
= "/t/__snapshots__/a_test.snap".
-/
import GoSnaps.Lemmas.World

namespace GoSnaps.C01World

open GoSnaps GoSnaps.C06Refine GoSnaps.Wld
open GoSnaps.C03 (testID)
open GoSnaps.Generated (Env shouldCreate shouldUpdate)

/-- instance search for `LawfulBEq` on lists of bytes is slow: found once here -/
local instance lawfulBEqText : LawfulBEq Text := inferInstance

theorem entryTail_record_eq (w : World) (c : Cfg) (p rel id s : Text) (cmp : Cmp)
    (es : List Entry) (hfile : Holds w.fs p es) (hgood : Good (es ++ [⟨id, s⟩]))
    (hc : shouldCreate w.env c.update = true) :
    entryTail w c p rel id s cmp =
      ({ w with fs := fsWrite w.fs p (render (es ++ [⟨id, s⟩])),
                events := { w.events with added := w.events.added + 1 } },
       { events := [.log Generated.go_addedMsg], writes := [p] }) := by
  have hq : (fsRead w.fs p).bind (getPrev id) = none := by
    rw [hfile.lookup id]
    exact good_lookup_absent (good_prefix hgood) (good_headerUnique hgood).1
  rw [entryTail_absent w c p rel id s cmp hq hc, hfile.fileOf, (add_refines es id s).1]

/-- A recording call appends: all earlier bytes of the file are kept (a file that does not exist
counts as `es = []`), and the new file is `Good` again, so the next call can start from it. -/
theorem entryTail_record (w : World) (c : Cfg) (p rel id s : Text) (cmp : Cmp) (es : List Entry)
    (hfile : Holds w.fs p es) (hgood : Good es)
    (hid : GoodId id) (hfresh : id ∉ fileLines es)
    (hc : shouldCreate w.env c.update = true)
    (hb : GoodBody s) (hold : ∀ o ∈ es, o.id ∉ lines s) (hself : id ∉ lines s) :
    let r := entryTail w c p rel id s cmp
    r.2.events = [.log Generated.go_addedMsg] ∧ r.2.writes = [p] ∧ r.2.removed = [] ∧
    r.2.unsupported = none ∧
    fsRead r.1.fs p = some (render (es ++ [⟨id, s⟩])) ∧
    (∀ q, q ≠ p → fsRead r.1.fs q = fsRead w.fs q) ∧
    r.1.events = { w.events with added := w.events.added + 1 } ∧
    Good (es ++ [⟨id, s⟩]) := by
  have hg : Good (es ++ [⟨id, s⟩]) := hgood.add hid hfresh hb hold hself
  intro r
  have hr : r = _ := entryTail_record_eq w c p rel id s cmp es hfile hg hc
  rw [hr]
  exact ⟨rfl, rfl, rfl, rfl, C19.fsRead_fsWrite_same _ _ _,
    fun q hq => C19.fsRead_fsWrite_other _ _ q _ hq, rfl, hg⟩

/-- the instance `matchEntry` produces: header `[t - k]` of a test name without newline -/
theorem entryTail_record_testID (w : World) (c : Cfg) (p rel t s : Text) (k : Nat) (cmp : Cmp)
    (es : List Entry) (hfile : Holds w.fs p es) (hgood : Good es)
    (ht : NoNL t) (hfresh : testID t k ∉ fileLines es)
    (hc : shouldCreate w.env c.update = true)
    (hb : GoodBody s) (hold : ∀ o ∈ es, o.id ∉ lines s) (hself : testID t k ∉ lines s) :
    let r := entryTail w c p rel (testID t k) s cmp
    r.2.events = [.log Generated.go_addedMsg] ∧ r.2.writes = [p] ∧ r.2.removed = [] ∧
    r.2.unsupported = none ∧
    fsRead r.1.fs p = some (render (es ++ [⟨testID t k, s⟩])) ∧
    (∀ q, q ≠ p → fsRead r.1.fs q = fsRead w.fs q) ∧
    r.1.events = { w.events with added := w.events.added + 1 } ∧
    Good (es ++ [⟨testID t k, s⟩]) :=
  entryTail_record w c p rel (testID t k) s cmp es hfile hgood (goodId_testID t k ht) hfresh hc hb
    hold hself

/-- recording "[B - 1]" with the three-line body "x\n\ny" into a file that holds "[A - 1]" -/
example :
    let p : Text := [47, 115]
    let es : List Entry := [⟨testID [65] 1, [120]⟩]
    let w : World := { env := ⟨false, ""⟩, fs := [(p, render es)] }
    let r := entryTail w {} p [115] (testID [66] 1) [120, 10, 10, 121] .escaped
    r.2.events = [.log Generated.go_addedMsg] ∧ r.2.writes = [p] ∧
    fsRead r.1.fs p = some (render (es ++ [⟨testID [66] 1, [120, 10, 10, 121]⟩])) ∧
    r.1.events.added = 1 := by decide +kernel

/-- Replay is silent in EVERY mode: no hypothesis on `w.env` or `c.update` (CI or not, any
UPDATE_SNAPS, any `Update(...)`).  No `NoTokLine` hypothesis either: for `.raw` both sides are
`s`, for `.escaped` both sides are `unescape s`; the token collision of D10 concerns DIFFERENT
texts only. -/
theorem entryTail_replay (w : World) (c : Cfg) (p rel id s : Text) (cmp : Cmp) (es : List Entry)
    (hfile : Holds w.fs p es) (hgood : Good es) (hm : (⟨id, s⟩ : Entry) ∈ es) :
    let r := entryTail w c p rel id s cmp
    r.2.events = [] ∧ r.2.writes = [] ∧ r.2.removed = [] ∧ r.2.unsupported = none ∧
    r.1.fs = w.fs ∧ r.1.events = { w.events with passed := w.events.passed + 1 } := by
  intro r
  have hr : r = _ := entryTail_pass w c p rel id s s cmp es hfile hgood hm rfl
  rw [hr]
  exact ⟨rfl, rfl, rfl, rfl, rfl, rfl⟩

/-- replay on CI with `Update(true)` and UPDATE_SNAPS=true of a body that contains the escape
token line (TOK = `[47,45,47,45,47,45,47]`), both comparison kinds -/
example :
    let p : Text := [47, 115]
    let s : Text := [120, 10, 47, 45, 47, 45, 47, 45, 47]
    let es : List Entry := [⟨testID [65] 1, [120]⟩, ⟨testID [65] 2, s⟩]
    let w : World := { env := ⟨true, "true"⟩, fs := [(p, render es)] }
    Good es ∧
    (entryTail w { update := some true } p [115] (testID [65] 2) s .escaped).2.events = [] ∧
    (entryTail w { update := some true } p [115] (testID [65] 2) s .raw).2.events = [] ∧
    (entryTail w { update := some true } p [115] (testID [65] 2) s .raw).1.fs = w.fs := by
  decide +kernel

/-- `w₂` shares only the file system with the world the recording call left: fresh registries,
any environment, config and comparison kind. -/
theorem record_then_replay_call (w : World) (c : Cfg) (p rel id s : Text) (cmp : Cmp)
    (es : List Entry) (hfile : Holds w.fs p es) (hgood : Good es)
    (hid : GoodId id) (hfresh : id ∉ fileLines es)
    (hc : shouldCreate w.env c.update = true)
    (hb : GoodBody s) (hold : ∀ o ∈ es, o.id ∉ lines s) (hself : id ∉ lines s)
    (w₂ : World) (hw₂ : w₂.fs = (entryTail w c p rel id s cmp).1.fs)
    (c' : Cfg) (rel' : Text) (cmp' : Cmp) :
    let r := entryTail w₂ c' p rel' id s cmp'
    r.2.events = [] ∧ r.2.writes = [] ∧ r.2.removed = [] ∧ r.2.unsupported = none ∧
    r.1.fs = w₂.fs ∧ r.1.events = { w₂.events with passed := w₂.events.passed + 1 } := by
  obtain ⟨_, _, _, _, hfs, _, _, hg⟩ :=
    entryTail_record w c p rel id s cmp es hfile hgood hid hfresh hc hb hold hself
  refine entryTail_replay w₂ c' p rel' id s cmp' (es ++ [⟨id, s⟩]) ?_ hg (List.mem_append_right _ List.mem_cons_self)
  left; rw [hw₂]; exact hfs

example :
    let p : Text := [47, 115]
    let es : List Entry := [⟨testID [65] 1, [120]⟩]
    let w : World := { env := ⟨false, ""⟩, fs := [(p, render es)] }
    let w₁ := (entryTail w {} p [115] (testID [66] 1) [120, 10, 10, 121] .escaped).1
    let r := entryTail { env := ⟨true, "true"⟩, fs := w₁.fs } {} p [115] (testID [66] 1)
      [120, 10, 10, 121] .escaped
    r.2.events = [] ∧ r.2.writes = [] ∧ r.1.fs = w₁.fs := by decide +kernel

theorem matchEntry_replay (w : World) (c : Cfg) (caller t : Text) (x : Nat) (cmp : Cmp)
    (s p rel : Text) (es : List Entry)
    (hsp : snapshotPath c caller t false = (p, some rel))
    (hfile : Holds w.fs p es) (hgood : Good es)
    (hm : (⟨testID t (alGet w.running (p, t) + 1), s⟩ : Entry) ∈ es) :
    let r := matchEntry w c caller t x cmp (.ok s)
    r.2.events = [] ∧ r.2.writes = [] ∧ r.2.removed = [] ∧ r.2.unsupported = none ∧
    r.1.fs = w.fs ∧ r.1.env = w.env := by
  intro r
  have hr : r = _ := (matchEntry_eq w c caller t x cmp s p rel hsp).trans
    (entryTail_pass (bumped w p t x) c p rel _ s s cmp es hfile hgood hm rfl)
  rw [hr]
  exact ⟨rfl, rfl, rfl, rfl, rfl, rfl⟩

/-! ## histories

A *history* is what one test process does to ONE multi-entry snapshot file: a list of steps,
each either a `Match*` call `call tName text cmp texec` (test name, snapshot text after
formatting/escaping, comparison kind, number of the `testing.T` it was made on) executed by
`matchEntry`, or `done texec`, the `t.Cleanup` of that `testing.T` executed by `endTest`.
Calls of different tests may be interleaved arbitrarily (parallel tests, sub-tests).

`Scoped`: when a `testing.T` is done, the test names it made calls for make no further calls —
every test function runs once in the process.  (Without it a name that is executed a second time,
e.g. `-count=2`, restarts at ordinal 1 and *compares* instead of recording; histories without any
`done` step are always `Scoped`.) -/

inductive Step
  | call (tName text : Text) (cmp : Cmp) (texec : Nat)
  | done (texec : Nat)
deriving DecidableEq, Repr

def step (c : Cfg) (caller : Text) (w : World) : Step → World × List Out
  | .call t s cmp x =>
    ((matchEntry w c caller t x cmp (.ok s)).1, [(matchEntry w c caller t x cmp (.ok s)).2])
  | .done x => (endTest w x, [])

def run (c : Cfg) (caller : Text) : World → List Step → World × List Out
  | w, [] => (w, [])
  | w, st :: h =>
    ((run c caller (step c caller w st).1 h).1,
     (step c caller w st).2 ++ (run c caller (step c caller w st).1 h).2)

/-- the record run: fresh registries, file system `fs₀`, environment `env` -/
def recordRun (env : Env) (c : Cfg) (caller : Text) (fs₀ : FS) (h : List Step) : World × List Out :=
  run c caller { env := env, fs := fs₀ } h

/-- the replay run: fresh registries again, the file system the record run left, ANY environment
and config -/
def replayRun (env' : Env) (c' : Cfg) (caller' : Text) (recorded : World) (h : List Step) :
    World × List Out :=
  run c' caller' { env := env', fs := recorded.fs } h

def calledNames : List Step → List Text
  | [] => []
  | .call t _ _ _ :: h => t :: calledNames h
  | .done _ :: h => calledNames h

def texts : List Step → List Text
  | [] => []
  | .call _ s _ _ :: h => s :: texts h
  | .done _ :: h => texts h

/-- the entries a history records, `seen` being the names of the calls made before it: the call
of `t` gets header `[t - (1 + number of earlier calls of t)]` -/
def entriesFrom : List Text → List Step → List Entry
  | _, [] => []
  | seen, .call t s _ _ :: h => ⟨testID t (seen.count t + 1), s⟩ :: entriesFrom (t :: seen) h
  | seen, .done _ :: h => entriesFrom seen h

def entriesOf (h : List Step) : List Entry := entriesFrom [] h

def headers (h : List Step) : List Line := ids (entriesOf h)

/-- `past` = (name, `testing.T`) of the calls made so far -/
def Scoped : List (Text × Nat) → List Step → Prop
  | _, [] => True
  | past, .call t _ _ x :: h => Scoped ((t, x) :: past) h
  | past, .done x :: h => (∀ q ∈ past, q.2 = x → q.1 ∉ calledNames h) ∧ Scoped past h

instance decScoped : ∀ (past : List (Text × Nat)) (h : List Step), Decidable (Scoped past h)
  | _, [] => isTrue trivial
  | past, .call t _ _ x :: h => decScoped ((t, x) :: past) h
  | past, .done x :: h =>
    have := decScoped past h
    inferInstanceAs (Decidable ((∀ q ∈ past, q.2 = x → q.1 ∉ calledNames h) ∧ Scoped past h))

def Added (p : Text) (o : Out) : Prop :=
  o.events = [.log Generated.go_addedMsg] ∧ o.writes = [p] ∧ o.removed = [] ∧ o.unsupported = none

def Silent (o : Out) : Prop :=
  o.events = [] ∧ o.writes = [] ∧ o.removed = [] ∧ o.unsupported = none

theorem texts_entriesFrom (h : List Step) : ∀ seen, (entriesFrom seen h).map (·.body) = texts h := by
  induction h with
  | nil => intro _; rfl
  | cons st h ih =>
    intro seen
    cases st with
    | call t s cmp x => simp [entriesFrom, texts, ih]
    | done x => simp [entriesFrom, texts, ih]

theorem entriesFrom_ids (h : List Step) : ∀ seen, ∀ e ∈ entriesFrom seen h,
    ∃ t k, e.id = testID t k ∧ seen.count t < k ∧ t ∈ calledNames h := by
  induction h with
  | nil => exact fun _ _ he => nomatch he
  | cons st h ih =>
    intro seen e he
    cases st with
    | call t s cmp x =>
      rcases List.mem_cons.mp he with rfl | he
      · exact ⟨t, _, rfl, Nat.lt_succ_self _, List.mem_cons_self⟩
      · obtain ⟨t', k', h1, h2, h3⟩ := ih (t :: seen) e he
        exact ⟨t', k', h1, Nat.lt_of_le_of_lt List.count_le_count_cons h2,
          List.mem_cons_of_mem _ h3⟩
    | done x => exact ih seen e he

/-- by `C03.header_injective` and the ordinals -/
theorem entriesFrom_nodup (h : List Step) : ∀ seen, (ids (entriesFrom seen h)).Nodup := by
  induction h with
  | nil => intro _; simp [entriesFrom, ids]
  | cons st h ih =>
    intro seen
    cases st with
    | call t s cmp x =>
      simp only [entriesFrom, ids, List.map_cons, List.nodup_cons]
      refine ⟨?_, ih (t :: seen)⟩
      intro hm
      obtain ⟨e, he, heq⟩ := List.mem_map.mp hm
      obtain ⟨t', k', h1, h2, _⟩ := entriesFrom_ids h (t :: seen) e he
      rw [h1] at heq
      obtain ⟨rfl, rfl⟩ := C03.header_injective _ _ _ _ heq
      simp at h2
    | done x => simpa [entriesFrom] using ih seen

theorem headers_nodup (h : List Step) : (headers h).Nodup := entriesFrom_nodup h []

/-- the hypotheses of `replay_history` on the initial file, the names and the texts make the file
with all the history's entries `Good` -/
theorem good_history (es₀ : List Entry) (h : List Step) (hgood : Good es₀)
    (hfresh : ∀ id ∈ headers h, id ∉ fileLines es₀)
    (hnames : ∀ t ∈ calledNames h, NoNL t)
    (hbodies : ∀ s ∈ texts h, GoodBody s)
    (hns : ∀ s ∈ texts h, ∀ id ∈ ids es₀ ++ headers h, id ∉ lines s) :
    Good (es₀ ++ entriesOf h) := by
  have hid : ∀ e ∈ entriesOf h, e.id ∈ headers h := fun e he => List.mem_map.mpr ⟨e, he, rfl⟩
  have hbody : ∀ e ∈ entriesOf h, e.body ∈ texts h := fun e he => by
    rw [← texts_entriesFrom h []]; exact List.mem_map.mpr ⟨e, he, rfl⟩
  refine ⟨⟨?_, ?_⟩, ?_⟩
  · intro e he
    rcases List.mem_append.mp he with he | he
    · exact hgood.1.1 e he
    · obtain ⟨t, k, h1, _, h3⟩ := entriesFrom_ids h [] e he
      exact ⟨h1 ▸ goodId_testID t k (hnames t h3), hbodies _ (hbody e he)⟩
  · intro e he o ho
    rcases List.mem_append.mp he with he | he
    · rcases List.mem_append.mp ho with ho | ho
      · exact hgood.1.2 e he o ho
      · intro hm
        exact hfresh o.id (hid o ho) ((mem_fileLines _ _).mpr
          ⟨e, he, (mem_entryLines_iff _ _).mpr (Or.inr (Or.inr (Or.inl hm)))⟩)
    · apply hns _ (hbody e he)
      rcases List.mem_append.mp ho with ho | ho
      · exact List.mem_append.mpr (Or.inl (List.mem_map.mpr ⟨o, ho, rfl⟩))
      · exact List.mem_append.mpr (Or.inr (hid o ho))
  · simp only [ids, List.map_append]
    rw [List.nodup_append]
    refine ⟨hgood.2, headers_nodup h, ?_⟩
    intro a ha b hb hab
    subst hab
    exact hfresh a hb (ids_subset_fileLines es₀ a ha)

/-- the running counter of every name still to be called is the number of calls made so far, and
every pending cleanup belongs to a call made so far -/
structure Inv (p : Text) (w : World) (past : List (Text × Nat)) (h : List Step) : Prop where
  ord : ∀ t ∈ calledNames h, alGet w.running (p, t) = (past.map Prod.fst).count t
  pend : ∀ x k, (x, Pending.reg k) ∈ w.pending → ∃ t, k = (p, t) ∧ (t, x) ∈ past

theorem Inv.fresh (p : Text) (env : Env) (fs : FS) (h : List Step) :
    Inv p { env := env, fs := fs } [] h :=
  ⟨fun _ _ => rfl, fun _ _ hm => by simp at hm⟩

theorem Inv.call {p : Text} {w : World} {past : List (Text × Nat)} {h : List Step}
    {t s : Text} {cmp : Cmp} {x : Nat} (hi : Inv p w past (.call t s cmp x :: h))
    (c : Cfg) (caller : Text) (rel? : Option Text)
    (hsp : snapshotPath c caller t false = (p, rel?)) :
    Inv p (matchEntry w c caller t x cmp (.ok s)).1 ((t, x) :: past) h := by
  obtain ⟨h1, _, h3⟩ := matchEntry_regs w c caller t x cmp (.ok s)
  simp only [hsp] at h1 h3
  constructor
  · intro t' ht'
    rw [h1, List.map_cons]
    by_cases hcase : t' = t
    · subst hcase
      rw [regBump_running_same, hi.ord t' List.mem_cons_self, List.count_cons_self]
    · rw [regBump_running_other w _ _ fun e => hcase (Prod.mk.inj e).2,
        hi.ord t' (List.mem_cons_of_mem _ ht'), List.count_cons_of_ne (Ne.symm hcase)]
  · intro x' k hm
    rw [h3] at hm
    rcases List.mem_cons.mp hm with heq | hm
    · obtain ⟨rfl, hk⟩ := Prod.mk.inj heq
      exact ⟨t, Pending.reg.inj hk, List.mem_cons_self⟩
    · obtain ⟨t', hk, hp⟩ := hi.pend x' k hm
      exact ⟨t', hk, List.mem_cons_of_mem _ hp⟩

theorem Inv.done {p : Text} {w : World} {past : List (Text × Nat)} {h : List Step} {x : Nat}
    (hi : Inv p w past (.done x :: h)) (hs : ∀ q ∈ past, q.2 = x → q.1 ∉ calledNames h) :
    Inv p (endTest w x) past h := by
  constructor
  · intro t ht
    rw [endTest_running]
    split
    · rename_i hm
      obtain ⟨t', hk, hp⟩ := hi.pend x _ hm
      obtain ⟨_, rfl⟩ := Prod.mk.inj hk
      exact absurd ht (hs (t, x) hp rfl)
    · exact hi.ord t (by simpa [calledNames] using ht)
  · intro x' k hm
    rw [endTest_pending] at hm
    exact hi.pend x' k (List.mem_filter.mp hm).1

theorem record_run (c : Cfg) (caller p rel : Text)
    (hsp : ∀ t, snapshotPath c caller t false = (p, some rel)) (h : List Step) :
    ∀ (w : World) (past : List (Text × Nat)) (es : List Entry),
      Inv p w past h → Scoped past h → Holds w.fs p es →
      Good (es ++ entriesFrom (past.map Prod.fst) h) →
      shouldCreate w.env c.update = true →
      Holds (run c caller w h).1.fs p (es ++ entriesFrom (past.map Prod.fst) h) ∧
      (∀ o ∈ (run c caller w h).2, Added p o) ∧
      (∀ q, q ≠ p → fsRead (run c caller w h).1.fs q = fsRead w.fs q) ∧
      (run c caller w h).2.length = (calledNames h).length ∧
      (run c caller w h).1.env = w.env := by
  induction h with
  | nil =>
    intro w past es _ _ hfile _ _
    simp only [entriesFrom, List.append_nil]
    exact ⟨hfile, fun _ ho => (nomatch ho), fun _ _ => rfl, rfl, rfl⟩
  | cons st h ih =>
    intro w past es hi hs hfile hgood hc
    cases st with
    | call t s cmp x =>
      have hn : alGet w.running (p, t) = (past.map Prod.fst).count t :=
        hi.ord t List.mem_cons_self
      simp only [entriesFrom] at hgood ⊢
      rw [List.append_cons] at hgood ⊢
      have hm := (matchEntry_eq w c caller t x cmp s p rel (hsp t)).trans
        (entryTail_record_eq (bumped w p t x) c p rel _ s cmp es hfile
          (by rw [hn]; exact good_prefix hgood) hc)
      rw [hn] at hm
      have efs : (matchEntry w c caller t x cmp (.ok s)).1.fs = fsWrite w.fs p _ :=
        congrArg (·.1.fs) hm
      have eenv : (matchEntry w c caller t x cmp (.ok s)).1.env = w.env := congrArg (·.1.env) hm
      obtain ⟨r1, r2, r3, r4, r5⟩ := ih _ ((t, x) :: past) _ (hi.call c caller _ (hsp t)) hs
        (Or.inl (by rw [efs]; exact C19.fsRead_fsWrite_same _ _ _)) hgood (by rw [eenv]; exact hc)
      simp only [run, step, List.singleton_append]
      exact ⟨r1, List.forall_mem_cons.mpr ⟨by rw [hm]; exact ⟨rfl, rfl, rfl, rfl⟩, r2⟩,
        fun q hq => (r3 q hq).trans (by rw [efs]; exact C19.fsRead_fsWrite_other _ _ _ _ hq),
        congrArg Nat.succ r4, r5.trans eenv⟩
    | done x =>
      obtain ⟨r1, r2, r3, r4, r5⟩ := ih (endTest w x) past es (hi.done hs.1) hs.2
        (by rw [endTest_fs]; exact hfile) hgood (by rw [endTest_env]; exact hc)
      rw [endTest_fs] at r3
      exact ⟨r1, r2, r3, r4, r5.trans (endTest_env w x)⟩

/-- ANY mode: no hypothesis on `w.env` or `c.update` -/
theorem replay_run (c : Cfg) (caller p rel : Text)
    (hsp : ∀ t, snapshotPath c caller t false = (p, some rel)) (esAll : List Entry)
    (hgood : Good esAll) (h : List Step) :
    ∀ (w : World) (past : List (Text × Nat)),
      Inv p w past h → Scoped past h → Holds w.fs p esAll →
      (∀ e ∈ entriesFrom (past.map Prod.fst) h, e ∈ esAll) →
      (run c caller w h).1.fs = w.fs ∧
      (∀ o ∈ (run c caller w h).2, Silent o) ∧
      (run c caller w h).2.length = (calledNames h).length := by
  induction h with
  | nil => exact fun w past _ _ _ _ => ⟨rfl, fun _ ho => (nomatch ho), rfl⟩
  | cons st h ih =>
    intro w past hi hs hfile hall
    cases st with
    | call t s cmp x =>
      have hn : alGet w.running (p, t) = (past.map Prod.fst).count t :=
        hi.ord t List.mem_cons_self
      simp only [entriesFrom] at hall
      obtain ⟨hhead, hall'⟩ := List.forall_mem_cons.mp hall
      obtain ⟨e1, e2, e3, e4, e5, _⟩ := matchEntry_replay w c caller t x cmp s p rel esAll
        (hsp t) hfile hgood (by rw [hn]; exact hhead)
      obtain ⟨r1, r2, r3⟩ := ih (matchEntry w c caller t x cmp (.ok s)).1 ((t, x) :: past)
        (hi.call c caller _ (hsp t)) hs (by rw [e5]; exact hfile) hall'
      simp only [run, step, List.singleton_append]
      exact ⟨r1.trans e5, List.forall_mem_cons.mpr ⟨⟨e1, e2, e3, e4⟩, r2⟩, congrArg Nat.succ r3⟩
    | done x =>
      obtain ⟨r1, r2, r3⟩ := ih (endTest w x) past (hi.done hs.1) hs.2
        (by rw [endTest_fs]; exact hfile) hall
      exact ⟨r1.trans (endTest_fs w x), r2, r3⟩

/-- `p` is the snapshot file of the test file `caller` under config `c` (the path does not depend
on the test name: `snapshotPath_name_indep`); the replaying process may use any config `c'` /
caller `caller'` that addresses the same file.  For a `Scoped` history `h`, assume

* the initial file state at `p` is a `Good` entry list `es₀` (or the file does not exist),
* it contains none of the history's headers (on no line),
* test names have no newline, all texts are usable bodies (`GoodBody`: escaped, no line ends in
  "\r"), and no line of a text equals a header in play — of the initial file or of the history
  (NoShadow; known finding D9 otherwise),
* the record run is in a creating mode.

(The history's headers are pairwise distinct automatically: `headers_nodup`.)  Then

1. every call of the record run logs "added", writes `p` only, and the file ends as
   `render (es₀ ++ entriesOf h)`; no other path changes;
2. every call of the replay run — fresh registries, ANY environment and `Update` option —
   yields no event, no write, no removal;
3. the file system after the replay run EQUALS the one after the record run;
4. both runs made one output per call. -/
theorem replay_history (env env' : Env) (c c' : Cfg) (caller caller' p rel rel' : Text)
    (fs₀ : FS) (es₀ : List Entry) (h : List Step)
    (hsp : ∀ t, snapshotPath c caller t false = (p, some rel))
    (hsp' : ∀ t, snapshotPath c' caller' t false = (p, some rel'))
    (hscoped : Scoped [] h)
    (hfile : Holds fs₀ p es₀) (hgood : Good es₀)
    (hfresh : ∀ id ∈ headers h, id ∉ fileLines es₀)
    (hnames : ∀ t ∈ calledNames h, NoNL t)
    (hbodies : ∀ s ∈ texts h, GoodBody s)
    (hns : ∀ s ∈ texts h, ∀ id ∈ ids es₀ ++ headers h, id ∉ lines s)
    (hcreate : shouldCreate env c.update = true) :
    let rcd := recordRun env c caller fs₀ h
    let rep := replayRun env' c' caller' rcd.1 h
    (∀ o ∈ rcd.2, Added p o) ∧
    Holds rcd.1.fs p (es₀ ++ entriesOf h) ∧ Good (es₀ ++ entriesOf h) ∧
    (∀ q, q ≠ p → fsRead rcd.1.fs q = fsRead fs₀ q) ∧
    (∀ o ∈ rep.2, Silent o) ∧
    rep.1.fs = rcd.1.fs ∧
    rcd.2.length = (calledNames h).length ∧ rep.2.length = (calledNames h).length := by
  have hg : Good (es₀ ++ entriesOf h) := good_history es₀ h hgood hfresh hnames hbodies hns
  obtain ⟨r1, r2, r3, r4, _⟩ := record_run c caller p rel hsp h { env := env, fs := fs₀ } [] es₀
    (Inv.fresh p env fs₀ h) hscoped hfile hg hcreate
  obtain ⟨q1, q2, q3⟩ := replay_run c' caller' p rel' hsp' (es₀ ++ entriesOf h) hg h
    { env := env', fs := (recordRun env c caller fs₀ h).1.fs } [] (Inv.fresh p env' _ h) hscoped r1
    (fun e he => List.mem_append.mpr (Or.inr he))
  exact ⟨r2, r1, hg, r3, q2, q1, r4, q3⟩

/-- the snapshot file of a multi-entry call does not depend on the test name, so the path
hypotheses of `replay_history` need to be checked for one name only -/
theorem snapshotPath_name_indep (c : Cfg) (caller t t' : Text) :
    snapshotPath c caller t false = snapshotPath c caller t' false := by
  simp [snapshotPath, constructFilename]

theorem scoped_of_no_done (h : List Step) (hnd : ∀ x, Step.done x ∉ h) :
    ∀ past, Scoped past h := by
  induction h with
  | nil => intro _; trivial
  | cons st h ih =>
    intro past
    cases st with
    | call t s cmp x => exact ih (fun x hx => hnd x (List.mem_cons_of_mem _ hx)) _
    | done x => exact absurd List.mem_cons_self (hnd x)

theorem entriesOf_single (t : Text) (x : Nat) (calls : List (Text × Cmp)) :
    ∀ seen : List Text, ids (entriesFrom seen (calls.map fun sc => Step.call t sc.1 sc.2 x)) =
      (List.range' (seen.count t + 1) calls.length).map (testID t) := by
  induction calls with
  | nil => intro _; rfl
  | cons sc calls ih =>
    intro seen
    have := ih (t :: seen)
    rw [List.count_cons_self] at this
    rw [List.map_cons, entriesFrom, ids, List.map_cons, List.length_cons, List.range'_succ,
      List.map_cons]
    exact congrArg _ this

/-- a single test making `n` calls on one `testing.T`: the headers are `[t - 1]`, …, `[t - n]` -/
theorem headers_single (t : Text) (x : Nat) (calls : List (Text × Cmp)) :
    headers (calls.map fun sc => Step.call t sc.1 sc.2 x) =
      (List.range calls.length).map (fun i => testID t (i + 1)) := by
  rw [headers, entriesOf, entriesOf_single t x calls [], List.range'_eq_map_range, List.map_map]
  exact List.map_congr_left fun i _ => congrArg (testID t) (Nat.add_comm _ _)

example : headers ([([120], Cmp.raw), ([121], Cmp.escaped), ([122], Cmp.raw)].map
    fun sc => Step.call [84] sc.1 sc.2 7) = [testID [84] 1, testID [84] 2, testID [84] 3] := by
  decide +kernel

/-! ### a concrete history

Two tests "A" and "B" on the file of "/t/a_test.go": A records "x" and "x\n\ny", B (a parallel
test, interleaved) records "z" and "zz"; A's `testing.T` (number 1) finishes before B's last call. -/

def exCaller : Text := [47, 116, 47, 97, 95, 116, 101, 115, 116, 46, 103, 111]
def exPath : Text :=
  [47, 116, 47, 95, 95, 115, 110, 97, 112, 115, 104, 111, 116, 115, 95, 95, 47,
   97, 95, 116, 101, 115, 116, 46, 115, 110, 97, 112]
def exRel : Text :=
  [95, 95, 115, 110, 97, 112, 115, 104, 111, 116, 115, 95, 95, 47,
   97, 95, 116, 101, 115, 116, 46, 115, 110, 97, 112]
def exHistory : List Step :=
  [.call [65] [120] .escaped 1, .call [66] [122] .raw 2, .call [65] [120, 10, 10, 121] .escaped 1,
   .done 1, .call [66] [122, 122] .raw 2, .done 2]

example : snapshotPath {} exCaller [65] false = (exPath, some exRel) := by decide +kernel

example : entriesOf exHistory =
    [⟨testID [65] 1, [120]⟩, ⟨testID [66] 1, [122]⟩, ⟨testID [65] 2, [120, 10, 10, 121]⟩,
     ⟨testID [66] 2, [122, 122]⟩] := by decide +kernel

/-- the hypotheses of `replay_history` hold for the example (initial file absent) … -/
example : Scoped [] exHistory ∧ Holds [] exPath [] ∧ Good [] ∧
    (∀ id ∈ headers exHistory, id ∉ fileLines []) ∧ (∀ t ∈ calledNames exHistory, NoNL t) ∧
    (∀ s ∈ texts exHistory, GoodBody s) ∧
    (∀ s ∈ texts exHistory, ∀ id ∈ ids [] ++ headers exHistory, id ∉ lines s) ∧
    shouldCreate ⟨false, ""⟩ ({} : Cfg).update = true :=
  ⟨by decide +kernel, Or.inr ⟨rfl, rfl⟩, by decide, by decide +kernel, by decide +kernel,
   by decide +kernel, by decide +kernel, by decide⟩

theorem exPath_spec (t : Text) : snapshotPath {} exCaller t false = (exPath, some exRel) := by
  rw [snapshotPath_name_indep {} exCaller t [65]]; decide +kernel

/-- … so the theorem applies (replay on CI with UPDATE_SNAPS=true) … -/
example := replay_history ⟨false, ""⟩ ⟨true, "true"⟩ {} {} exCaller exCaller exPath exRel exRel
  [] [] exHistory exPath_spec exPath_spec (by decide +kernel) (Or.inr ⟨rfl, rfl⟩) (by decide)
  (by decide +kernel) (by decide +kernel) (by decide +kernel) (by decide +kernel) (by decide)

/-- … and this is what the two runs do, by evaluation -/
example :
    let rcd := recordRun ⟨false, ""⟩ {} exCaller [] exHistory
    let rep := replayRun ⟨true, "true"⟩ {} exCaller rcd.1 exHistory
    rcd.2.map (·.events) = List.replicate 4 [.log Generated.go_addedMsg] ∧
    fsRead rcd.1.fs exPath = some (render (entriesOf exHistory)) ∧
    rep.2.map (·.events) = List.replicate 4 [] ∧ rep.2.map (·.writes) = List.replicate 4 [] ∧
    rep.1.fs = rcd.1.fs := by decide +kernel

/-- `Scoped` is needed: a name that runs again after its `testing.T` is done restarts at
ordinal 1, so the "record" run compares "y" with the recorded "x" instead of recording -/
example :
    let h : List Step := [.call [65] [120] .raw 1, .done 1, .call [65] [121] .raw 2]
    ¬ Scoped [] h ∧
    (recordRun ⟨false, ""⟩ {} exCaller [] h).2.map (·.writes) = [[exPath], []] ∧
    (recordRun ⟨false, ""⟩ {} exCaller [] h).1.events = { added := 1, erred := 1 } := by
  decide +kernel

/-- the NoShadow hypothesis `hns` is needed (known finding D9): test A records the text
"[B - 1]"; B's first call then finds that LINE, takes it for its header and compares instead of
recording -/
example :
    let h : List Step := [.call [65] (testID [66] 1) .raw 1, .call [66] [122] .raw 2]
    Scoped [] h ∧ (∀ s ∈ texts h, GoodBody s) ∧
    ¬ (∀ s ∈ texts h, ∀ id ∈ ids [] ++ headers h, id ∉ lines s) ∧
    (recordRun ⟨false, ""⟩ {} exCaller [] h).2.map (·.writes) = [[exPath], []] ∧
    (recordRun ⟨false, ""⟩ {} exCaller [] h).1.events = { added := 1, erred := 1 } := by
  decide +kernel

/-! ## standalone snapshots: histories

`MatchStandaloneSnapshot` keeps one FILE per call: test `t` has the generic path `G t`
(".../t_%d.snap", `snapshotPath … true`), its `n`-th call uses the numbered path
`P (G t) n = Sprintf(G t, n)`; the registry counts per generic path.  The two facts about
`fmt.Sprintf` on the generic paths in play — it succeeds (`SPaths`), and different (generic,
ordinal) pairs give different paths (`PInj`) — are hypotheses, checked by evaluation on the
example.  (`snapshotPath` doubles every "%" of the directory and the test name, so that such
names stand for themselves in the format.) -/

inductive SStep
  | call (tName text : Text) (texec : Nat)
  | done (texec : Nat)
deriving DecidableEq, Repr

def sstep (c : Cfg) (caller : Text) (w : World) : SStep → World × List Out
  | .call t s x =>
    ((matchStandalone w c caller t x (.ok s)).1, [(matchStandalone w c caller t x (.ok s)).2])
  | .done x => (endTest w x, [])

def srun (c : Cfg) (caller : Text) : World → List SStep → World × List Out
  | w, [] => (w, [])
  | w, st :: h =>
    ((srun c caller (sstep c caller w st).1 h).1,
     (sstep c caller w st).2 ++ (srun c caller (sstep c caller w st).1 h).2)

def scalledNames : List SStep → List Text
  | [] => []
  | .call t _ _ :: h => t :: scalledNames h
  | .done _ :: h => scalledNames h

/-- the (path, contents) pairs a standalone history records; `seen` = generic paths of the calls
made before it -/
def filesFrom (G : Text → Text) (P : Text → Nat → Text) : List Text → List SStep → List (Text × Text)
  | _, [] => []
  | seen, .call t s _ :: h =>
    (P (G t) (seen.count (G t) + 1), s) :: filesFrom G P (G t :: seen) h
  | seen, .done _ :: h => filesFrom G P seen h

/-- `past` = (generic path, `testing.T`) of the calls made so far; when a `testing.T` is done, no
later call uses a generic path it used -/
def SScoped (G : Text → Text) : List (Text × Nat) → List SStep → Prop
  | _, [] => True
  | past, .call t _ x :: h => SScoped G ((G t, x) :: past) h
  | past, .done x :: h =>
    (∀ q ∈ past, q.2 = x → ∀ t ∈ scalledNames h, G t ≠ q.1) ∧ SScoped G past h

instance decSScoped (G : Text → Text) :
    ∀ (past : List (Text × Nat)) (h : List SStep), Decidable (SScoped G past h)
  | _, [] => isTrue trivial
  | past, .call t _ x :: h => decSScoped G ((G t, x) :: past) h
  | past, .done x :: h =>
    have := decSScoped G past h
    inferInstanceAs (Decidable
      ((∀ q ∈ past, q.2 = x → ∀ t ∈ scalledNames h, G t ≠ q.1) ∧ SScoped G past h))

/-- what is assumed about paths: `snapshotPath` and `Sprintf` succeed on the names in play -/
structure SPaths (c : Cfg) (caller : Text) (G : Text → Text) (P : Text → Nat → Text)
    (names : List Text) : Prop where
  generic : ∀ t ∈ names, ∃ grel, snapshotPath c caller t true = (G t, some grel) ∧
    ∀ n, ∃ rel, sprintf grel [.d n] = some rel
  numbered : ∀ t ∈ names, ∀ n, sprintf (G t) [.d n] = some (P (G t) n)

/-- numbered paths determine (generic path, ordinal) -/
def PInj (G : Text → Text) (P : Text → Nat → Text) (names : List Text) : Prop :=
  ∀ t ∈ names, ∀ t' ∈ names, ∀ n n', P (G t) n = P (G t') n' → G t = G t' ∧ n = n'

theorem filesFrom_paths (G : Text → Text) (P : Text → Nat → Text) (h : List SStep) :
    ∀ seen, ∀ f ∈ filesFrom G P seen h,
      ∃ t k, f.1 = P (G t) k ∧ seen.count (G t) < k ∧ t ∈ scalledNames h := by
  induction h with
  | nil => exact fun _ _ hf => nomatch hf
  | cons st h ih =>
    intro seen f hf
    cases st with
    | call t s x =>
      rcases List.mem_cons.mp hf with rfl | hf
      · exact ⟨t, _, rfl, Nat.lt_succ_self _, List.mem_cons_self⟩
      · obtain ⟨t', k', h1, h2, h3⟩ := ih (G t :: seen) f hf
        exact ⟨t', k', h1, Nat.lt_of_le_of_lt List.count_le_count_cons h2,
          List.mem_cons_of_mem _ h3⟩
    | done x => exact ih seen f hf

/-- the path of a call differs from the paths of all later calls -/
theorem filesFrom_head_ne (G : Text → Text) (P : Text → Nat → Text) (names : List Text)
    (hinj : PInj G P names) (t : Text) (ht : t ∈ names) (seen : List Text) (h : List SStep)
    (hsub : ∀ t' ∈ scalledNames h, t' ∈ names) :
    ∀ f ∈ filesFrom G P (G t :: seen) h, f.1 ≠ P (G t) (seen.count (G t) + 1) := by
  intro f hf heq
  obtain ⟨t', k', h1, h2, h3⟩ := filesFrom_paths G P h (G t :: seen) f hf
  rw [h1] at heq
  obtain ⟨hg, hk⟩ := hinj t' (hsub t' h3) t ht _ _ heq
  rw [hg, hk] at h2
  simp at h2

structure SInv (G : Text → Text) (w : World) (past : List (Text × Nat)) (h : List SStep) : Prop where
  ord : ∀ t ∈ scalledNames h, alGet w.srunning (G t) = (past.map Prod.fst).count (G t)
  pend : ∀ x g, (x, Pending.sreg g) ∈ w.pending → (g, x) ∈ past

theorem SInv.fresh (G : Text → Text) (env : Env) (fs : FS) (h : List SStep) :
    SInv G { env := env, fs := fs } [] h :=
  ⟨fun _ _ => rfl, fun _ _ hm => by simp at hm⟩

theorem SInv.done {G : Text → Text} {w : World} {past : List (Text × Nat)} {h : List SStep}
    {x : Nat} (hi : SInv G w past (.done x :: h))
    (hs : ∀ q ∈ past, q.2 = x → ∀ t ∈ scalledNames h, G t ≠ q.1) :
    SInv G (endTest w x) past h := by
  constructor
  · intro t ht
    rw [endTest_srunning]
    split
    · rename_i hm
      exact absurd rfl (hs (G t, x) (hi.pend x _ hm) rfl t ht)
    · exact hi.ord t (by simpa [scalledNames] using ht)
  · intro x' g hm
    rw [endTest_pending] at hm
    exact hi.pend x' g (List.mem_filter.mp hm).1

/-- the `n`-th call of a test with generic path `G t` keeps the invariant and is
`standaloneTail` at the numbered path `P (G t) n`, `n - 1` being the running counter -/
theorem SInv.step {c : Cfg} {caller : Text} {G : Text → Text} {P : Text → Nat → Text}
    {names : List Text} (hpaths : SPaths c caller G P names) {w : World}
    {past : List (Text × Nat)} {h : List SStep} {t s : Text} {x : Nat}
    (hi : SInv G w past (.call t s x :: h)) (ht : t ∈ names) :
    SInv G (matchStandalone w c caller t x (.ok s)).1 ((G t, x) :: past) h ∧
    ∃ rel, matchStandalone w c caller t x (.ok s) =
      standaloneTail (sbumped w (G t) x) c (P (G t) ((past.map Prod.fst).count (G t) + 1)) rel s := by
  obtain ⟨grel, hsp, hrel⟩ := hpaths.generic t ht
  obtain ⟨rel, hrel⟩ := hrel (alGet w.srunning (G t) + 1)
  obtain ⟨h1, _, h3⟩ := matchStandalone_regs w c caller t x (.ok s)
  simp only [hsp] at h1 h3
  refine ⟨⟨fun t' ht' => ?_, fun x' g hm => ?_⟩, rel, ?_⟩
  · rw [h1, List.map_cons]
    show alGet (alSet w.srunning (G t) (alGet w.srunning (G t) + 1)) (G t') = _
    by_cases hcase : G t' = G t
    · rw [hcase, alGet_alSet_same, hi.ord t List.mem_cons_self, List.count_cons_self]
    · rw [alGet_alSet_other _ _ _ _ hcase, hi.ord t' (List.mem_cons_of_mem _ ht'),
        List.count_cons_of_ne (Ne.symm hcase)]
  · rw [h3] at hm
    rcases List.mem_cons.mp hm with heq | hm
    · obtain ⟨rfl, hk⟩ := Prod.mk.inj heq
      exact Pending.sreg.inj hk ▸ List.mem_cons_self
    · exact List.mem_cons_of_mem _ (hi.pend x' g hm)
  · rw [← hi.ord t List.mem_cons_self]
    exact matchStandalone_eq w c caller t x s (G t) grel _ rel hsp (hpaths.numbered t ht _) hrel

theorem srecord_run (c : Cfg) (caller : Text) (G : Text → Text) (P : Text → Nat → Text)
    (names : List Text) (hpaths : SPaths c caller G P names) (hinj : PInj G P names)
    (h : List SStep) :
    ∀ (w : World) (past : List (Text × Nat)),
      (∀ t ∈ scalledNames h, t ∈ names) →
      SInv G w past h → SScoped G past h →
      (∀ f ∈ filesFrom G P (past.map Prod.fst) h, fsRead w.fs f.1 = none) →
      shouldCreate w.env c.update = true →
      (∀ f ∈ filesFrom G P (past.map Prod.fst) h, fsRead (srun c caller w h).1.fs f.1 = some f.2) ∧
      (∀ q, (∀ f ∈ filesFrom G P (past.map Prod.fst) h, f.1 ≠ q) →
        fsRead (srun c caller w h).1.fs q = fsRead w.fs q) ∧
      (srun c caller w h).2.map (·.events) =
        (filesFrom G P (past.map Prod.fst) h).map (fun _ => [.log Generated.go_addedMsg]) ∧
      (srun c caller w h).2.map (·.writes) =
        (filesFrom G P (past.map Prod.fst) h).map (fun f => [f.1]) ∧
      (srun c caller w h).1.env = w.env := by
  induction h with
  | nil => exact fun w past _ _ _ _ _ => ⟨fun _ hf => (nomatch hf), fun _ _ => rfl, rfl, rfl, rfl⟩
  | cons st h ih =>
    intro w past hsub hi hs hnone hc
    cases st with
    | call t s x =>
      have hsub' : ∀ t' ∈ scalledNames h, t' ∈ names := fun t' ht' =>
        hsub t' (List.mem_cons_of_mem _ ht')
      have ht : t ∈ names := hsub t List.mem_cons_self
      obtain ⟨hi', rel, hm⟩ := hi.step hpaths ht
      simp only [filesFrom] at hnone ⊢
      obtain ⟨hhead, hnone'⟩ := List.forall_mem_cons.mp hnone
      have hne := filesFrom_head_ne G P names hinj t ht (past.map Prod.fst) h hsub'
      rw [standaloneTail_create_eq (sbumped w (G t) x) c _ rel s hhead hc] at hm
      have efs : (matchStandalone w c caller t x (.ok s)).1.fs = fsWrite w.fs _ s :=
        congrArg (·.1.fs) hm
      have eenv : (matchStandalone w c caller t x (.ok s)).1.env = w.env := congrArg (·.1.env) hm
      obtain ⟨r1, r2, r3, r4, r5⟩ := ih _ _ hsub' hi' hs
        (fun f hf => by
          rw [efs, C19.fsRead_fsWrite_other _ _ _ _ (hne f hf)]; exact hnone' f hf)
        (by rw [eenv]; exact hc)
      simp only [srun, sstep, List.singleton_append, List.map_cons]
      refine ⟨List.forall_mem_cons.mpr ⟨?_, r1⟩, fun q hq => ?_,
        congr (congrArg List.cons (congrArg (·.2.events) hm)) r3,
        congr (congrArg List.cons (congrArg (·.2.writes) hm)) r4, r5.trans eenv⟩
      · rw [r2 _ hne, efs]; exact C19.fsRead_fsWrite_same _ _ _
      · obtain ⟨hq1, hq2⟩ := List.forall_mem_cons.mp hq
        rw [r2 q hq2, efs]; exact C19.fsRead_fsWrite_other _ _ _ _ (Ne.symm hq1)
    | done x =>
      obtain ⟨r1, r2, r3, r4, r5⟩ := ih (endTest w x) past
        (fun t' ht' => hsub t' ht') (hi.done hs.1) hs.2
        (by rw [endTest_fs]; exact hnone) (by rw [endTest_env]; exact hc)
      rw [endTest_fs] at r2
      exact ⟨r1, r2, r3, r4, r5.trans (endTest_env w x)⟩

theorem sreplay_run (c : Cfg) (caller : Text) (G : Text → Text) (P : Text → Nat → Text)
    (names : List Text) (hpaths : SPaths c caller G P names) (h : List SStep) :
    ∀ (w : World) (past : List (Text × Nat)),
      (∀ t ∈ scalledNames h, t ∈ names) →
      SInv G w past h → SScoped G past h →
      (∀ f ∈ filesFrom G P (past.map Prod.fst) h, fsRead w.fs f.1 = some f.2) →
      (srun c caller w h).1.fs = w.fs ∧
      (∀ o ∈ (srun c caller w h).2, Silent o) ∧
      (srun c caller w h).2.length = (scalledNames h).length := by
  induction h with
  | nil => exact fun w past _ _ _ _ => ⟨rfl, fun _ ho => (nomatch ho), rfl⟩
  | cons st h ih =>
    intro w past hsub hi hs hall
    cases st with
    | call t s x =>
      obtain ⟨hi', rel, hm⟩ := hi.step hpaths (hsub t List.mem_cons_self)
      simp only [filesFrom] at hall
      obtain ⟨hhead, hall'⟩ := List.forall_mem_cons.mp hall
      rw [standaloneTail_replay_eq (sbumped w (G t) x) c _ rel s hhead] at hm
      have efs : (matchStandalone w c caller t x (.ok s)).1.fs = w.fs := congrArg (·.1.fs) hm
      obtain ⟨r1, r2, r3⟩ := ih _ _ (fun t' ht' => hsub t' (List.mem_cons_of_mem _ ht')) hi' hs
        (fun f hf => by rw [efs]; exact hall' f hf)
      simp only [srun, sstep, List.singleton_append]
      exact ⟨r1.trans efs, List.forall_mem_cons.mpr ⟨by rw [hm]; exact ⟨rfl, rfl, rfl, rfl⟩, r2⟩,
        congrArg Nat.succ r3⟩
    | done x =>
      obtain ⟨r1, r2, r3⟩ := ih (endTest w x) past hsub (hi.done hs.1) hs.2
        (by rw [endTest_fs]; exact hall)
      exact ⟨r1.trans (endTest_fs w x), r2, r3⟩

/-- The standalone counterpart of `replay_history`.  The texts are ARBITRARY bytes (each file
holds exactly its text, nothing is parsed), so there is no hypothesis on them; the replay is in
ANY mode and under any config `c'` addressing the same paths. -/
theorem standalone_replay_history (env env' : Env) (c c' : Cfg) (caller caller' : Text)
    (G : Text → Text) (P : Text → Nat → Text) (fs₀ : FS) (h : List SStep) (names : List Text)
    (hsub : ∀ t ∈ scalledNames h, t ∈ names)
    (hpaths : SPaths c caller G P names)
    (hpaths' : SPaths c' caller' G P names)
    (hinj : PInj G P names)
    (hscoped : SScoped G [] h)
    (habsent : ∀ f ∈ filesFrom G P [] h, fsRead fs₀ f.1 = none)
    (hcreate : shouldCreate env c.update = true) :
    let rcd := srun c caller { env := env, fs := fs₀ } h
    let rep := srun c' caller' { env := env', fs := rcd.1.fs } h
    rcd.2.map (·.events) = (filesFrom G P [] h).map (fun _ => [.log Generated.go_addedMsg]) ∧
    rcd.2.map (·.writes) = (filesFrom G P [] h).map (fun f => [f.1]) ∧
    (∀ f ∈ filesFrom G P [] h, fsRead rcd.1.fs f.1 = some f.2) ∧
    (∀ q, (∀ f ∈ filesFrom G P [] h, f.1 ≠ q) → fsRead rcd.1.fs q = fsRead fs₀ q) ∧
    (∀ o ∈ rep.2, Silent o) ∧ rep.2.length = (scalledNames h).length ∧
    rep.1.fs = rcd.1.fs := by
  obtain ⟨r1, r2, r3, r4, _⟩ := srecord_run c caller G P _ hpaths hinj h { env := env, fs := fs₀ } []
    hsub (SInv.fresh G env fs₀ h) hscoped habsent hcreate
  obtain ⟨q1, q2, q3⟩ := sreplay_run c' caller' G P _ hpaths' h
    { env := env', fs := (srun c caller { env := env, fs := fs₀ } h).1.fs } []
    hsub (SInv.fresh G env' _ h) hscoped r1
  exact ⟨r3, r4, r1, r2, q2, q3, q1⟩

/-- test "A" of "/t/a_test.go" makes two standalone calls ("x\r\n---" and ""), then is done:
files "/t/__snapshots__/A_1.snap" and "…/A_2.snap" -/
example :
    let h : List SStep := [.call [65] [120, 13, 10, 45, 45, 45] 1, .call [65] [] 1, .done 1]
    let rcd := srun {} exCaller { env := ⟨false, ""⟩, fs := [] } h
    let rep := srun {} exCaller { env := ⟨true, "true"⟩, fs := rcd.1.fs } h
    let d : Text := [47, 116, 47, 95, 95, 115, 110, 97, 112, 115, 104, 111, 116, 115, 95, 95, 47]
    rcd.2.map (·.writes) = [[d ++ [65, 95, 49, 46, 115, 110, 97, 112]],
                             [d ++ [65, 95, 50, 46, 115, 110, 97, 112]]] ∧
    rcd.1.fs = [(d ++ [65, 95, 49, 46, 115, 110, 97, 112], [120, 13, 10, 45, 45, 45]),
                (d ++ [65, 95, 50, 46, 115, 110, 97, 112], [])] ∧
    rep.2.map (·.events) = [[], []] ∧ rep.2.map (·.writes) = [[], []] ∧ rep.1.fs = rcd.1.fs := by
  decide +kernel

/-- "/t/__snapshots__/" -/
def exDir : Text := [47, 116, 47, 95, 95, 115, 110, 97, 112, 115, 104, 111, 116, 115, 95, 95, 47]
def exG : Text := exDir ++ [65, 95, 37, 100, 46, 115, 110, 97, 112]
def exP (n : Nat) : Text := exDir ++ [65, 95] ++ natToText n ++ [46, 115, 110, 97, 112]

theorem sprintf_lit_d_lit (f a b : Text) (n : Nat)
    (hp : parseFmt f = some [.lit a, .verb 100, .lit b]) :
    sprintf f [.d n] = some (a ++ natToText n ++ b) := by
  rw [sprintf, hp, List.append_assoc]
  show some (a ++ (natToText n ++ (b ++ []))) = _
  rw [List.append_nil]

/-- the path hypotheses of `standalone_replay_history` hold for test "A" of "/t/a_test.go":
generic path "/t/__snapshots__/A_%d.snap", numbered paths "/t/__snapshots__/A_<n>.snap" -/
theorem exStandalone_paths :
    SPaths {} exCaller (fun _ => exG) (fun _ n => exP n) [[65]] ∧
    PInj (fun _ => exG) (fun _ n => exP n) [[65]] := by
  refine ⟨⟨?_, ?_⟩, ?_⟩
  · intro t ht
    rw [List.mem_singleton.mp ht]
    exact ⟨exG.drop 3, by decide +kernel, fun n => ⟨_, sprintf_lit_d_lit _ (exDir.drop 3 ++ [65, 95])
      [46, 115, 110, 97, 112] n (by decide +kernel)⟩⟩
  · intro t _ n
    rw [sprintf_lit_d_lit exG (exDir ++ [65, 95]) [46, 115, 110, 97, 112] n (by decide +kernel)]
    rfl
  · intro t _ t' _ n n' heq
    refine ⟨rfl, ?_⟩
    simp only [exP, List.append_assoc, List.append_cancel_left_eq] at heq
    exact C03.natToText_injective n n' (List.append_cancel_right heq)

example := standalone_replay_history ⟨false, ""⟩ ⟨true, "true"⟩ {} {} exCaller exCaller
  (fun _ => exG) (fun _ n => exP n) []
  [.call [65] [120, 13, 10, 45, 45, 45] 1, .call [65] [] 1, .done 1] [[65]]
  (by decide) exStandalone_paths.1 exStandalone_paths.1 exStandalone_paths.2
  (by decide +kernel) (by intro f _; rfl) (by decide)

example :
    let h : List SStep := [.call [65] [120, 13, 10, 45, 45, 45] 1, .call [65] [] 1, .done 1]
    SScoped (fun _ => exG) [] h ∧
    filesFrom (fun _ => exG) (fun _ n => exP n) [] h =
      [(exP 1, [120, 13, 10, 45, 45, 45]), (exP 2, [])] := by
  decide +kernel

end GoSnaps.C01World
