/-
C20 (summary) — the summary printed by `Clean` shows exactly the totals and lists exactly the
obsolete items.

About `summary obsFiles obsTests nSkipped ev anyEvent update`, `printEvent`, `objectList`
(Clean.lean; `snaps/clean.go: summary, printEvent`, colours off).  The text is

    "\nSnapshot Summary\n\n"
    "✓ <passed> snapshot(s) passed\n"      -- each of the five lines only if its number is non-zero
    "✕ <erred> snapshot(s) failed\n"
    "✎ <added> snapshot(s) added\n"
    "✎ <updated> snapshot(s) updated\n"
    "⟳ <nSkipped> snapshot(s) skipped\n"
    "\n› <k> snapshot file(s) obsolete|removed\n" then "  ↳ • <path>\n" per obsolete file   (if any)
    "\n› <k> snapshot test(s) obsolete|removed\n" then "  ↳ • <id>\n" per obsolete test     (if any)
    "\nTo remove it|them, re-run tests with `UPDATE_SNAPS=clean go test ./...`\n"             (report mode only)

NB the item line is `"  " ++ "↳ " ++ " " ++ "• " ++ x ++ "\n"` — two blanks between `↳` and `•`
(`fmt.Sprintf("  %s %s%s\n", enterSymbol, bulletSymbol, object)` with `enterSymbol = "↳ "`).

Byte legend: 10 '\n', 32 ' ', 48..57 digits, 115 's'; ✓ = 226 156 147, ✕ = 226 156 149,
✎ = 226 156 142, ⟳ = 226 159 179, › = 226 128 186, ↳ = 226 134 179, • = 226 128 162.
-/
import GoSnaps.Lemmas.CleanTop
import GoSnaps.Props.C03
import GoSnaps.Props.C20
import GoSnaps.Props.C05Clean
namespace GoSnaps.C20Summary

open GoSnaps Generated

theorem lit_sp : ofString " " = [32] := by decide +kernel
theorem lit_s : ofString "s" = [115] := by decide +kernel
theorem lit_two : ofString "  " = [32, 32] := by decide +kernel
theorem lit_snapshot : ofString "snapshot" = [115, 110, 97, 112, 115, 104, 111, 116] := by
  decide +kernel
theorem lit_snapshot_sp : ofString " snapshot " = [32, 115, 110, 97, 112, 115, 104, 111, 116, 32] := by
  decide +kernel
theorem lit_passed : ofString "passed" = [112, 97, 115, 115, 101, 100] := by decide +kernel
theorem lit_failed : ofString "failed" = [102, 97, 105, 108, 101, 100] := by decide +kernel
theorem lit_added : ofString "added" = [97, 100, 100, 101, 100] := by decide +kernel
theorem lit_updated : ofString "updated" = [117, 112, 100, 97, 116, 101, 100] := by
  decide +kernel
theorem lit_skipped : ofString "skipped" = [115, 107, 105, 112, 112, 101, 100] := by
  decide +kernel
theorem lit_removed : ofString "removed" = [114, 101, 109, 111, 118, 101, 100] := by
  decide +kernel
theorem lit_obsolete : ofString "obsolete" = [111, 98, 115, 111, 108, 101, 116, 101] := by
  decide +kernel
theorem lit_file : ofString "file" = [102, 105, 108, 101] := by decide +kernel
theorem lit_test : ofString "test" = [116, 101, 115, 116] := by decide +kernel
theorem lit_title : ofString "Snapshot Summary" =
    [83, 110, 97, 112, 115, 104, 111, 116, 32, 83, 117, 109, 109, 97, 114, 121] := by
  decide +kernel
theorem lit_toRemove : ofString "To remove " = [84, 111, 32, 114, 101, 109, 111, 118, 101, 32] := by
  decide +kernel
theorem lit_them : ofString "them" = [116, 104, 101, 109] := by decide +kernel
theorem lit_it : ofString "it" = [105, 116] := by decide +kernel
theorem lit_rerun : ofString ", re-run tests with `UPDATE_SNAPS=clean go test ./...`" =
    [44, 32, 114, 101, 45, 114, 117, 110, 32, 116, 101, 115, 116, 115, 32, 119, 105, 116, 104, 32, 96,
     85, 80, 68, 65, 84, 69, 95, 83, 78, 65, 80, 83, 61, 99, 108, 101, 97, 110, 32, 103, 111, 32, 116,
     101, 115, 116, 32, 46, 47, 46, 46, 46, 96] := by
  decide +kernel

/-- `"\nSnapshot Summary\n\n"` -/
def header : Text := [nl] ++ ofString "Snapshot Summary" ++ [nl, nl]

/-- `sym ++ "<n> snapshot" ++ ("s" if n > 1) ++ " " ++ verb ++ "\n"` — one counter line -/
def counterLine (sym verb : Text) (n : Nat) : Text :=
  sym ++ natToText n ++ ofString " " ++ ofString "snapshot" ++ (if n > 1 then ofString "s" else []) ++
    ofString " " ++ verb ++ [nl]

/-- `"  ↳  • " ++ x ++ "\n"` — the line of one obsolete item -/
def itemLine (x : Text) : Text :=
  ofString "  " ++ go_enterSymbol ++ ofString " " ++ go_bulletSymbol ++ x ++ [nl]

/-- `"removed"` when deleting, else `"obsolete"` -/
def actionWord (update : Bool) : Text := if update then ofString "removed" else ofString "obsolete"

/-- `"\n› <k> snapshot <name>" ++ ("s" if k > 1) ++ " removed|obsolete\n"` -/
def blockHeader (k : Nat) (name : Text) (update : Bool) : Text :=
  [nl] ++ go_arrowSymbol ++ natToText k ++ ofString " snapshot " ++ name ++
    (if k > 1 then ofString "s" else []) ++ ofString " " ++ actionWord update ++ [nl]

/-- the block of one kind of obsolete items: nothing if there is none, else the header with the
    count followed by one line per item, in order -/
def block (xs : List Text) (name : Text) (update : Bool) : Text :=
  if xs = [] then [] else blockHeader xs.length name update ++ (xs.map itemLine).flatten

/-- the last line, in report mode with at least one obsolete item -/
def hint (k : Nat) (update : Bool) : Text :=
  if update = false ∧ k > 0 then
    [nl] ++ ofString "To remove " ++ (if k > 1 then ofString "them" else ofString "it") ++
      ofString ", re-run tests with `UPDATE_SNAPS=clean go test ./...`" ++ [nl]
  else []

theorem counterLine_bytes (sym verb : Text) (n : Nat) :
    counterLine sym verb n = sym ++ (natToText n ++ 32 ::
      ([115, 110, 97, 112, 115, 104, 111, 116] ++ ((if n > 1 then [115] else []) ++ 32 :: (verb ++ [10])))) := by
  unfold counterLine
  rw [lit_sp, lit_snapshot, lit_s]
  simp [nl]

theorem itemLine_bytes (x : Text) :
    itemLine x = [32, 32, 226, 134, 179, 32, 32, 226, 128, 162, 32] ++ (x ++ [10]) := by
  unfold itemLine
  rw [lit_two, lit_sp]
  simp [nl, go_enterSymbol, go_bulletSymbol]

theorem actionWord_bytes (update : Bool) :
    actionWord update = if update then [114, 101, 109, 111, 118, 101, 100]
      else [111, 98, 115, 111, 108, 101, 116, 101] := by
  unfold actionWord; rw [lit_removed, lit_obsolete]

theorem blockHeader_bytes (k : Nat) (name : Text) (update : Bool) :
    blockHeader k name update = [10, 226, 128, 186, 32] ++ (natToText k ++ 32 ::
      ([115, 110, 97, 112, 115, 104, 111, 116, 32] ++ (name ++ ((if k > 1 then [115] else []) ++
        32 :: (actionWord update ++ [10]))))) := by
  unfold blockHeader
  rw [lit_snapshot_sp, lit_sp, lit_s]
  simp [nl, go_arrowSymbol]

/-! ## `printEvent` -/

theorem printEvent_spec (sym verb : Text) (n : Nat) :
    printEvent sym verb n = if n = 0 then [] else counterLine sym verb n := by
  unfold printEvent counterLine plural
  by_cases h0 : n = 0
  · simp [h0]
  · by_cases h1 : n > 1 <;> simp [h0, h1]

theorem counterLine_ne_nil (sym verb : Text) (n : Nat) : counterLine sym verb n ≠ [] := by
  unfold counterLine; simp

theorem printEvent_eq_nil_iff (sym verb : Text) (n : Nat) : printEvent sym verb n = [] ↔ n = 0 := by
  rw [printEvent_spec]
  by_cases h : n = 0
  · simp [h]
  · simp [h, counterLine_ne_nil]

/-- `"✓ 3 snapshots passed\n"`, `"✕ 1 snapshot failed\n"`, and nothing for zero -/
example :
    printEvent go_successSymbol (ofString "passed") 3 =
      [226, 156, 147, 32, 51, 32, 115, 110, 97, 112, 115, 104, 111, 116, 115, 32, 112, 97, 115, 115, 101, 100, 10] ∧
    printEvent go_errorSymbol (ofString "failed") 1 =
      [226, 156, 149, 32, 49, 32, 115, 110, 97, 112, 115, 104, 111, 116, 32, 102, 97, 105, 108, 101, 100, 10] ∧
    printEvent go_skipSymbol (ofString "skipped") 0 = [] := by
  simp only [printEvent_spec, counterLine_bytes, lit_passed, lit_failed]
  decide

/-- if `a`, `b` consist of `P`-bytes and `x`, `y` are not, then `a ++ x :: r = b ++ y :: r'` splits
    uniquely -/
theorem append_sep {α : Type} (P : α → Prop) (a b : List α) (x y : α) (r r' : List α)
    (ha : ∀ c ∈ a, P c) (hb : ∀ c ∈ b, P c) (hx : ¬ P x) (hy : ¬ P y)
    (h : a ++ x :: r = b ++ y :: r') : a = b ∧ x = y ∧ r = r' := by
  induction a generalizing b with
  | nil =>
    cases b with
    | nil => simp only [List.nil_append, List.cons.injEq] at h; exact ⟨rfl, h.1, h.2⟩
    | cons c b' =>
      simp only [List.nil_append, List.cons_append, List.cons.injEq] at h
      exact absurd (h.1 ▸ hb c (by simp)) hx
  | cons c a' ih =>
    cases b with
    | nil =>
      simp only [List.nil_append, List.cons_append, List.cons.injEq] at h
      exact absurd (h.1 ▸ ha c (by simp)) hy
    | cons d b' =>
      simp only [List.cons_append, List.cons.injEq] at h
      obtain ⟨h1, h2, h3⟩ := ih b' (fun c hc => ha c (by simp [hc])) (fun c hc => hb c (by simp [hc])) h.2
      exact ⟨by rw [h.1, h1], h2, h3⟩

private theorem not_digit_32 : ¬ IsDigit 32 := by unfold IsDigit; decide

theorem natToText_sep (n m : Nat) (r r' : Text) (h : natToText n ++ 32 :: r = natToText m ++ 32 :: r') :
    n = m ∧ r = r' := by
  obtain ⟨h1, _, h3⟩ := append_sep IsDigit _ _ _ _ _ _ (C03.natToText_digits n) (C03.natToText_digits m)
    not_digit_32 not_digit_32 h
  exact ⟨C03.natToText_injective _ _ h1, h3⟩

/-! ## a counter line determines its symbol, its number and its verb -/

/-- two counter lines with symbols of the same length and newline-free verbs, each followed by
    anything: equal texts have equal symbols, numbers, verbs and continuations -/
theorem counterLine_sep (s s' v v' : Text) (n m : Nat) (X Y : Text) (hlen : s.length = s'.length)
    (hv : nl ∉ v) (hv' : nl ∉ v')
    (h : counterLine s v n ++ X = counterLine s' v' m ++ Y) : s = s' ∧ n = m ∧ v = v' ∧ X = Y := by
  rw [counterLine_bytes, counterLine_bytes] at h
  simp only [List.append_assoc] at h
  obtain ⟨hs, h⟩ := List.append_inj h hlen
  obtain ⟨hn, h⟩ := natToText_sep _ _ _ _ h
  subst hn
  simp only [List.append_eq, List.append_assoc, List.cons_append, List.nil_append] at h
  simp only [List.cons.injEq, true_and] at h
  have h := List.append_cancel_left h
  simp only [List.cons.injEq, true_and] at h
  obtain ⟨hvv, _, hXY⟩ := append_sep (· ≠ nl) v v' 10 10 X Y (fun c hc e => hv (e ▸ hc))
    (fun c hc e => hv' (e ▸ hc)) (by simp [nl]) (by simp [nl]) h
  exact ⟨hs, rfl, hvv, hXY⟩

/-- **`printEvent_injective`**: the line determines the (non-zero) number -/
theorem printEvent_injective (s v : Text) (n m : Nat) (hn : n ≠ 0) (hm : m ≠ 0)
    (h : printEvent s v n = printEvent s v m) : n = m := by
  rw [printEvent_spec, printEvent_spec, if_neg hn, if_neg hm, counterLine_bytes, counterLine_bytes] at h
  exact (natToText_sep _ _ _ _ (List.append_cancel_left h)).1

/-- … and since a zero prints nothing and a non-zero something, for every verb -/
theorem printEvent_injective' (s v : Text) (n m : Nat) (h : printEvent s v n = printEvent s v m) :
    n = m := by
  by_cases hn : n = 0
  · subst hn
    rw [(printEvent_eq_nil_iff s v 0).mpr rfl] at h
    exact ((printEvent_eq_nil_iff s v m).mp h.symm).symm
  · by_cases hm : m = 0
    · subst hm
      rw [(printEvent_eq_nil_iff s v 0).mpr rfl] at h
      exact absurd ((printEvent_eq_nil_iff s v n).mp h) hn
    · exact printEvent_injective s v n m hn hm h

example : printEvent go_updateSymbol (ofString "added") 12 ≠ printEvent go_updateSymbol (ofString "added") 2 :=
  fun h => absurd (printEvent_injective _ _ 12 2 (by decide) (by decide) h) (by decide)

/-- the lines of the counters `ns` for the (symbol, verb) pairs `ks`, zero counters omitted -/
def counterLines (ks : List (Text × Text)) (ns : List Nat) : Text :=
  (List.zipWith (fun k n => printEvent k.1 k.2 n) ks ns).flatten

theorem counterLines_cons (k : Text × Text) (ks : List (Text × Text)) (n : Nat) (ns : List Nat) :
    counterLines (k :: ks) (n :: ns) = printEvent k.1 k.2 n ++ counterLines ks ns := by
  simp [counterLines]

theorem counterLines_head (ks : List (Text × Text)) (ns : List Nat) :
    counterLines ks ns = [] ∨
    ∃ k ∈ ks, ∃ m, m ≠ 0 ∧ ∃ Y, counterLines ks ns = counterLine k.1 k.2 m ++ Y := by
  induction ks generalizing ns with
  | nil => left; simp [counterLines]
  | cons k ks ih =>
    cases ns with
    | nil => left; simp [counterLines]
    | cons n ns =>
      rw [counterLines_cons]
      by_cases hn : n = 0
      · rw [(printEvent_eq_nil_iff _ _ _).mpr hn, List.nil_append]
        rcases ih ns with h | ⟨k', hk', m, hm, Y, h⟩
        · exact Or.inl h
        · exact Or.inr ⟨k', by simp [hk'], m, hm, Y, h⟩
      · right
        refine ⟨k, by simp, n, hn, counterLines ks ns, ?_⟩
        rw [printEvent_spec, if_neg hn]

/-- **the text of the counter lines determines every counter**, for distinct (symbol, verb) pairs
    with symbols of one length and newline-free verbs -/
theorem counterLines_injective (L : Nat) (ks : List (Text × Text)) (hnd : ks.Nodup)
    (hk : ∀ k ∈ ks, k.1.length = L ∧ nl ∉ k.2) (ns ns' : List Nat)
    (hl : ns.length = ks.length) (hl' : ns'.length = ks.length)
    (h : counterLines ks ns = counterLines ks ns') : ns = ns' := by
  induction ks generalizing ns ns' with
  | nil =>
    simp only [List.length_nil, List.length_eq_zero_iff] at hl hl'
    rw [hl, hl']
  | cons k ks ih =>
    obtain ⟨n, ns1, rfl⟩ : ∃ n ns1, ns = n :: ns1 := by
      cases ns with
      | nil => simp at hl
      | cons n ns1 => exact ⟨n, ns1, rfl⟩
    obtain ⟨m, ns1', rfl⟩ : ∃ m ns1', ns' = m :: ns1' := by
      cases ns' with
      | nil => simp at hl'
      | cons m ns1' => exact ⟨m, ns1', rfl⟩
    simp only [List.length_cons, Nat.add_right_cancel_iff] at hl hl'
    rw [counterLines_cons, counterLines_cons] at h
    have hnd' := (List.nodup_cons.mp hnd).2
    have hknot := (List.nodup_cons.mp hnd).1
    have hk' : ∀ k' ∈ ks, k'.1.length = L ∧ nl ∉ k'.2 := fun k' h' => hk k' (by simp [h'])
    have hkk := hk k (by simp)
    -- a non-zero head against a zero head: the other side starts with a line of a later pair
    have clash : ∀ (a : Nat) (l1 l2 : List Nat), a ≠ 0 →
        printEvent k.1 k.2 a ++ counterLines ks l1 = counterLines ks l2 → False := by
      intro a l1 l2 ha e
      rw [printEvent_spec, if_neg ha] at e
      rcases counterLines_head ks l2 with h0 | ⟨k', hk'mem, b, _, Y, hY⟩
      · rw [h0] at e
        exact counterLine_ne_nil _ _ _ (List.append_eq_nil_iff.mp e).1
      · rw [hY] at e
        have hk'' := hk' k' hk'mem
        obtain ⟨e1, _, e3, _⟩ := counterLine_sep _ _ _ _ _ _ _ _ (hkk.1.trans hk''.1.symm) hkk.2 hk''.2 e
        exact hknot (by rw [show k = k' from Prod.ext e1 e3]; exact hk'mem)
    by_cases hn : n = 0
    · by_cases hm : m = 0
      · subst hn hm
        rw [(printEvent_eq_nil_iff _ _ 0).mpr rfl, List.nil_append, List.nil_append] at h
        rw [ih hnd' hk' ns1 ns1' hl hl' h]
      · subst hn
        rw [(printEvent_eq_nil_iff _ _ 0).mpr rfl, List.nil_append] at h
        exact (clash m ns1' ns1 hm h.symm).elim
    · by_cases hm : m = 0
      · subst hm
        rw [(printEvent_eq_nil_iff _ _ 0).mpr rfl, List.nil_append] at h
        exact (clash n ns1 ns1' hn h).elim
      · rw [printEvent_spec, printEvent_spec, if_neg hn, if_neg hm] at h
        obtain ⟨_, e2, _, e4⟩ := counterLine_sep _ _ _ _ _ _ _ _ rfl hkk.2 hkk.2 h
        rw [e2, ih hnd' hk' ns1 ns1' hl hl' e4]

/-- the five (symbol, verb) pairs of the summary, in print order -/
def kinds : List (Text × Text) :=
  [(go_successSymbol, ofString "passed"), (go_errorSymbol, ofString "failed"),
   (go_updateSymbol, ofString "added"), (go_updateSymbol, ofString "updated"),
   (go_skipSymbol, ofString "skipped")]

theorem kinds_bytes : kinds =
    [([226, 156, 147, 32], [112, 97, 115, 115, 101, 100]), ([226, 156, 149, 32], [102, 97, 105, 108, 101, 100]),
     ([226, 156, 142, 32], [97, 100, 100, 101, 100]), ([226, 156, 142, 32], [117, 112, 100, 97, 116, 101, 100]),
     ([226, 159, 179, 32], [115, 107, 105, 112, 112, 101, 100])] := by
  unfold kinds
  rw [lit_passed, lit_failed, lit_added, lit_updated, lit_skipped]
  rfl

/-- the pairs are distinct (`added` and `updated` share `✎` but not the verb), every symbol is 4
    bytes, no verb contains a newline -/
theorem kinds_ok : kinds.Nodup ∧ ∀ k ∈ kinds, k.1.length = 4 ∧ nl ∉ k.2 := by
  rw [kinds_bytes]; decide

/-! ## when the summary is empty -/

theorem summary_empty_iff (obsFiles obsTests : List Text) (nSkipped : Nat) (ev : Events)
    (anyEvent update : Bool) :
    summary obsFiles obsTests nSkipped ev anyEvent update = [] ↔
      obsFiles = [] ∧ obsTests = [] ∧ anyEvent = false ∧ nSkipped = 0 := by
  unfold summary
  by_cases h : (obsFiles = [] && obsTests = [] && !anyEvent && nSkipped = 0) = true
  · rw [if_pos h]
    simp only [Bool.and_eq_true, decide_eq_true_eq, Bool.not_eq_true'] at h
    exact ⟨fun _ => ⟨h.1.1.1, h.1.1.2, h.1.2, h.2⟩, fun _ => rfl⟩
  · rw [if_neg h]
    simp only [Bool.and_eq_true, decide_eq_true_eq, Bool.not_eq_true'] at h
    constructor
    · intro e
      simp only [List.append_eq_nil_iff, List.cons_ne_nil, false_and] at e
    · rintro ⟨h1, h2, h3, h4⟩; exact absurd ⟨⟨⟨h1, h2⟩, h3⟩, h4⟩ h

example : summary [] [] 0 { passed := 7 } false true = [] ∧ summary [] [] 1 {} false true ≠ [] ∧
    summary [[97]] [] 0 {} false true ≠ [] := by
  refine ⟨(summary_empty_iff ..).mpr ⟨rfl, rfl, rfl, rfl⟩, ?_, ?_⟩ <;>
    (intro h; have := (summary_empty_iff ..).mp h; simp at this)

/-! ## the decomposition -/

theorem objectList_spec (xs : List Text) (name : Text) (update : Bool) :
    objectList xs name update = blockHeader xs.length name update ++ (xs.map itemLine).flatten := by
  have hi : (fun ob => ofString "  " ++ go_enterSymbol ++ ofString " " ++ go_bulletSymbol ++ ob ++ [nl]) =
      itemLine := rfl
  unfold objectList blockHeader plural actionWord
  simp only [hi]
  by_cases h1 : xs.length > 1 <;> cases update <;> simp [h1]

/-- **`summary_structure`**: a non-empty summary is the header, the five optional counter lines
    (passed, failed, added, updated, skipped — in this order), the block of obsolete files, the
    block of obsolete tests and the hint -/
theorem summary_structure (obsFiles obsTests : List Text) (nSkipped : Nat) (ev : Events)
    (anyEvent update : Bool)
    (hne : ¬ (obsFiles = [] ∧ obsTests = [] ∧ anyEvent = false ∧ nSkipped = 0)) :
    summary obsFiles obsTests nSkipped ev anyEvent update =
      header ++
      printEvent go_successSymbol (ofString "passed") ev.passed ++
      printEvent go_errorSymbol (ofString "failed") ev.erred ++
      printEvent go_updateSymbol (ofString "added") ev.added ++
      printEvent go_updateSymbol (ofString "updated") ev.updated ++
      printEvent go_skipSymbol (ofString "skipped") nSkipped ++
      block obsFiles (ofString "file") update ++
      block obsTests (ofString "test") update ++
      hint (obsFiles.length + obsTests.length) update := by
  have hc : (obsFiles = [] && obsTests = [] && !anyEvent && nSkipped = 0) = false := by
    cases hb : (obsFiles = [] && obsTests = [] && !anyEvent && nSkipped = 0) with
    | false => rfl
    | true =>
      simp only [Bool.and_eq_true, decide_eq_true_eq, Bool.not_eq_true'] at hb
      exact absurd ⟨hb.1.1.1, hb.1.1.2, hb.1.2, hb.2⟩ hne
  unfold summary
  rw [hc]
  simp only [Bool.false_eq_true, ↓reduceIte]
  have hb : ∀ (xs : List Text) (name : Text),
      (if xs ≠ [] then objectList xs name update else []) = block xs name update := by
    intro xs name
    unfold block
    by_cases hx : xs = []
    · simp [hx]
    · simp [hx, objectList_spec]
  have hh : (if (!update && decide (obsFiles.length + obsTests.length > 0)) = true then
      [nl] ++ ofString "To remove " ++
        (if obsFiles.length + obsTests.length > 1 then ofString "them" else ofString "it") ++
        ofString ", re-run tests with `UPDATE_SNAPS=clean go test ./...`" ++ [nl]
      else []) = hint (obsFiles.length + obsTests.length) update := by
    unfold hint
    cases update <;> simp
  rw [hb, hb, hh]
  rfl

theorem summary_eq_lines (obsFiles obsTests : List Text) (nSkipped : Nat) (ev : Events)
    (anyEvent update : Bool)
    (hne : ¬ (obsFiles = [] ∧ obsTests = [] ∧ anyEvent = false ∧ nSkipped = 0)) :
    summary obsFiles obsTests nSkipped ev anyEvent update =
      header ++ counterLines kinds [ev.passed, ev.erred, ev.added, ev.updated, nSkipped] ++
      (block obsFiles (ofString "file") update ++ block obsTests (ofString "test") update ++
        hint (obsFiles.length + obsTests.length) update) := by
  rw [summary_structure _ _ _ _ _ _ hne]
  simp [counterLines, kinds, List.append_assoc]

/-! ## each counter's line, and the numbers are determined by the text -/

/-- **every counter has its own place**: a non-empty summary is `pre ++ line ++ post` where `line`
    is the counter's line — empty iff the counter is zero (`printEvent_eq_nil_iff`), else
    `counterLine sym verb n` (`printEvent_spec`) — with `pre`, `post` explicit -/
theorem summary_counter_lines (obsFiles obsTests : List Text) (nSkipped : Nat) (ev : Events)
    (anyEvent update : Bool)
    (hne : ¬ (obsFiles = [] ∧ obsTests = [] ∧ anyEvent = false ∧ nSkipped = 0)) :
    let S := summary obsFiles obsTests nSkipped ev anyEvent update
    let P := printEvent go_successSymbol (ofString "passed") ev.passed
    let F := printEvent go_errorSymbol (ofString "failed") ev.erred
    let A := printEvent go_updateSymbol (ofString "added") ev.added
    let U := printEvent go_updateSymbol (ofString "updated") ev.updated
    let K := printEvent go_skipSymbol (ofString "skipped") nSkipped
    let T := block obsFiles (ofString "file") update ++ block obsTests (ofString "test") update ++
      hint (obsFiles.length + obsTests.length) update
    S = header ++ P ++ (F ++ A ++ U ++ K ++ T) ∧
    S = (header ++ P) ++ F ++ (A ++ U ++ K ++ T) ∧
    S = (header ++ P ++ F) ++ A ++ (U ++ K ++ T) ∧
    S = (header ++ P ++ F ++ A) ++ U ++ (K ++ T) ∧
    S = (header ++ P ++ F ++ A ++ U) ++ K ++ T := by
  intro S P F A U K T
  have h : S = header ++ P ++ F ++ A ++ U ++ K ++ block obsFiles (ofString "file") update ++
      block obsTests (ofString "test") update ++ hint (obsFiles.length + obsTests.length) update :=
    summary_structure _ _ _ _ _ _ hne
  refine ⟨?_, ?_, ?_, ?_, ?_⟩ <;> (rw [h]; simp only [T, List.append_assoc])

/-- **the text determines the five numbers**: two summaries of the same obsolete items in the same
    mode, at least one of them non-empty, with equal text, show equal counters.  (The lists may
    contain anything — newlines, even fake counter lines: they are a common suffix.) -/
theorem summary_numbers_injective (obsFiles obsTests : List Text) (update : Bool)
    (n n' : Nat) (ev ev' : Events) (a a' : Bool)
    (hne : summary obsFiles obsTests n ev a update ≠ [])
    (h : summary obsFiles obsTests n ev a update = summary obsFiles obsTests n' ev' a' update) :
    ev = ev' ∧ n = n' := by
  have hne' : summary obsFiles obsTests n' ev' a' update ≠ [] := h ▸ hne
  rw [Ne, summary_empty_iff] at hne hne'
  rw [summary_eq_lines _ _ _ _ _ _ hne, summary_eq_lines _ _ _ _ _ _ hne'] at h
  have h := List.append_cancel_right h
  rw [List.append_cancel_left_eq] at h
  have := counterLines_injective 4 kinds kinds_ok.1 kinds_ok.2 _ _ rfl rfl h
  simp only [List.cons.injEq, and_true] at this
  obtain ⟨h1, h2, h3, h4, h5⟩ := this
  refine ⟨?_, h5⟩
  cases ev; cases ev'
  simp only [Events.mk.injEq]
  simp only at h1 h2 h3 h4
  exact ⟨h2, h3, h4, h1⟩

/-- e.g. a summary showing 2 passed / 1 failed is not the summary showing 1 passed / 2 failed -/
example : summary [[97]] [] 0 { passed := 2, erred := 1 } true false ≠
    summary [[97]] [] 0 { passed := 1, erred := 2 } true false := by
  intro h
  have := (summary_numbers_injective _ _ _ _ _ _ _ _ _
    (fun e => by have := (summary_empty_iff ..).mp e; simp at this) h).1
  exact absurd this (by decide)

/-- the side condition is needed only because `anyEvent` is a separate argument: with all lists
    empty, nothing skipped and `anyEvent = false` the summary is empty whatever the counters say -/
example : summary [] [] 0 { passed := 1 } false false = summary [] [] 0 { passed := 2 } false false := by
  rw [(summary_empty_iff ..).mpr ⟨rfl, rfl, rfl, rfl⟩, (summary_empty_iff ..).mpr ⟨rfl, rfl, rfl, rfl⟩]

/-- with `anyEvent` computed from the counters, as `Clean` does (`len(testEvents.items) > 0`), no
    side condition is left -/
theorem summary_numbers_injective_coherent (obsFiles obsTests : List Text) (update : Bool)
    (n n' : Nat) (ev ev' : Events)
    (h : summary obsFiles obsTests n ev (decide (C20.Events.total ev > 0)) update =
      summary obsFiles obsTests n' ev' (decide (C20.Events.total ev' > 0)) update) :
    ev = ev' ∧ n = n' := by
  by_cases hne : summary obsFiles obsTests n ev (decide (C20.Events.total ev > 0)) update = []
  · have hne' := hne
    rw [h] at hne'
    rw [summary_empty_iff] at hne hne'
    obtain ⟨_, _, h3, h4⟩ := hne
    obtain ⟨_, _, h3', h4'⟩ := hne'
    refine ⟨?_, by rw [h4, h4']⟩
    cases ev; cases ev'
    simp only [C20.Events.total, gt_iff_lt, decide_eq_false_iff_not, Nat.not_lt, Nat.le_zero_eq] at h3 h3'
    simp only [Events.mk.injEq]
    omega
  · exact summary_numbers_injective _ _ _ _ _ _ _ _ _ hne h

/-! ## the blocks list exactly the obsolete items -/

theorem block_eq_nil_iff (xs : List Text) (name : Text) (update : Bool) :
    block xs name update = [] ↔ xs = [] := by
  unfold block blockHeader
  by_cases h : xs = [] <;> simp [h]

/-- every item has its line, in order: for `xs = l1 ++ x :: l2` the block is the header showing
    `xs.length`, the lines of `l1`, the line of `x`, the lines of `l2` -/
theorem block_item (l1 l2 : List Text) (x name : Text) (update : Bool) :
    block (l1 ++ x :: l2) name update =
      (blockHeader (l1 ++ x :: l2).length name update ++ (l1.map itemLine).flatten) ++
        itemLine x ++ (l2.map itemLine).flatten := by
  unfold block
  simp

theorem actionWord_injective (u u' : Bool) (h : actionWord u = actionWord u') : u = u' := by
  rw [actionWord_bytes, actionWord_bytes] at h
  cases u <;> cases u' <;> first | rfl | (exact absurd h (by decide))

theorem blockHeader_count (k k' : Nat) (name name' : Text) (u u' : Bool) (X Y : Text)
    (h : blockHeader k name u ++ X = blockHeader k' name' u' ++ Y) : k = k' := by
  rw [blockHeader_bytes, blockHeader_bytes] at h
  simp only [List.append_assoc] at h
  exact (natToText_sep _ _ _ _ (List.append_cancel_left h)).1

theorem itemLines_injective (xs ys : List Text) (hx : ∀ x ∈ xs, nl ∉ x) (hy : ∀ y ∈ ys, nl ∉ y)
    (h : (xs.map itemLine).flatten = (ys.map itemLine).flatten) : xs = ys := by
  induction xs generalizing ys with
  | nil =>
    cases ys with
    | nil => rfl
    | cons y ys => simp [itemLine_bytes] at h
  | cons x xs ih =>
    cases ys with
    | nil => simp [itemLine_bytes] at h
    | cons y ys =>
      simp only [List.map_cons, List.flatten_cons, itemLine_bytes, List.append_assoc] at h
      have h := List.append_cancel_left h
      simp only [List.cons_append, List.nil_append] at h
      obtain ⟨e1, _, e3⟩ := append_sep (· ≠ nl) x y 10 10 _ _
        (fun c hc e => hx x (by simp) (e ▸ hc)) (fun c hc e => hy y (by simp) (e ▸ hc))
        (by simp [nl]) (by simp [nl]) h
      rw [e1, ih ys (fun x' h' => hx x' (by simp [h'])) (fun y' h' => hy y' (by simp [h'])) e3]

/-- **a block determines the list it shows**, for newline-free items (test ids are lines of a
    snapshot file, hence newline-free; paths are unless a file name contains a newline) -/
theorem block_injective (xs ys : List Text) (name : Text) (u : Bool)
    (hx : ∀ x ∈ xs, nl ∉ x) (hy : ∀ y ∈ ys, nl ∉ y)
    (h : block xs name u = block ys name u) : xs = ys := by
  by_cases hxe : xs = []
  · subst hxe
    rw [(block_eq_nil_iff [] name u).mpr rfl] at h
    exact ((block_eq_nil_iff ys name u).mp h.symm).symm
  · by_cases hye : ys = []
    · subst hye
      rw [(block_eq_nil_iff [] name u).mpr rfl] at h
      exact absurd ((block_eq_nil_iff xs name u).mp h) hxe
    · unfold block at h
      rw [if_neg hxe, if_neg hye] at h
      have hk := blockHeader_count _ _ _ _ _ _ _ _ h
      rw [hk] at h
      exact itemLines_injective xs ys hx hy (List.append_cancel_left h)

/-- without the newline condition two different lists of the same length can print the same block:
    `["a\n  ↳  • b", "c"]` and `["a", "b\n  ↳  • c"]` -/
example :
    block [[97, 10, 32, 32, 226, 134, 179, 32, 32, 226, 128, 162, 32, 98], [99]] (ofString "test") false =
    block [[97], [98, 10, 32, 32, 226, 134, 179, 32, 32, 226, 128, 162, 32, 99]] (ofString "test") false := by
  simp [block, itemLine_bytes]

theorem hint_eq_nil_iff (k : Nat) (update : Bool) : hint k update = [] ↔ ¬ (update = false ∧ k > 0) := by
  unfold hint
  by_cases h : update = false ∧ k > 0
  · simp [h]
  · rw [if_neg h]; simp [h]

theorem hint_bytes (k : Nat) (hk : k > 0) :
    hint k false = [10, 84, 111, 32, 114, 101, 109, 111, 118, 101, 32] ++
      (if k > 1 then [116, 104, 101, 109] else [105, 116]) ++
      ofString ", re-run tests with `UPDATE_SNAPS=clean go test ./...`" ++ [10] := by
  unfold hint
  rw [if_pos ⟨rfl, hk⟩, lit_toRemove, lit_them, lit_it]
  simp [nl]

/-- **`summary_lists_exactly`.**  In a non-empty summary:
* the files block is `block obsFiles "file" update` and the tests block `block obsTests "test" update`:
  by the definition of `block`, absent iff the list is empty, else a header showing the list's
  length and the word `removed` if `update` else `obsolete`, followed by exactly one `itemLine`
  per element, in order (that header and word determine count and mode is `blockHeader_count`,
  `actionWord_injective`, not part of this statement);
* for every split `obsFiles = l1 ++ x :: l2` (resp. `obsTests`) the text is `pre ++ itemLine x ++ post`
  with `pre`, `post` explicit;
* the hint `"\nTo remove it|them, …\n"` is present iff `update = false` and there is an item. -/
theorem summary_lists_exactly (obsFiles obsTests : List Text) (nSkipped : Nat) (ev : Events)
    (anyEvent update : Bool)
    (hne : ¬ (obsFiles = [] ∧ obsTests = [] ∧ anyEvent = false ∧ nSkipped = 0)) :
    let S := summary obsFiles obsTests nSkipped ev anyEvent update
    let C := header ++ counterLines kinds [ev.passed, ev.erred, ev.added, ev.updated, nSkipped]
    let H := hint (obsFiles.length + obsTests.length) update
    S = C ++ block obsFiles (ofString "file") update ++ block obsTests (ofString "test") update ++ H ∧
    (∀ l1 x l2, obsFiles = l1 ++ x :: l2 →
      S = (C ++ blockHeader obsFiles.length (ofString "file") update ++ (l1.map itemLine).flatten) ++
        itemLine x ++ ((l2.map itemLine).flatten ++ block obsTests (ofString "test") update ++ H)) ∧
    (∀ l1 x l2, obsTests = l1 ++ x :: l2 →
      S = (C ++ block obsFiles (ofString "file") update ++
          blockHeader obsTests.length (ofString "test") update ++ (l1.map itemLine).flatten) ++
        itemLine x ++ ((l2.map itemLine).flatten ++ H)) ∧
    (H = [] ↔ ¬ (update = false ∧ obsFiles.length + obsTests.length > 0)) := by
  intro S C H
  have h : S = C ++ (block obsFiles (ofString "file") update ++ block obsTests (ofString "test") update ++ H) :=
    summary_eq_lines _ _ _ _ _ _ hne
  refine ⟨by rw [h]; simp only [List.append_assoc], ?_, ?_, hint_eq_nil_iff _ _⟩
  · intro l1 x l2 e
    rw [h, e, block_item]
    simp only [List.append_assoc]
  · intro l1 x l2 e
    rw [h, e, block_item]
    simp only [List.append_assoc]

/-- in particular every obsolete item occurs in the text as its own line -/
theorem summary_shows_item (obsFiles obsTests : List Text) (nSkipped : Nat) (ev : Events)
    (anyEvent update : Bool) (x : Text) (hx : x ∈ obsFiles ∨ x ∈ obsTests) :
    ∃ pre post, summary obsFiles obsTests nSkipped ev anyEvent update = pre ++ itemLine x ++ post := by
  have hne : ¬ (obsFiles = [] ∧ obsTests = [] ∧ anyEvent = false ∧ nSkipped = 0) := by
    rintro ⟨h1, h2, _, _⟩
    subst h1 h2
    simp at hx
  obtain ⟨_, hf, ht, _⟩ := summary_lists_exactly obsFiles obsTests nSkipped ev anyEvent update hne
  rcases hx with hx | hx
  · obtain ⟨l1, l2, e⟩ := List.append_of_mem hx
    exact ⟨_, _, hf l1 x l2 e⟩
  · obtain ⟨l1, l2, e⟩ := List.append_of_mem hx
    exact ⟨_, _, ht l1 x l2 e⟩

set_option maxRecDepth 8192 in
/-- a whole summary, byte for byte: 2 passed, 1 failed, 0 added, 0 updated, 1 skipped, the obsolete
    file `/s/b.snap` and the obsolete tests `TestA - 1`, `TestC - 2`, report mode:

        \nSnapshot Summary\n\n✓ 2 snapshots passed\n✕ 1 snapshot failed\n⟳ 1 snapshot skipped\n
        \n› 1 snapshot file obsolete\n  ↳  • /s/b.snap\n
        \n› 2 snapshot tests obsolete\n  ↳  • TestA - 1\n  ↳  • TestC - 2\n
        \nTo remove them, re-run tests with `UPDATE_SNAPS=clean go test ./...`\n -/
example :
    summary [[47, 115, 47, 98, 46, 115, 110, 97, 112]]
      [[84, 101, 115, 116, 65, 32, 45, 32, 49], [84, 101, 115, 116, 67, 32, 45, 32, 50]] 1
      { passed := 2, erred := 1 } true false =
    [10, 83, 110, 97, 112, 115, 104, 111, 116, 32, 83, 117, 109, 109, 97, 114, 121, 10, 10,
     226, 156, 147, 32, 50, 32, 115, 110, 97, 112, 115, 104, 111, 116, 115, 32, 112, 97, 115, 115, 101, 100, 10,
     226, 156, 149, 32, 49, 32, 115, 110, 97, 112, 115, 104, 111, 116, 32, 102, 97, 105, 108, 101, 100, 10,
     226, 159, 179, 32, 49, 32, 115, 110, 97, 112, 115, 104, 111, 116, 32, 115, 107, 105, 112, 112, 101, 100, 10,
     10, 226, 128, 186, 32, 49, 32, 115, 110, 97, 112, 115, 104, 111, 116, 32, 102, 105, 108, 101, 32,
       111, 98, 115, 111, 108, 101, 116, 101, 10,
     32, 32, 226, 134, 179, 32, 32, 226, 128, 162, 32, 47, 115, 47, 98, 46, 115, 110, 97, 112, 10,
     10, 226, 128, 186, 32, 50, 32, 115, 110, 97, 112, 115, 104, 111, 116, 32, 116, 101, 115, 116, 115, 32,
       111, 98, 115, 111, 108, 101, 116, 101, 10,
     32, 32, 226, 134, 179, 32, 32, 226, 128, 162, 32, 84, 101, 115, 116, 65, 32, 45, 32, 49, 10,
     32, 32, 226, 134, 179, 32, 32, 226, 128, 162, 32, 84, 101, 115, 116, 67, 32, 45, 32, 50, 10,
     10, 84, 111, 32, 114, 101, 109, 111, 118, 101, 32, 116, 104, 101, 109,
     44, 32, 114, 101, 45, 114, 117, 110, 32, 116, 101, 115, 116, 115, 32, 119, 105, 116, 104, 32, 96,
     85, 80, 68, 65, 84, 69, 95, 83, 78, 65, 80, 83, 61, 99, 108, 101, 97, 110, 32, 103, 111, 32, 116,
     101, 115, 116, 32, 46, 47, 46, 46, 46, 96, 10] := by
  rw [summary_structure _ _ _ _ _ _ (by simp)]
  conv => lhs; simp only [printEvent_spec, counterLine_bytes, block, blockHeader_bytes, actionWord_bytes,
    itemLine_bytes, header, lit_title, lit_passed, lit_failed, lit_added, lit_updated, lit_skipped,
    lit_file, lit_test, hint_bytes _ (show (0 + 1 + (0 + 1 + 1) : Nat) > 0 by decide), lit_rerun,
    List.length_cons, List.length_nil, List.map_cons, List.map_nil]
  decide +kernel

/-! ## bridge: what `Clean` shows -/

/-- **`clean_summary_counts`.**  For a supported run of `Clean` with stage results `fr`
    (`examineFiles`) and `obsTests` (`examineSnaps`) — `CleanRun` records the exact calls —
    * nothing is printed iff there is nothing to show (no obsolete file, no obsolete test, all
      four counters zero, nothing skipped);
    * otherwise standard output is the header, the lines of `w.events.passed`, `w.events.erred`,
      `w.events.added`, `w.events.updated` and `w.skipped.length`, the block of exactly `fr.obsolete`,
      the block of exactly `obsTests`, the hint, and `Println`'s newline;
    * the wording is `removed` (and no hint) iff the run was in clean mode. -/
theorem clean_summary_counts (o : Oracles) (w : World) (sortOpt : Bool) (runOnly : Text) (count : Nat)
    (hs : (clean o w sortOpt runOnly count).2.unsupported = none) :
    ∃ sa fr obsTests fs written, CleanRun o w sortOpt runOnly count sa fr obsTests fs written ∧
      let u := summaryUpdate w.env sortOpt
      let nothing := fr.obsolete = [] ∧ obsTests = [] ∧ C20.Events.total w.events = 0 ∧ w.skipped = []
      (u = true ↔ C05Clean.DeleteMode w.env) ∧
      (nothing → (clean o w sortOpt runOnly count).2.stdout = []) ∧
      (¬ nothing → (clean o w sortOpt runOnly count).2.stdout =
        header ++
        printEvent go_successSymbol (ofString "passed") w.events.passed ++
        printEvent go_errorSymbol (ofString "failed") w.events.erred ++
        printEvent go_updateSymbol (ofString "added") w.events.added ++
        printEvent go_updateSymbol (ofString "updated") w.events.updated ++
        printEvent go_skipSymbol (ofString "skipped") w.skipped.length ++
        block fr.obsolete (ofString "file") u ++
        block obsTests (ofString "test") u ++
        hint (fr.obsolete.length + obsTests.length) u ++ [nl]) := by
  obtain ⟨sa, fr, obsT, fs, wr, run, hout, hmode⟩ :=
    C05Clean.clean_stdout_is_summary o w sortOpt runOnly count hs
  refine ⟨sa, fr, obsT, fs, wr, run, hmode, ?_, ?_⟩
  · rintro ⟨h1, h2, h3, h4⟩
    rw [hout]
    have : summary fr.obsolete obsT w.skipped.length w.events
        (decide (w.events.erred + w.events.added + w.events.updated + w.events.passed > 0))
        (summaryUpdate w.env sortOpt) = [] := by
      rw [summary_empty_iff]
      refine ⟨h1, h2, ?_, by simp [h4]⟩
      simp only [C20.Events.total] at h3
      simp [h3]
    simp only [this, ↓reduceIte]
  · intro hn
    rw [hout]
    have hne : ¬ (fr.obsolete = [] ∧ obsT = [] ∧
        decide (w.events.erred + w.events.added + w.events.updated + w.events.passed > 0) = false ∧
        w.skipped.length = 0) := by
      rintro ⟨h1, h2, h3, h4⟩
      apply hn
      refine ⟨h1, h2, ?_, List.length_eq_zero_iff.mp h4⟩
      simp only [decide_eq_false_iff_not, Nat.not_lt, Nat.le_zero_eq] at h3
      exact h3
    have hne' := hne
    rw [← summary_empty_iff (ev := w.events) (update := summaryUpdate w.env sortOpt)] at hne'
    simp only [hne', ↓reduceIte]
    rw [summary_structure _ _ _ _ _ _ hne]

set_option maxRecDepth 8192 in
/-- the sort-only run of C05Clean.Ex (`/s/a.snap` registered with a stale `[TestA - 1]`, orphan
    `/s/b.snap`, one passed snapshot, off CI, `UPDATE_SNAPS=""`) prints exactly

        \nSnapshot Summary\n\n✓ 1 snapshot passed\n
        \n› 1 snapshot file obsolete\n  ↳  • /s/b.snap\n
        \n› 1 snapshot test obsolete\n  ↳  • TestA - 1\n
        \nTo remove them, re-run tests with `UPDATE_SNAPS=clean go test ./...`\n\n -/
example :
    (clean {} (C05Clean.Ex.world false "") true [] 1).2.stdout =
    [10, 83, 110, 97, 112, 115, 104, 111, 116, 32, 83, 117, 109, 109, 97, 114, 121, 10, 10,
     226, 156, 147, 32, 49, 32, 115, 110, 97, 112, 115, 104, 111, 116, 32, 112, 97, 115, 115, 101, 100, 10,
     10, 226, 128, 186, 32, 49, 32, 115, 110, 97, 112, 115, 104, 111, 116, 32, 102, 105, 108, 101, 32,
       111, 98, 115, 111, 108, 101, 116, 101, 10,
     32, 32, 226, 134, 179, 32, 32, 226, 128, 162, 32, 47, 115, 47, 98, 46, 115, 110, 97, 112, 10,
     10, 226, 128, 186, 32, 49, 32, 115, 110, 97, 112, 115, 104, 111, 116, 32, 116, 101, 115, 116, 32,
       111, 98, 115, 111, 108, 101, 116, 101, 10,
     32, 32, 226, 134, 179, 32, 32, 226, 128, 162, 32, 84, 101, 115, 116, 65, 32, 45, 32, 49, 10,
     10, 84, 111, 32, 114, 101, 109, 111, 118, 101, 32, 116, 104, 101, 109,
     44, 32, 114, 101, 45, 114, 117, 110, 32, 116, 101, 115, 116, 115, 32, 119, 105, 116, 104, 32, 96,
     85, 80, 68, 65, 84, 69, 95, 83, 78, 65, 80, 83, 61, 99, 108, 101, 97, 110, 32, 103, 111, 32, 116,
     101, 115, 116, 32, 46, 47, 46, 46, 46, 96, 10, 10] := by
  rw [C05Clean.Ex.sortOnly_stdout, summary_structure _ _ _ _ _ _ (by simp)]
  conv => lhs; simp only [printEvent_spec, counterLine_bytes, block, blockHeader_bytes, actionWord_bytes,
    itemLine_bytes, header, lit_title, lit_passed, lit_failed, lit_added, lit_updated, lit_skipped,
    lit_file, lit_test, hint_bytes _ (show (0 + 1 + (0 + 1) : Nat) > 0 by decide), lit_rerun,
    List.length_cons, List.length_nil, List.map_cons, List.map_nil, C05Clean.Ex.pb]
  decide +kernel

/-- **two runs of `Clean` that report the same obsolete items in the same mode and print the same
    text saw the same counters**: the numbers shown are the world's numbers and nothing else -/
theorem clean_stdout_determines_counts (o o' : Oracles) (w w' : World) (sortOpt sortOpt' : Bool)
    (runOnly runOnly' : Text) (count count' : Nat)
    (sa sa' : List Text) (fr fr' : FilesResult) (obsT obsT' : List Text) (fs fs' : FS) (wr wr' : List Text)
    (run : CleanRun o w sortOpt runOnly count sa fr obsT fs wr)
    (run' : CleanRun o' w' sortOpt' runOnly' count' sa' fr' obsT' fs' wr')
    (hfiles : fr.obsolete = fr'.obsolete) (htests : obsT = obsT')
    (hmode : summaryUpdate w.env sortOpt = summaryUpdate w'.env sortOpt')
    (h : (clean o w sortOpt runOnly count).2.stdout = (clean o' w' sortOpt' runOnly' count').2.stdout) :
    w.events = w'.events ∧ w.skipped.length = w'.skipped.length := by
  rw [run.result, run'.result] at h
  simp only [cleanStdout, cleanAnyEvent] at h
  rw [← hfiles, ← htests, ← hmode] at h
  apply summary_numbers_injective_coherent fr.obsolete obsT (summaryUpdate w.env sortOpt)
  simp only [C20.Events.total]
  have key : ∀ s s' : Text,
      (if s = [] then [] else s ++ [nl]) = (if s' = [] then [] else s' ++ [nl]) → s = s' := by
    intro s s' h
    by_cases e : s = [] <;> by_cases e' : s' = []
    · rw [e, e']
    · simp [e, e'] at h
    · simp [e, e'] at h
    · simp only [e, e', ↓reduceIte] at h
      exact List.append_cancel_right h
  exact key _ _ h

end GoSnaps.C20Summary
