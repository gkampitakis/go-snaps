/- C20 — every call has exactly one outcome and the counters add up. -/
import GoSnaps.Model
import GoSnaps.Lemmas.Format
import GoSnaps.Props.C19
namespace GoSnaps.C20

def Events.total (e : Events) : Nat := e.erred + e.added + e.updated + e.passed

/-- the four outcomes as seen by the test -/
inductive Outcome | passed | added | updated | failed
deriving DecidableEq, Repr

def outcomeOf (o : Out) : Option Outcome :=
  match o.events with
  | [] => some .passed
  | [.log t] => if t = Generated.go_addedMsg then some .added
                else if t = Generated.go_updatedMsg then some .updated else none
  | [.error _] => some .failed
  | _ => none

theorem msgs_distinct : Generated.go_addedMsg ≠ Generated.go_updatedMsg := by decide

theorem outcomeOf_added (o : Out) (h : o.events = [.log Generated.go_addedMsg]) :
    outcomeOf o = some .added := by
  unfold outcomeOf; rw [h]; exact if_pos rfl

theorem outcomeOf_updated (o : Out) (h : o.events = [.log Generated.go_updatedMsg]) :
    outcomeOf o = some .updated := by
  unfold outcomeOf; rw [h]; exact (if_neg msgs_distinct.symm).trans (if_pos rfl)

/-- each outcome the model covers moves exactly the counter that matches it, by one -/
theorem one_outcome_of_tailOutcome {total : Bool} {w : World} {c : Cfg} {p : Text}
    {r : World × Out} (h : TailOutcome total w c p r) (hs : total = true ∨ r.2.unsupported = none) :
    (outcomeOf r.2 = some .passed ∧ r.1.events = { w.events with passed := w.events.passed + 1 }) ∨
    (outcomeOf r.2 = some .added ∧ r.1.events = { w.events with added := w.events.added + 1 }) ∨
    (outcomeOf r.2 = some .updated ∧ r.1.events = { w.events with updated := w.events.updated + 1 }) ∨
    (outcomeOf r.2 = some .failed ∧ r.1.events = { w.events with erred := w.events.erred + 1 }) := by
  cases h with
  | failed => exact .inr (.inr (.inr ⟨rfl, rfl⟩))
  | unsupported why ht => exact hs.elim (fun e => nomatch ht.symm.trans e) (absurd · (Option.some_ne_none _))
  | passed => exact .inl ⟨rfl, rfl⟩
  | added => exact .inr (.inl ⟨outcomeOf_added _ rfl, rfl⟩)
  | updated => exact .inr (.inr (.inl ⟨outcomeOf_updated _ rfl, rfl⟩))

/-- `entryTail` (shared by MatchSnapshot / MatchJSON / MatchYAML): when the model covers the
input (no `unsupported`), the call ends in exactly one outcome and exactly one counter moves by
one — the one matching the outcome. -/
theorem entryTail_one_outcome (w : World) (c : Cfg) (p rel id s : Text) (cmp : Cmp)
    (hs : (entryTail w c p rel id s cmp).2.unsupported = none) :
    let r := entryTail w c p rel id s cmp
    (outcomeOf r.2 = some .passed ∧ r.1.events = { w.events with passed := w.events.passed + 1 }) ∨
    (outcomeOf r.2 = some .added ∧ r.1.events = { w.events with added := w.events.added + 1 }) ∨
    (outcomeOf r.2 = some .updated ∧ r.1.events = { w.events with updated := w.events.updated + 1 }) ∨
    (outcomeOf r.2 = some .failed ∧ r.1.events = { w.events with erred := w.events.erred + 1 }) :=
  one_outcome_of_tailOutcome (entryTail_outcome ..) (.inr hs)

theorem standaloneTail_one_outcome (w : World) (c : Cfg) (p rel s : Text) :
    let r := standaloneTail w c p rel s
    (outcomeOf r.2 = some .passed ∧ r.1.events = { w.events with passed := w.events.passed + 1 }) ∨
    (outcomeOf r.2 = some .added ∧ r.1.events = { w.events with added := w.events.added + 1 }) ∨
    (outcomeOf r.2 = some .updated ∧ r.1.events = { w.events with updated := w.events.updated + 1 }) ∨
    (outcomeOf r.2 = some .failed ∧ r.1.events = { w.events with erred := w.events.erred + 1 }) :=
  one_outcome_of_tailOutcome (standaloneTail_outcome ..) (.inl rfl)

/-- in every case the total number of counted outcomes grows by exactly one -/
theorem entryTail_total (w : World) (c : Cfg) (p rel id s : Text) (cmp : Cmp)
    (hs : (entryTail w c p rel id s cmp).2.unsupported = none) :
    Events.total (entryTail w c p rel id s cmp).1.events = Events.total w.events + 1 := by
  rcases entryTail_one_outcome w c p rel id s cmp hs with h | h | h | h <;>
    (simp only [h.2, Events.total]; omega)

/-! Two structural facts read from the source on every run.  The model's step functions have this
shape by construction; the two obligations tie that shape to the code. -/

/-- in the five match* functions every `handleError(...)` is directly followed by `return`: a
failing path cannot go on to report a second outcome -/
theorem handleError_always_returns : Generated.handleErrorReturns = true := by decide

/-- every `t.Log(addedMsg / updatedMsg)` is directly followed by the registration of exactly that
event -/
theorem log_followed_by_register : Generated.logFollowedByRegister = true := by decide

end GoSnaps.C20
