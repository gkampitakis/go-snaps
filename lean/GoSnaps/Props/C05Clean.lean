/-
C05 (top level) — what the whole `Clean` may do to the file system, by mode.

`clean o w sortOpt runOnly count` (Clean.lean) wires `occurrences`, `examineFiles`,
`examineSnaps` and `summary` with the mode flags `Generated.cleanFilesUpdate / cleanSnapsUpdate /
cleanSnapsSort / summaryUpdate w.env sortOpt`, which are translated from the Go source on every
run.  Their meaning is taken from `C05.cleanDeletes_spec`, `C05.cleanSorts_spec`,
`C05.ci_gates_closed` only; the Generated definitions are unfolded in no theorem (the concrete
runs at the end evaluate them).

Most statements below hold for *every* run, including the inputs the model does not cover
(`unsupported ≠ none`): there `clean` returns the world unchanged and an empty `Out`, so the
hypothesis `r.2.unsupported = none` is only taken where it is needed.

Byte legend: 47 '/', 115 's', 46 '.', 91 '[', 93 ']', `[84,101,115,116,65]` = "TestA".
-/
import GoSnaps.Lemmas.CleanTop
import GoSnaps.Props.C05
import GoSnaps.Props.C09
namespace GoSnaps.C05Clean

open GoSnaps Generated

/-! ## the modes -/

/-- "clean mode": off CI with `UPDATE_SNAPS=true` or `UPDATE_SNAPS=clean` -/
def DeleteMode (env : Env) : Prop :=
  env.isCI = false ∧ (env.updateVAR = "true" ∨ env.updateVAR = "clean")

instance (env : Env) : Decidable (DeleteMode env) := by unfold DeleteMode; infer_instance

/-- the three deleting gates of `Clean` (files, entries, wording of the summary) are open exactly
    in clean mode -/
theorem deleteGates_iff (env : Env) (s : Bool) :
    (cleanFilesUpdate env s = true ↔ DeleteMode env) ∧
    (cleanSnapsUpdate env s = true ↔ DeleteMode env) ∧
    (summaryUpdate env s = true ↔ DeleteMode env) := by
  obtain ⟨h1, h2, h3⟩ := C05.cleanDeletes_spec env s
  rw [h1, h2, h3]
  have : C05.specCleanDeletes env.isCI env.updateVAR = true ↔ DeleteMode env := by
    unfold C05.specCleanDeletes DeleteMode
    cases env.isCI <;> simp
  exact ⟨this, this, this⟩

/-- the sorting gate is open exactly off CI with `Sort(true)` -/
theorem sortGate_iff (env : Env) (s : Bool) :
    cleanSnapsSort env s = true ↔ env.isCI = false ∧ s = true := by
  rw [C05.cleanSorts_spec]
  unfold C05.specCleanSorts
  cases env.isCI <;> cases s <;> simp

theorem deleteGates_closed (env : Env) (s : Bool) (h : ¬ DeleteMode env) :
    cleanFilesUpdate env s = false ∧ cleanSnapsUpdate env s = false ∧ summaryUpdate env s = false := by
  obtain ⟨h1, h2, h3⟩ := deleteGates_iff env s
  refine ⟨?_, ?_, ?_⟩
  · cases hb : cleanFilesUpdate env s with
    | false => rfl
    | true => exact absurd (h1.mp hb) h
  · cases hb : cleanSnapsUpdate env s with
    | false => rfl
    | true => exact absurd (h2.mp hb) h
  · cases hb : summaryUpdate env s with
    | false => rfl
    | true => exact absurd (h3.mp hb) h

/-! ## read-only runs -/

/-- the core: with the three gates closed `Clean` returns the world it was given and reports no
    write and no removal (also on unsupported inputs) -/
theorem clean_readonly_of_gates_closed (o : Oracles) (w : World) (sortOpt : Bool) (runOnly : Text)
    (count : Nat) (hf : cleanFilesUpdate w.env sortOpt = false)
    (hu : cleanSnapsUpdate w.env sortOpt = false) (hsrt : cleanSnapsSort w.env sortOpt = false) :
    (clean o w sortOpt runOnly count).1 = w ∧ (clean o w sortOpt runOnly count).2.writes = [] ∧
    (clean o w sortOpt runOnly count).2.removed = [] := by
  rcases clean_cases o w sortOpt runOnly count with ⟨why, h⟩ | ⟨sa, fr, obsT, fs, wr, run⟩
  · rw [h]; exact ⟨rfl, rfl, rfl⟩
  · have hfiles := run.files
    have hsn := run.snaps
    rw [hf] at hfiles
    rw [hu, hsrt] at hsn
    obtain ⟨hrem, hfs⟩ := (C09.examineFiles_untouched _ _ _ _ _ _ _ hfiles).2.1 rfl
    obtain ⟨hfs', hwr⟩ := C09.no_update_no_removal_partial _ _ _ _ _ _ _ _ _ _ hsn
    rw [run.result]
    refine ⟨?_, hwr, hrem⟩
    rw [hfs', hfs]

/-- **1. CI is read-only for `Clean`**: for every value of `UPDATE_SNAPS`, every `sortOpt`, every
    `runOnly`, every `count` (and whether or not the model covers the input) -/
theorem clean_ci_readonly (o : Oracles) (w : World) (sortOpt : Bool) (runOnly : Text) (count : Nat)
    (hci : w.env.isCI = true) :
    (clean o w sortOpt runOnly count).1.fs = w.fs ∧ (clean o w sortOpt runOnly count).2.writes = [] ∧
    (clean o w sortOpt runOnly count).2.removed = [] := by
  have g := C05.ci_gates_closed w.env hci none sortOpt
  obtain ⟨h1, h2, h3⟩ := clean_readonly_of_gates_closed o w sortOpt runOnly count g.2.2.1 g.2.2.2.1
    g.2.2.2.2
  exact ⟨by rw [h1], h2, h3⟩

/-- **2. report mode is read-only**: `UPDATE_SNAPS ∉ {"true", "clean"}`, no sorting (on CI or off) -/
theorem clean_report_mode_readonly (o : Oracles) (w : World) (runOnly : Text) (count : Nat)
    (ht : w.env.updateVAR ≠ "true") (hc : w.env.updateVAR ≠ "clean") :
    (clean o w false runOnly count).1.fs = w.fs ∧ (clean o w false runOnly count).2.writes = [] ∧
    (clean o w false runOnly count).2.removed = [] := by
  have hm : ¬ DeleteMode w.env := fun h => h.2.elim ht hc
  obtain ⟨g1, g2, _⟩ := deleteGates_closed w.env false hm
  have g3 : cleanSnapsSort w.env false = false := by
    cases hb : cleanSnapsSort w.env false with
    | false => rfl
    | true => exact absurd ((sortGate_iff _ _).mp hb).2 (by simp)
  obtain ⟨h1, h2, h3⟩ := clean_readonly_of_gates_closed o w false runOnly count g1 g2 g3
  exact ⟨by rw [h1], h2, h3⟩

/-! ## removals and writes need an open gate -/

/-- **a file is removed only in clean mode** -/
theorem clean_removes_only_in_clean_mode (o : Oracles) (w : World) (sortOpt : Bool) (runOnly : Text)
    (count : Nat) (h : (clean o w sortOpt runOnly count).2.removed ≠ []) :
    w.env.isCI = false ∧ (w.env.updateVAR = "true" ∨ w.env.updateVAR = "clean") := by
  apply Decidable.byContradiction
  intro hm
  apply h
  rcases clean_cases o w sortOpt runOnly count with ⟨why, h'⟩ | ⟨sa, fr, obsT, fs, wr, run⟩
  · rw [h']; rfl
  · have hfiles := run.files
    rw [(deleteGates_closed w.env sortOpt hm).1] at hfiles
    rw [run.result]
    exact ((C09.examineFiles_untouched _ _ _ _ _ _ _ hfiles).2.1 rfl).1

/-- **a file is written only off CI, and only in clean mode or with `Sort(true)`** -/
theorem clean_writes_only_if (o : Oracles) (w : World) (sortOpt : Bool) (runOnly : Text)
    (count : Nat) (h : (clean o w sortOpt runOnly count).2.writes ≠ []) :
    w.env.isCI = false ∧
      ((w.env.updateVAR = "true" ∨ w.env.updateVAR = "clean") ∨ sortOpt = true) := by
  rcases clean_cases o w sortOpt runOnly count with ⟨why, h'⟩ | ⟨sa, fr, obsT, fs, wr, run⟩
  · rw [h'] at h; exact absurd rfl h
  · cases hu : cleanSnapsUpdate w.env sortOpt with
    | true =>
      have := (deleteGates_iff w.env sortOpt).2.1.mp hu
      exact ⟨this.1, Or.inl this.2⟩
    | false =>
      cases hsrt : cleanSnapsSort w.env sortOpt with
      | true =>
        have := (sortGate_iff w.env sortOpt).mp hsrt
        exact ⟨this.1, Or.inr this.2⟩
      | false =>
        have hsn := run.snaps
        rw [hu, hsrt] at hsn
        rw [run.result] at h
        exact absurd (C09.no_update_no_removal_partial _ _ _ _ _ _ _ _ _ _ hsn).2 h

/-- in clean mode the removed files are exactly the reported obsolete files; every removed or
    reported file is an `Orphan` (a `.snap`-named entry directly inside a visited directory that is
    neither a registered file nor a registered standalone snapshot); every written file is a
    registered one -/
theorem clean_touches_only (o : Oracles) (w : World) (sortOpt : Bool) (runOnly : Text) (count : Nat)
    (sa : List Text) (fr : FilesResult) (obsT : List Text) (fs : FS) (wr : List Text)
    (run : CleanRun o w sortOpt runOnly count sa fr obsT fs wr) :
    (DeleteMode w.env → (clean o w sortOpt runOnly count).2.removed = fr.obsolete) ∧
    (∀ p ∈ fr.obsolete, Orphan (cleanRegPaths w) sa p) ∧
    (∀ p ∈ (clean o w sortOpt runOnly count).2.removed, p ∈ fr.obsolete) ∧
    (∀ p ∈ (clean o w sortOpt runOnly count).2.writes, p ∈ cleanRegPaths w) ∧
    (∀ q, q ∉ (clean o w sortOpt runOnly count).2.removed → q ∉ cleanRegPaths w →
      fsRead (clean o w sortOpt runOnly count).1.fs q = fsRead w.fs q) := by
  obtain ⟨horph, hfalse, htrue, hframe⟩ := C09.examineFiles_untouched _ _ _ _ _ _ _ run.files
  obtain ⟨hframe2, hwsub⟩ := C09.examineSnaps_frame _ _ _ _ _ _ _ _ _ _ _ _ run.snaps
  have husub := examineFiles_used_sub _ _ _ _ _ _ _ run.files
  rw [run.result]
  refine ⟨fun hm => htrue ((deleteGates_iff w.env sortOpt).1.mpr hm), horph, ?_, ?_, ?_⟩
  · intro p hp
    cases hb : cleanFilesUpdate w.env sortOpt with
    | true => rw [← htrue hb]; exact hp
    | false => rw [(hfalse hb).1] at hp; cases hp
  · intro p hp; exact husub p (hwsub p hp)
  · intro q hq hreg
    show fsRead fs q = fsRead w.fs q
    rw [hframe2 q (fun hu => hreg (husub q hu)), hframe q hq]

/-! ## nothing but the file system changes -/

/-- **`Clean` changes nothing of the world except `fs`**: the environment, both pairs of
    registries, the counters, the skip list, pending calls and configs are returned as given, so a
    later `Match*` call can observe a `Clean` only through files -/
theorem clean_preserves_registries (o : Oracles) (w : World) (sortOpt : Bool) (runOnly : Text)
    (count : Nat) :
    (clean o w sortOpt runOnly count).1 = { w with fs := (clean o w sortOpt runOnly count).1.fs } := by
  rcases clean_cases o w sortOpt runOnly count with ⟨why, h'⟩ | ⟨sa, fr, obsT, fs, wr, run⟩
  · rw [h']; rfl
  · rw [run.result]

theorem clean_preserves_fields (o : Oracles) (w : World) (sortOpt : Bool) (runOnly : Text)
    (count : Nat) :
    let w' := (clean o w sortOpt runOnly count).1
    w'.env = w.env ∧ w'.running = w.running ∧ w'.cleanup = w.cleanup ∧ w'.srunning = w.srunning ∧
    w'.scleanup = w.scleanup ∧ w'.events = w.events ∧ w'.skipped = w.skipped ∧
    w'.pending = w.pending ∧ w'.cfgs = w.cfgs := by
  intro w'
  have h : w' = { w with fs := w'.fs } := clean_preserves_registries o w sortOpt runOnly count
  rw [h]
  exact ⟨rfl, rfl, rfl, rfl, rfl, rfl, rfl, rfl, rfl⟩

/-- `Clean` registers no test event and calls neither `t.Log` nor `t.Error` -/
theorem clean_no_events (o : Oracles) (w : World) (sortOpt : Bool) (runOnly : Text) (count : Nat) :
    (clean o w sortOpt runOnly count).2.events = [] := by
  rcases clean_cases o w sortOpt runOnly count with ⟨why, h'⟩ | ⟨sa, fr, obsT, fs, wr, run⟩
  · rw [h']; rfl
  · rw [run.result]

/-! ## what is printed -/

/-- **`Clean` prints the summary and nothing else**: for a supported run there are the results
    `fr` of `examineFiles` and `obsTests` of `examineSnaps` (with the exact arguments `Clean` passes,
    recorded in `CleanRun`) such that standard output is `summary` of
    (obsolete files, obsolete tests, number of skipped tests, the four counters, "is any counter
    non-zero", deleting?) followed by the newline of `fmt.Println`, or nothing if the summary is
    empty. -/
theorem clean_stdout_is_summary (o : Oracles) (w : World) (sortOpt : Bool) (runOnly : Text)
    (count : Nat) (hs : (clean o w sortOpt runOnly count).2.unsupported = none) :
    ∃ sa fr obsTests fs written, CleanRun o w sortOpt runOnly count sa fr obsTests fs written ∧
      (clean o w sortOpt runOnly count).2.stdout =
        (let s := summary fr.obsolete obsTests w.skipped.length w.events
            (decide (w.events.erred + w.events.added + w.events.updated + w.events.passed > 0))
            (summaryUpdate w.env sortOpt)
         if s = [] then [] else s ++ [nl]) ∧
      (summaryUpdate w.env sortOpt = true ↔ DeleteMode w.env) := by
  obtain ⟨sa, fr, obsT, fs, wr, run⟩ := clean_supported o w sortOpt runOnly count hs
  refine ⟨sa, fr, obsT, fs, wr, run, ?_, (deleteGates_iff w.env sortOpt).2.2⟩
  rw [run.result]
  rfl

/-- an unsupported run prints nothing -/
theorem clean_unsupported_silent (o : Oracles) (w : World) (sortOpt : Bool) (runOnly : Text)
    (count : Nat) (why : String) (hs : (clean o w sortOpt runOnly count).2.unsupported = some why) :
    (clean o w sortOpt runOnly count).2.stdout = [] ∧ (clean o w sortOpt runOnly count).1 = w := by
  rcases clean_cases o w sortOpt runOnly count with ⟨why', h'⟩ | ⟨sa, fr, obsT, fs, wr, run⟩
  · rw [h']; exact ⟨rfl, rfl⟩
  · rw [run.result] at hs; cases hs

/-! ## without clean mode nothing is lost, sorted or not -/

/-- **outside clean mode every snapshot file keeps all its entries** (any `sortOpt`, on or off CI):
    no file is removed, and whatever entry list `es` a path held before (as a `CleanFile`), it holds
    `render es'` with `es'` a permutation of `es` afterwards.

    Hypotheses, in terms of the world only (the `used` list of `examineFiles` is eliminated:
    `examineFiles_used_sub`, `examineSnaps_go_reads`):
    * `hcls` — no oracle miss on the registered files (a theorem when `runOnly = []`, see
      `clean_sort_only_keeps_everything` below);
    * `hok` — every registered snapshot file *that exists* is a `CleanFile`. -/
theorem clean_no_delete_no_loss (o : Oracles) (w : World) (sortOpt : Bool) (runOnly : Text)
    (count : Nat) (hm : ¬ DeleteMode w.env)
    (hs : (clean o w sortOpt runOnly count).2.unsupported = none)
    (hcls : ∀ p ∈ cleanRegPaths w, ∀ registered, registeredFor w.cleanup p count = some registered →
      ∀ tid, Classified o registered w.skipped runOnly tid)
    (hok : ∀ p ∈ cleanRegPaths w, ∀ c, fsRead w.fs p = some c → ∃ es, CleanFile es ∧ c = render es)
    (q : Text) (es : List Entry) (hfes : CleanFile es) (hq : fsRead w.fs q = some (render es)) :
    (clean o w sortOpt runOnly count).2.removed = [] ∧
    ∃ es', es'.Perm es ∧ CleanFile es' ∧
      fsRead (clean o w sortOpt runOnly count).1.fs q = some (render es') := by
  obtain ⟨sa, fr, obsT, fs, wr, run⟩ := clean_supported o w sortOpt runOnly count hs
  obtain ⟨g1, g2, _⟩ := deleteGates_closed w.env sortOpt hm
  have hfiles := run.files
  have hsn := run.snaps
  rw [g1] at hfiles
  rw [g2] at hsn
  obtain ⟨hrem, hfs⟩ := (C09.examineFiles_untouched _ _ _ _ _ _ _ hfiles).2.1 rfl
  have husub := examineFiles_used_sub _ _ _ _ _ _ _ hfiles
  rw [hfs] at hsn
  have hreads := examineSnaps_go_reads _ _ _ _ _ _ _ _ _ _ _ _ _ _ hsn
  have hok' : ∀ p ∈ fr.used, ∃ es, CleanFile es ∧ fsRead w.fs p = some (render es) := by
    intro p hp
    obtain ⟨c, hc⟩ := hreads p hp
    obtain ⟨es, hf, rfl⟩ := hok p (husub p hp) c hc
    exact ⟨es, hf, hc⟩
  have := C09.no_update_no_loss_all o w.fs w.cleanup w.skipped fr.used runOnly count
    (cleanSnapsSort w.env sortOpt) (fun p hp => hcls p (husub p hp)) hok' obsT fs wr hsn q es hfes hq
  rw [run.result]
  exact ⟨hrem, this⟩

/-- **sort-only runs keep everything** (`runOnly = []`, where no oracle is consulted): not in clean
    mode, `Sort(true)` (`_hci` is not needed: on CI nothing is sorted either) — no file is removed and every `CleanFile` holds a permutation of
    its entries afterwards -/
theorem clean_sort_only_keeps_everything (o : Oracles) (w : World) (count : Nat)
    (_hci : w.env.isCI = false) (ht : w.env.updateVAR ≠ "true") (hc : w.env.updateVAR ≠ "clean")
    (hs : (clean o w true [] count).2.unsupported = none)
    (hok : ∀ p ∈ cleanRegPaths w, ∀ c, fsRead w.fs p = some c → ∃ es, CleanFile es ∧ c = render es)
    (q : Text) (es : List Entry) (hfes : CleanFile es) (hq : fsRead w.fs q = some (render es)) :
    (clean o w true [] count).2.removed = [] ∧
    ∃ es', es'.Perm es ∧ CleanFile es' ∧ fsRead (clean o w true [] count).1.fs q = some (render es') :=
  clean_no_delete_no_loss o w true [] count (fun h => h.2.elim ht hc) hs
    (fun _ _ registered _ tid => classified_noRun o registered w.skipped tid) hok q es hfes hq

/-! ## concrete runs

Directory `/s` holds the registered file `a.snap` with the entries `[TestB - 1]` (registered in
this run) and `[TestA - 1]` (stale), in that — unsorted — order, and an orphan `b.snap`. -/

namespace Ex

def e1 : Entry := ⟨[91, 84, 101, 115, 116, 66, 32, 45, 32, 49, 93], [120]⟩
def e2 : Entry := ⟨[91, 84, 101, 115, 116, 65, 32, 45, 32, 49, 93], [121]⟩
def pa : Text := [47, 115, 47, 97, 46, 115, 110, 97, 112]
def pb : Text := [47, 115, 47, 98, 46, 115, 110, 97, 112]

def world (ci : Bool) (upd : String) : World :=
  { env := { isCI := ci, updateVAR := upd }
    fs := [(pa, render [e1, e2]), (pb, [2])]
    cleanup := [((pa, [84, 101, 115, 116, 66]), 1)]
    events := { passed := 1 } }

/-- on CI with `UPDATE_SNAPS=clean` and `Sort(true)`: nothing is touched (instance of 1) -/
example :
    let r := clean {} (world true "clean") true [] 1
    r.2.unsupported = none ∧ r.1.fs = (world true "clean").fs ∧ r.2.writes = [] ∧ r.2.removed = [] := by
  decide +kernel

/-- off CI, `UPDATE_SNAPS=""`, no sorting: nothing is touched (instance of 2) -/
example :
    let r := clean {} (world false "") false [] 1
    r.2.unsupported = none ∧ r.1.fs = (world false "").fs ∧ r.2.writes = [] ∧ r.2.removed = [] := by
  decide +kernel

/-- off CI, `UPDATE_SNAPS=clean`: the orphan is removed, the stale entry dropped (the gates are
    really open in this mode); everything but `fs` is as before -/
example :
    let r := clean {} (world false "clean") false [] 1
    r.2.unsupported = none ∧ r.1.fs = [(pa, render [e1])] ∧ r.2.writes = [pa] ∧ r.2.removed = [pb] ∧
    r.1.env = (world false "clean").env ∧ r.1.cleanup = (world false "clean").cleanup ∧
    r.1.events = (world false "clean").events := by
  decide +kernel

/-- off CI, `UPDATE_SNAPS=""`, `Sort(true)`: the file is rewritten sorted with BOTH entries, the
    orphan stays (instance of 6) -/
example :
    let r := clean {} (world false "") true [] 1
    r.2.unsupported = none ∧ r.1.fs = [(pa, render [e2, e1]), (pb, [2])] ∧ r.2.writes = [pa] ∧
    r.2.removed = [] := by
  decide +kernel

/-- what that last run prints (instance of 5): one obsolete file, one obsolete test, no skipped
    test, `passed = 1`, report wording (evaluated to bytes in C20Summary) -/
theorem sortOnly_stdout :
    (clean {} (world false "") true [] 1).2.stdout =
      summary [pb] [[84, 101, 115, 116, 65, 32, 45, 32, 49]] 0 { passed := 1 } true false ++ [nl] := by
  have run : CleanRun {} (world false "") true [] 1 []
      { obsolete := [pb], used := [pa], fs := (world false "").fs, removed := [] }
      [[84, 101, 115, 116, 65, 32, 45, 32, 49]] [(pa, render [e2, e1]), (pb, [2])] [pa] :=
    CleanRun.of_stages (by decide) (by decide +kernel) (by decide +kernel) (by decide +kernel)
  rw [run.result]
  have hne : summary [pb] [[84, 101, 115, 116, 65, 32, 45, 32, 49]] 0 { passed := 1 } true false ≠ [] := by
    simp [summary]
  have hu : summaryUpdate (world false "").env true = false := by decide +kernel
  simp only [cleanStdout, hu]
  rw [if_neg]
  · rfl
  · exact hne

end Ex

end GoSnaps.C05Clean
