/-
C06Refine — the byte-level file operations implement the abstract ones, and the serialisability
theorems of C06 hold for the protocol running on BYTES.

* abstract file  : `Conc.File Line Text = List (Line × Text)` with `lookup`, `++ [(id,b)]`, `setVal`;
* byte-level file: `Text` with `getPrev` (`getPrevSnapshot`), `++ frame ⟨id,b⟩`
  (`addNewSnapshot`), `update` (`updateSnapshot`) of `GoSnaps/Format.lean`;
* in between     : entry lists `List Entry`, related to bytes by `render` and to abstract files
  by `abs`.

`Good es` is the explicit, decidable well-formedness predicate under which `render es` behaves
like `abs es`; its duplicate-free part is not needed for the refinement itself, which holds for
`Sound es` (`getPrev` and `lookup` both return the FIRST entry of an id, `update` and `setVal`
both rewrite EVERY entry of an id), so the simulation holds under any lock discipline.
-/
import GoSnaps.Props.C04
import GoSnaps.Props.C06

namespace GoSnaps.C06Refine

open GoSnaps GoSnaps.Conc
open GoSnaps.Conc.C06 (allL)

def abs (es : List Entry) : File Line Text := es.map (fun e => (e.id, e.body))

def ids (es : List Entry) : List Line := es.map (·.id)

/-- entry-level counterpart of `setVal` -/
def setBody (es : List Entry) (id : Line) (b : Text) : List Entry :=
  es.map (fun e => if e.id = id then ⟨id, b⟩ else e)

/-- a usable header: one line, survives `bufio.ScanLines`, not the blank line that starts every
frame, not the terminator -/
def GoodId (id : Line) : Prop := NoNL id ∧ NoCRLine id ∧ id ≠ [] ∧ id ≠ endSeq

/-- a usable body: escaped (no line is the terminator) and no line ends in a carriage return -/
def GoodBody (b : Text) : Prop := Escaped b ∧ NoCRBody b

/-- all headers and bodies are usable and no body line equals a header of the file (NoShadow) -/
def Sound (es : List Entry) : Prop :=
  (∀ e ∈ es, GoodId e.id ∧ GoodBody e.body) ∧ (∀ e ∈ es, ∀ o ∈ es, o.id ∉ lines e.body)

def Good (es : List Entry) : Prop := Sound es ∧ (ids es).Nodup

instance (id : Line) : Decidable (GoodId id) := by unfold GoodId; infer_instance
instance (b : Text) : Decidable (GoodBody b) := by unfold GoodBody; infer_instance
instance (es : List Entry) : Decidable (Sound es) := by unfold Sound; infer_instance
instance (es : List Entry) : Decidable (Good es) := by unfold Good; infer_instance

theorem Good.sound {es : List Entry} (h : Good es) : Sound es := h.1

theorem mem_fileLines (l : Line) (es : List Entry) :
    l ∈ fileLines es ↔ ∃ e ∈ es, l ∈ entryLines e := by
  simp only [fileLines, List.mem_flatten, List.mem_map]
  constructor
  · rintro ⟨_, ⟨e, he, rfl⟩, hl⟩; exact ⟨e, he, hl⟩
  · rintro ⟨e, he, hl⟩; exact ⟨_, ⟨e, he, rfl⟩, hl⟩

theorem Sound.wf {es : List Entry} (h : Sound es) : C01.WF es := by
  refine ⟨fun e he => (h.1 e he).1.1, ?_⟩
  intro l hl
  obtain ⟨e, he, hle⟩ := (mem_fileLines l es).mp hl
  obtain ⟨hid, hb⟩ := h.1 e he
  rcases (mem_entryLines_iff l e).mp hle with rfl | rfl | hl | rfl
  · decide
  · exact hid.2.1
  · exact hb.2 l hl
  · decide

theorem Good.wf {es : List Entry} (h : Good es) : C01.WF es := h.1.wf

theorem not_mem_fileLines (id : Line) (es : List Entry) (h1 : id ≠ []) (h2 : id ≠ endSeq)
    (h3 : ∀ e ∈ es, e.id ≠ id ∧ id ∉ lines e.body) : id ∉ fileLines es := by
  intro hmem
  obtain ⟨e, he, hle⟩ := (mem_fileLines id es).mp hmem
  rcases (mem_entryLines_iff id e).mp hle with h | h | h | h
  · exact h1 h
  · exact (h3 e he).1 h.symm
  · exact (h3 e he).2 h
  · exact h2 h

theorem ids_subset_fileLines (es : List Entry) (id : Line) (h : id ∈ ids es) :
    id ∈ fileLines es := by
  simp only [ids, List.mem_map] at h
  obtain ⟨e, he, rfl⟩ := h
  exact (mem_fileLines _ _).mpr ⟨e, he, (mem_entryLines_iff _ _).mpr (Or.inr (Or.inl rfl))⟩

theorem abs_map_fst (es : List Entry) : (abs es).map Prod.fst = ids es := by
  simp [abs, ids]

theorem abs_append (es : List Entry) (id : Line) (b : Text) :
    abs (es ++ [⟨id, b⟩]) = abs es ++ [(id, b)] := by
  simp [abs]

theorem abs_setBody (es : List Entry) (id : Line) (b : Text) :
    abs (setBody es id b) = setVal (abs es) id b := by
  simp only [abs, setBody, setVal, List.map_map]
  apply List.map_congr_left
  intro e _
  by_cases h : e.id = id <;> simp [h]

theorem ids_setBody (es : List Entry) (id : Line) (b : Text) : ids (setBody es id b) = ids es := by
  rw [← abs_map_fst, abs_setBody, setVal_map_fst, abs_map_fst]

theorem exists_first (es : List Entry) (id : Line) (h : id ∈ ids es) :
    ∃ pre e post, es = pre ++ e :: post ∧ e.id = id ∧ ∀ o ∈ pre, o.id ≠ id := by
  induction es with
  | nil => simp [ids] at h
  | cons x xs ih =>
    by_cases hx : x.id = id
    · exact ⟨[], x, xs, rfl, hx, nofun⟩
    · obtain ⟨pre, e, post, rfl, he, hpre⟩ :=
        ih ((List.mem_cons.mp h).resolve_left fun e => hx e.symm)
      exact ⟨x :: pre, e, post, rfl, he, List.forall_mem_cons.mpr ⟨hx, hpre⟩⟩

theorem lookup_abs_first (pre : List Entry) (e : Entry) (post : List Entry)
    (h : ∀ o ∈ pre, o.id ≠ e.id) : lookup (abs (pre ++ e :: post)) e.id = some e.body := by
  induction pre with
  | nil => simp [abs, lookup]
  | cons x xs ih =>
    have hx : x.id ≠ e.id := h x (by simp)
    have := ih (fun o ho => h o (by simp [ho]))
    simp only [abs, List.cons_append, List.map_cons, lookup, hx, ↓reduceIte] at this ⊢
    exact this

/-- Lookup refines, duplicates allowed.  An id that is no header but occurs as a body line is
excluded: `getPrev` would find it. -/
theorem lookup_refines_sound (es : List Entry) (id : Line) (h : Sound es)
    (hid : id ∈ ids es ∨ id ∉ fileLines es) :
    (getPrev id (render es)).map Prod.fst = lookup (abs es) id := by
  rcases hid with hmem | habs
  · obtain ⟨pre, e, post, rfl, rfl, hpre⟩ := exists_first es id hmem
    have he : e ∈ pre ++ e :: post := List.mem_append_right _ (List.mem_cons_self ..)
    obtain ⟨hgid, hgb⟩ := h.1 e he
    have hshadow : e.id ∉ fileLines pre :=
      not_mem_fileLines _ _ hgid.2.2.1 hgid.2.2.2 fun o ho =>
        ⟨hpre o ho, h.2 o (List.mem_append_left _ ho) e he⟩
    rw [C01.getPrev_render pre e post h.wf hgid.2.2.1 hgb.1 hshadow,
      lookup_abs_first pre e post hpre]
    rfl
  · rw [C01.getPrev_absent id es h.wf habs]
    symm
    rw [Option.map_none, lookup_eq_none_iff, abs_map_fst]
    exact fun hm => habs (ids_subset_fileLines es id hm)

theorem lookup_refines (es : List Entry) (id : Line) (h : Good es)
    (hid : id ∈ ids es ∨ id ∉ fileLines es) :
    (getPrev id (render es)).map Prod.fst = lookup (abs es) id :=
  lookup_refines_sound es id h.1 hid

/-- Add refines: what `addNewSnapshot` appends is the frame of one more entry. -/
theorem add_refines (es : List Entry) (id : Line) (b : Text) :
    render es ++ frame ⟨id, b⟩ = render (es ++ [⟨id, b⟩]) ∧
    abs (es ++ [⟨id, b⟩]) = abs es ++ [(id, b)] :=
  ⟨by simp [render], abs_append es id b⟩

/-- the same through the format string read from the Go source -/
theorem addFmt_refines (es : List Entry) (id : Line) (b : Text) :
    (frameFmt id b).map (render es ++ ·) = some (render (es ++ [⟨id, b⟩])) :=
  C01.addNew_render es id b

theorem updateL_setBody (es : List Entry) (id : Line) (b' : Text)
    (h1 : id ≠ []) (h2 : id ≠ endSeq)
    (hesc : ∀ e ∈ es, e.id = id → Escaped e.body)
    (hsh : ∀ e ∈ es, id ∉ lines e.body) :
    updateL id b' false (fileLines es) = render (setBody es id b') := by
  induction es with
  | nil => simp [fileLines, setBody, render, updateL]
  | cons e es ih =>
    have ih' := ih (fun x hx => hesc x (by simp [hx])) (fun x hx => hsh x (by simp [hx]))
    rw [fileLines_cons]
    by_cases he : e.id = id
    · subst he
      rw [updateL_entry e b' _ h1 (hesc e (by simp) rfl), ih']
      simp [setBody, render_cons]
    · have hnot : id ∉ entryLines e := by
        intro hm
        rcases (mem_entryLines_iff id e).mp hm with h | h | h | h
        · exact h1 h
        · exact he h.symm
        · exact hsh e (by simp) h
        · exact h2 h
      rw [updateL_copy id b' _ _ hnot, flatMap_entryLines, ih']
      simp [setBody, render_cons, he]

/-- Update refines; duplicates allowed, the header may be absent. -/
theorem update_refines_sound (es : List Entry) (id : Line) (b' : Text) (h : Sound es)
    (h1 : id ≠ []) (h2 : id ≠ endSeq) (hsh : ∀ e ∈ es, id ∉ lines e.body) :
    update id b' (render es) = render (setBody es id b') ∧
    abs (setBody es id b') = setVal (abs es) id b' := by
  refine ⟨?_, abs_setBody es id b'⟩
  unfold update
  rw [C01.scan_render es h.wf]
  exact updateL_setBody es id b' h1 h2 (fun e he _ => (h.1 e he).2.1) hsh

/-- For a header of a `Good` file the side conditions of `update_refines_sound` hold, whatever
the new body. -/
theorem update_refines (es : List Entry) (id : Line) (b' : Text) (h : Good es)
    (hid : id ∈ ids es) :
    update id b' (render es) = render (setBody es id b') ∧
    abs (setBody es id b') = setVal (abs es) id b' := by
  simp only [ids, List.mem_map] at hid
  obtain ⟨o, ho, rfl⟩ := hid
  have hg := (h.1.1 o ho).1
  exact update_refines_sound es o.id b' h.1 hg.2.2.1 hg.2.2.2 (fun e he => h.1.2 e he o ho)

theorem Sound.add {es : List Entry} (h : Sound es) {id : Line} {b : Text}
    (hid : GoodId id) (hb : GoodBody b)
    (hnew : ∀ e ∈ es, id ∉ lines e.body)      -- the new header shadows no old body line
    (hold : ∀ o ∈ es, o.id ∉ lines b)         -- no old header is a line of the new body
    (hself : id ∉ lines b) :
    Sound (es ++ [⟨id, b⟩]) := by
  simp only [Sound, List.forall_mem_append, List.forall_mem_singleton]
  exact ⟨⟨h.1, hid, hb⟩, fun e he => ⟨h.2 e he, hnew e he⟩, hold, hself⟩

theorem Good.add {es : List Entry} (h : Good es) {id : Line} {b : Text}
    (hid : GoodId id) (hfresh : id ∉ fileLines es) (hb : GoodBody b)
    (hold : ∀ o ∈ es, o.id ∉ lines b) (hself : id ∉ lines b) :
    Good (es ++ [⟨id, b⟩]) := by
  refine ⟨h.1.add hid hb ?_ hold hself, ?_⟩
  · intro e he hm
    exact hfresh ((mem_fileLines _ _).mpr
      ⟨e, he, (mem_entryLines_iff _ _).mpr (Or.inr (Or.inr (Or.inl hm)))⟩)
  · rw [ids, List.map_append, List.nodup_append]
    refine ⟨h.2, by simp, fun a ha c hc e => hfresh (ids_subset_fileLines es id ?_)⟩
    have hc : c = id := List.mem_singleton.mp hc
    rw [← hc, ← e]
    exact ha

theorem mem_setBody {es : List Entry} {id : Line} {b : Text} {x : Entry}
    (hx : x ∈ setBody es id b) : ∃ e ∈ es, x.id = e.id ∧ (x = e ∨ x = ⟨id, b⟩) := by
  obtain ⟨e, he, rfl⟩ := List.mem_map.mp hx
  refine ⟨e, he, ?_⟩
  by_cases hid : e.id = id
  · rw [if_pos hid]; exact ⟨hid.symm, Or.inr rfl⟩
  · rw [if_neg hid]; exact ⟨rfl, Or.inl rfl⟩

theorem Sound.setBody {es : List Entry} (h : Sound es) (id : Line) {b' : Text}
    (hb : GoodBody b') (hold : ∀ o ∈ es, o.id ∉ lines b') : Sound (setBody es id b') := by
  constructor
  · intro x hx
    obtain ⟨e, he, h1, rfl | rfl⟩ := mem_setBody hx
    · exact h.1 _ he
    · exact ⟨h1 ▸ (h.1 e he).1, hb⟩
  · intro x hx y hy
    obtain ⟨e, he, _, h2⟩ := mem_setBody hx
    obtain ⟨o, ho, h3, _⟩ := mem_setBody hy
    rw [h3]
    rcases h2 with h2 | h2 <;> rw [h2]
    · exact h.2 e he o ho
    · exact hold o ho

theorem Good.setBody {es : List Entry} (h : Good es) (id : Line) {b' : Text}
    (hb : GoodBody b') (hold : ∀ o ∈ es, o.id ∉ lines b') : Good (setBody es id b') :=
  ⟨h.1.setBody id hb hold, by rw [ids_setBody]; exact h.2⟩

/-- the file operations on entry lists (the intermediate level) -/
def entryOps : FileOps (List Entry) Line Text where
  lookup := fun es id => lookup (abs es) id
  add := fun es id b => es ++ [⟨id, b⟩]
  set := setBody
  empty := []

/-- the file operations on bytes: `getPrevSnapshot`, `addNewSnapshot`, `updateSnapshot`'s buffer,
`Truncate(0)` -/
def byteOps : FileOps Text Line Text where
  lookup := fun f id => (getPrev id f).map Prod.fst
  add := fun f id b => f ++ frame ⟨id, b⟩
  set := fun f id b => update id b f
  empty := []

/-- the byte-level concurrent run: `Conc.gstep` with `lookup / append / setVal` replaced by
`getPrev / append frame / update` -/
def runBytes (L : Locks) (f₀ : Text) (progs : List (List (Call Line Text))) (sch : List Nat) :
    State Text Line Text :=
  grun byteOps L (init f₀ progs) sch

/-- harness entry point, byte level: final file bytes and per-thread outcome lists -/
def runScheduleBytes (addLocked updLocked readLocked : Bool) (f₀ : Text)
    (progs : List (List (Call Line Text))) (sch : List Nat) : Text × List (List Outcome) :=
  let σ := runBytes { add := addLocked, upd := updLocked, read := readLocked } f₀ progs sch
  (σ.file, σ.ts.map (·.outs))

/-- the headers `I` and bodies `B` in play (initial file and programs) are usable and no line of
a body in play equals a header in play -/
def Play (I : List Line) (B : List Text) : Prop :=
  (∀ id ∈ I, GoodId id) ∧ (∀ b ∈ B, GoodBody b) ∧ (∀ b ∈ B, ∀ id ∈ I, id ∉ lines b)

instance (I : List Line) (B : List Text) : Decidable (Play I B) := by unfold Play; infer_instance

/-- the file only uses headers and bodies in play -/
def InPlay (I : List Line) (B : List Text) (es : List Entry) : Prop :=
  ∀ e ∈ es, e.id ∈ I ∧ e.body ∈ B

instance (I : List Line) (B : List Text) (es : List Entry) : Decidable (InPlay I B es) := by
  unfold InPlay; infer_instance

/-- the programs only use headers and bodies in play -/
def CallsInPlay (I : List Line) (B : List Text) (progs : List (List (Call Line Text))) : Prop :=
  ∀ p ∈ progs, ∀ c ∈ p, c.slot ∈ I ∧ c.val ∈ B

instance (I : List Line) (B : List Text) (progs : List (List (Call Line Text))) :
    Decidable (CallsInPlay I B progs) := by unfold CallsInPlay; infer_instance

theorem Play.sound {I : List Line} {B : List Text} (hplay : Play I B) {es : List Entry}
    (h : InPlay I B es) : Sound es :=
  ⟨fun e he => ⟨hplay.1 _ (h e he).1, hplay.2.1 _ (h e he).2⟩,
   fun e he o ho => hplay.2.2 _ (h e he).2 _ (h o ho).1⟩

theorem lookup_inPlay {I : List Line} {B : List Text} (hplay : Play I B) {es : List Entry}
    (hes : InPlay I B es) (id : Line) (hid : id ∈ I) :
    (getPrev id (render es)).map Prod.fst = lookup (abs es) id := by
  have hg := hplay.1 _ hid
  refine lookup_refines_sound es id (hplay.sound hes) ?_
  by_cases hm : id ∈ ids es
  · exact Or.inl hm
  · refine Or.inr (not_mem_fileLines _ _ hg.2.2.1 hg.2.2.2 ?_)
    intro e he
    refine ⟨?_, hplay.2.2 _ (hes e he).2 _ hid⟩
    intro heq
    exact hm (by simp only [ids, List.mem_map]; exact ⟨e, he, heq⟩)

theorem hom_abs : Hom entryOps (absOps (κ := Line) (ν := Text)) abs (fun _ => True)
    (fun _ => True) where
  lookup := fun _ _ _ _ => rfl
  add := fun f c _ _ => (abs_append f c.slot c.val).symm
  set := fun f c _ _ => (abs_setBody f c.slot c.val).symm
  empty := rfl
  pAdd := fun _ _ _ _ => trivial
  pSet := fun _ _ _ _ => trivial
  pEmpty := trivial

/-- **The four refinement lemmas as a homomorphism**: `render` commutes with the file operations
on files and calls that use only headers and bodies in play. -/
theorem hom_render {I : List Line} {B : List Text} (hplay : Play I B) :
    Hom entryOps byteOps render (InPlay I B) (fun c => c.slot ∈ I ∧ c.val ∈ B) where
  lookup := by
    intro es c hes hc
    -- reduce the projections of `byteOps`/`entryOps` first: `exact` alone unfolds `getPrev`
    -- while unifying, which is slow
    simp only [byteOps, entryOps]
    exact lookup_inPlay hplay hes c.slot hc.1
  add := fun es c _ _ => (add_refines es c.slot c.val).1
  set := by
    intro es c hes hc
    have hg := hplay.1 _ hc.1
    exact (update_refines_sound es c.slot c.val (hplay.sound hes) hg.2.2.1 hg.2.2.2
      (fun e he => hplay.2.2 _ (hes e he).2 _ hc.1)).1
  empty := rfl
  pAdd := by
    intro es c hes hc e he
    rcases List.mem_append.mp he with he | he
    · exact hes e he
    · rw [List.mem_singleton.mp he]; exact hc
  pSet := by
    intro es c hes hc x hx
    obtain ⟨e, he, _, rfl | rfl⟩ := mem_setBody hx
    · exact hes _ he
    · exact hc
  pEmpty := fun _ he => absurd he List.not_mem_nil

/-- **Simulation**, any lock discipline, every schedule: the byte-level run and the abstract run
are both images of ONE run on entry lists, whose file stays in play (hence `Sound`). -/
theorem bytes_simulation {I : List Line} {B : List Text} (hplay : Play I B) (L : Locks)
    (es₀ : List Entry) (h0 : InPlay I B es₀) (progs : List (List (Call Line Text)))
    (hprogs : CallsInPlay I B progs) (sch : List Nat) :
    ∃ σe : State (List Entry) Line Text,
      runBytes L (render es₀) progs sch = σe.map render ∧
      run L (init (abs es₀) progs) sch = σe.map abs ∧
      InPlay I B σe.file := by
  obtain ⟨hr, hin, _⟩ := grun_map (hom_render hplay) L (init es₀ progs)
    (init_PState es₀ progs h0 hprogs) sch
  have ha := (grun_map hom_abs L (init es₀ progs)
    (init_PState es₀ progs trivial (fun _ _ _ _ => trivial)) sch).1
  refine ⟨grun entryOps L (init es₀ progs) sch, ?_, ?_, hin⟩
  · rw [hr, init_map]; rfl
  · rw [ha, init_map]; rfl

/-- **Serialisability on bytes.**  All three functions locked; headers and bodies in play are
usable and no body line in play equals a header in play (`Play I B`); the initial file is the
rendering of entries in play with pairwise distinct headers; the calls use headers and bodies in
play; threads own pairwise disjoint headers.  Then for EVERY schedule of the byte-level run:

1. every finished thread has produced the outcomes of running its program alone against the
   initial bytes (`getPrev · (render es₀)`);
2. once all threads have finished, the file is byte-for-byte `render esF` for a `Good` entry list
   `esF` whose abstraction satisfies `FinalOK`; `getPrev` on the final bytes returns, for every
   header in play, what `lookup` returns on that abstraction; and the lock is free. -/
theorem bytes_serialisable {I : List Line} {B : List Text} (hplay : Play I B) (L : Locks)
    (hL : L.add = true ∧ L.upd = true ∧ L.read = true)
    (es₀ : List Entry) (h0 : InPlay I B es₀) (hnd : (ids es₀).Nodup)
    (progs : List (List (Call Line Text))) (hprogs : CallsInPlay I B progs)
    (hdisj : Disj progs) (sch : List Nat) :
    (∀ (i : Nat) (t : TState Text Line Text),
      (runBytes L (render es₀) progs sch).ts[i]? = some t → t.todo = [] →
      ∃ p, progs[i]? = some p ∧
        t.outs = serialOuts (fun id => (getPrev id (render es₀)).map Prod.fst) p) ∧
    (AllDone (runBytes L (render es₀) progs sch) →
      ∃ esF, (runBytes L (render es₀) progs sch).file = render esF ∧ Good esF ∧
        FinalOK (abs es₀) progs (abs esF) ∧
        (∀ id ∈ I, (getPrev id (render esF)).map Prod.fst = lookup (abs esF) id) ∧
        (runBytes L (render es₀) progs sch).holder = none) := by
  obtain ⟨σe, hb, ha, hin⟩ := bytes_simulation hplay L es₀ h0 progs hprogs sch
  have hinv := reachable_inv hL (abs es₀) hdisj sch
  have hlen := reachable_length L (abs es₀) progs sch
  constructor
  · intro i t hti hdone
    rw [hb, State.map_ts_get] at hti
    obtain ⟨te, hte, rfl⟩ := Option.map_eq_some_iff.mp hti
    have hta : (run L (init (abs es₀) progs) sch).ts[i]? = some (te.map abs) := by
      rw [ha, State.map_ts_get, hte]; rfl
    obtain ⟨p, hp, ho⟩ := hinv.outs_of_done hta hdone
    exact ⟨p, hp, ho.trans (serialOuts_congr _ _ _ fun c hc =>
      (lookup_inPlay hplay h0 c.slot (hprogs p (List.mem_of_getElem? hp) c hc).1).symm)⟩
  · intro hdone
    have hdoneA : AllDone (run L (init (abs es₀) progs) sch) := by
      rw [ha, AllDone_map]; rw [hb, AllDone_map] at hdone; exact hdone
    have hfin := hinv.finalOK hlen hdoneA
    have hnone := hinv.holder_none hdoneA
    rw [ha] at hfin hnone
    refine ⟨σe.file, by rw [hb]; rfl, ⟨hplay.sound hin, ?_⟩, hfin,
      fun id hid => lookup_inPlay hplay hin id hid, by rw [hb]; exact hnone⟩
    rw [← abs_map_fst]
    exact hfin.nodup (by rw [abs_map_fst]; exact hnd)

/-- **Byte-level headline**: after all threads have finished, `getPrevSnapshot` on the final bytes
returns for every header exactly what its owner's serial run leaves, computed from what
`getPrevSnapshot` returned on the initial bytes. -/
theorem bytes_final_lookup {I : List Line} {B : List Text} (hplay : Play I B) (L : Locks)
    (hL : L.add = true ∧ L.upd = true ∧ L.read = true)
    (es₀ : List Entry) (h0 : InPlay I B es₀) (hnd : (ids es₀).Nodup)
    (progs : List (List (Call Line Text))) (hprogs : CallsInPlay I B progs)
    (hdisj : Disj progs) (sch : List Nat)
    (hdone : AllDone (runBytes L (render es₀) progs sch))
    (i : Nat) (p : List (Call Line Text)) (id : Line) (hp : progs[i]? = some p)
    (hown : ∃ c ∈ p, c.slot = id) :
    (getPrev id (runBytes L (render es₀) progs sch).file).map Prod.fst =
      serialFinal p id ((getPrev id (render es₀)).map Prod.fst) := by
  obtain ⟨esF, hfile, _, hfin, hlook, _⟩ :=
    (bytes_serialisable hplay L hL es₀ h0 hnd progs hprogs hdisj sch).2 hdone
  have hid : id ∈ I := by
    obtain ⟨c, hc, rfl⟩ := hown
    exact (hprogs p (List.mem_of_getElem? hp) c hc).1
  rw [hfile, hlook id hid, hfin.owned i p id hp hown, lookup_inPlay hplay h0 id hid]

/-! ## Examples (byte legend: `[91,65,93]` = "[A]", `[91,66,93]` = "[B]", `[91,67,93]` = "[C]",
`120/121/122` = 'x'/'y'/'z', `[110,10,10,119]` = "n\n\nw") -/

def exIds : List Line := [[91, 65, 93], [91, 66, 93], [91, 67, 93]]
def exBodies : List Text := [[120], [121], [122], [110, 10, 10, 119]]
def exEntries : List Entry := [⟨[91, 65, 93], [120]⟩, ⟨[91, 66, 93], [121]⟩]
/-- thread 0 updates "[A]" to a three-line body; thread 1 creates "[C]" and re-checks it -/
def exProgs : List (List (Call Line Text)) :=
  [ [⟨[91, 65, 93], [110, 10, 10, 119], false, true⟩],
    [⟨[91, 67, 93], [122], true, false⟩, ⟨[91, 67, 93], [122], false, false⟩] ]
/-- T0 READ, T1 READ, T0 lock + copy, T1 ADD (blocked), T0 truncate, T0 write, T1 ADD, T1 READ -/
def exSched : List Nat := [0, 1, 0, 1, 0, 0, 1, 1]

example : Good exEntries := by decide +kernel
example : Play exIds exBodies ∧ InPlay exIds exBodies exEntries ∧ (ids exEntries).Nodup ∧
    CallsInPlay exIds exBodies exProgs ∧ Disj exProgs := by decide +kernel

/-- lookup / add / update on a concrete `Good` file -/
example :
    (getPrev [91, 66, 93] (render exEntries)).map Prod.fst = lookup (abs exEntries) [91, 66, 93] ∧
    (getPrev [91, 67, 93] (render exEntries)).map Prod.fst = lookup (abs exEntries) [91, 67, 93] ∧
    update [91, 65, 93] [110, 10, 10, 119] (render exEntries) =
      render (setBody exEntries [91, 65, 93] [110, 10, 10, 119]) ∧
    Good (setBody exEntries [91, 65, 93] [110, 10, 10, 119]) ∧
    Good (exEntries ++ [⟨[91, 67, 93], [122]⟩]) := by decide +kernel

example : runScheduleBytes true true true (render exEntries) exProgs exSched =
    (render [⟨[91, 65, 93], [110, 10, 10, 119]⟩, ⟨[91, 66, 93], [121]⟩, ⟨[91, 67, 93], [122]⟩],
     [[.updated], [.added, .passed]]) := by decide +kernel

example : AllDone (runBytes allL (render exEntries) exProgs exSched) := by decide +kernel

example := bytes_serialisable (I := exIds) (B := exBodies) (by decide +kernel) allL ⟨rfl, rfl, rfl⟩
  exEntries (by decide +kernel) (by decide +kernel) exProgs (by decide +kernel) (by decide +kernel) exSched

/-- the lost update of `C06.lost_update_exists` (ADD unlocked) on bytes: "[C]" is reported `added`, but after thread 0's
truncate + write-back the final bytes contain no "[C]" entry -/
example :
    let r := runScheduleBytes false true true (render exEntries) exProgs [0, 1, 0, 1, 0, 0, 1, 1]
    r.2 = [[.updated], [.added, .failed]] ∧
    r.1 = render [⟨[91, 65, 93], [110, 10, 10, 119]⟩, ⟨[91, 66, 93], [121]⟩] ∧
    getPrev [91, 67, 93] r.1 = none := by decide +kernel

end GoSnaps.C06Refine
