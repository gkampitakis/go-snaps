/-
C13 — the failure report (NO_COLOR) is empty only for identical texts, and shows the true edit.

Everything is about the executable model definitions of `GoSnaps/Diff.lean` (compared with the Go
code by differential testing); the difflib layer is Lemmas/Difflib.lean and Props/C13Difflib.lean.
Concrete examples are checked by kernel evaluation (plain `decide` gets stuck on the well-founded
`extFwd`).  Byte legend: 10 = "\n", 32 = " ", 43 = "+", 45 = "-", 97.. = "a"..
-/
import GoSnaps.Lemmas.Diff
namespace GoSnaps.C13

open GoSnaps GoSnaps.Difflib

theorem splitNewlines_injective {a b : Text} : splitNewlines a = splitNewlines b → a = b :=
  splitNewlines_inj

example : splitNewlines [97, 10, 98] = [[97, 10], [98, 10]] ∧
    splitNewlines [97, 10, 98, 10] = [[97, 10], [98, 10], [10]] := by decide

theorem diff_text_empty_iff (e r : Text) : (getUnifiedDiff e r).text = [] ↔ e = r := by
  constructor
  · exact fun h => Classical.byContradiction fun hne => getUnifiedDiff_text_ne_nil hne h
  · rintro rfl
    rw [getUnifiedDiff_text]
    simp [diffRows, grouped_empty_of_eq, renderRows]

/-- **C13 main**: for ALL texts, names and line numbers, `prettyDiff` (NO_COLOR) returns the
empty report iff expected and received are byte-identical. -/
theorem report_empty_iff (e r name : Text) (line : Nat) : prettyDiff e r name line = [] ↔ e = r := by
  unfold prettyDiff
  split
  · simp [*]
  · rw [buildDiffReport_eq_nil_iff, diff_text_empty_iff]

/-- texts differing only in a trailing newline are reported -/
example : prettyDiff [97, 10, 98] [97, 10, 98, 10] [110] 5 ≠ [] :=
  fun h => absurd ((report_empty_iff _ _ _ _).mp h) (by decide)

/-- the whole report for "a\nb" vs "a\nc", name "n", line 5:
"\n- Snapshot - 1\n+ Received + 1\n\n  a\n- b\n+ c\n\nat n:5\n" -/
example : prettyDiff [97, 10, 98] [97, 10, 99] [110] 5 =
    [10, 45, 32, 83, 110, 97, 112, 115, 104, 111, 116, 32, 45, 32, 49, 10,
     43, 32, 82, 101, 99, 101, 105, 118, 101, 100, 32, 43, 32, 49, 10, 10,
     32, 32, 97, 10, 45, 32, 98, 10, 43, 32, 99, 10, 10, 97, 116, 32, 110, 58, 53, 10] := by
  decide +kernel

/-! `Row`, `Row.render`, `diffRows`, `delLines`, `insLines`: Lemmas/Diff.lean -/

theorem text_is_rendered_rows (a b : Text) :
    (getUnifiedDiff a b).text = ((diffRows a b).map Row.render).flatten :=
  getUnifiedDiff_text a b

/-- `deleted` = number of `-` rows emitted, `inserted` = number of `+` rows emitted -/
theorem counts_match (a b : Text) :
    (getUnifiedDiff a b).deleted = ((diffRows a b).filter Row.isDel).length ∧
    (getUnifiedDiff a b).inserted = ((diffRows a b).filter Row.isIns).length := by
  rw [getUnifiedDiff_eq]
  exact ⟨(Nat.zero_add _).trans (length_filterMap_rows (fun r => by cases r <;> rfl) _),
    (Nat.zero_add _).trans (length_filterMap_rows (fun r => by cases r <;> rfl) _)⟩

/-- "a\nb\nc" vs "a\nx\ny\nc": one context row, one `-` row, two `+` rows, one context row -/
example : diffRows [97, 10, 98, 10, 99] [97, 10, 120, 10, 121, 10, 99] =
    [.eq [97, 10], .del [98, 10], .ins [120, 10], .ins [121, 10], .eq [99, 10]] := by
  decide +kernel

example : (getUnifiedDiff [97, 10, 98, 10, 99] [97, 10, 120, 10, 121, 10, 99]).deleted = 1 ∧
    (getUnifiedDiff [97, 10, 98, 10, 99] [97, 10, 120, 10, 121, 10, 99]).inserted = 2 := by
  decide +kernel

/-- the printed `-` / `+` rows are precisely the `a`- / `b`-sides of the change opcodes of the
full list (grouping into hunks loses none and adds none) -/
theorem shown_changes (a b : Text) :
    delLines (diffRows a b) =
      (getOpCodes (splitNewlines a) (splitNewlines b)).flatMap (delSlice (splitNewlines a)) ∧
    insLines (diffRows a b) =
      (getOpCodes (splitNewlines a) (splitNewlines b)).flatMap (insSlice (splitNewlines b)) :=
  ⟨filterMap_diffRows _ _ a b (fun _ => rfl) (delLines_opRowsS _ _) fun _ => delSlice_equal,
    filterMap_diffRows _ _ a b (fun _ => rfl) (insLines_opRowsS _ _) fun _ => insSlice_equal⟩

/-- the `-` rows, in the order printed, form a sublist of the lines of `a` -/
theorem minus_rows_from_a (a b : Text) : (delLines (diffRows a b)).Sublist (splitNewlines a) := by
  rw [(shown_changes a b).1]
  have h := delSlice_sublist_aParts (splitNewlines a) (getOpCodes (splitNewlines a) (splitNewlines b))
  rwa [opcodes_cover_a] at h

/-- the `+` rows, in the order printed, form a sublist of the lines of `b` -/
theorem plus_rows_from_b (a b : Text) : (insLines (diffRows a b)).Sublist (splitNewlines b) := by
  rw [(shown_changes a b).2]
  have h := insSlice_sublist_bParts (splitNewlines b) (getOpCodes (splitNewlines a) (splitNewlines b))
  rwa [opcodes_cover_b] at h

theorem minus_row_mem (a b l : Text) (h : Row.del l ∈ diffRows a b) : l ∈ splitNewlines a := by
  apply (minus_rows_from_a a b).subset
  exact List.mem_filterMap.mpr ⟨_, h, rfl⟩

theorem plus_row_mem (a b l : Text) (h : Row.ins l ∈ diffRows a b) : l ∈ splitNewlines b := by
  apply (plus_rows_from_b a b).subset
  exact List.mem_filterMap.mpr ⟨_, h, rfl⟩

example : (delLines (diffRows [97, 10, 98, 10, 99] [97, 10, 120, 10, 121, 10, 99])).Sublist
    [[97, 10], [98, 10], [99, 10]] := minus_rows_from_a [97, 10, 98, 10, 99] _

example : delLines (diffRows [97, 10, 98, 10, 99] [97, 10, 120, 10, 121, 10, 99]) = [[98, 10]] ∧
    insLines (diffRows [97, 10, 98, 10, 99] [97, 10, 120, 10, 121, 10, 99]) = [[120, 10], [121, 10]] := by
  decide +kernel

/-! What is not shown as changed is identical: `residueA a ops` / `residueB b ops`
(Lemmas/Diff.lean) keep the `a`- resp. `b`-ranges of the Equal opcodes only, i.e. they drop
exactly the positions covered by change opcodes. -/

/-- on the full opcode list, the residues of `a` and `b` coincide (any element type) -/
theorem residue_equal {α : Type} [DecidableEq α] (a b : List α) :
    residueA a (getOpCodes a b) = residueB b (getOpCodes a b) :=
  residue_eq_of_forall a b _ (fun c hc ht => equal_only_identical a b c hc ht)

/-- the hunks of the report contain exactly the change opcodes of the full list, in order -/
theorem hunks_same_changes (a b : Text) :
    changes (getGroupedOpCodes (splitNewlines a) (splitNewlines b) Generated.diffContext).flatten =
      changes (getOpCodes (splitNewlines a) (splitNewlines b)) :=
  grouped_changes _ _ _

/-- … `a` is partitioned (in order) into its residue pieces and its `-` rows, `b` into its
residue pieces and its `+` rows … -/
theorem partition_a (a b : Text) :
    (getOpCodes (splitNewlines a) (splitNewlines b)).flatMap
      (fun c => (if c.tag = opEqual then slice (splitNewlines a) c.i1 c.i2 else []) ++
        delSlice (splitNewlines a) c) = splitNewlines a := by
  rw [flatMap_eq_aParts (splitNewlines a), opcodes_cover_a]
  intro c hc
  obtain ⟨_, _, _, _, hcase⟩ := (opcodes_tile (splitNewlines a) (splitNewlines b)).2.2.2.2 c hc
  -- Equal: the residue piece; Insert: the `a`-range is empty; Delete, Replace: the `-` rows
  rcases hcase with ⟨h, _⟩ | ⟨h, h1, _⟩ | ⟨h, _⟩ | ⟨h, _⟩
  · simp [h, delSlice]
  · simp [h, delSlice, h1, slice, sliceL]
  · simp [h, delSlice, sliceL_eq_slice]
  · simp [h, delSlice, sliceL_eq_slice]

theorem partition_b (a b : Text) :
    (getOpCodes (splitNewlines a) (splitNewlines b)).flatMap
      (fun c => (if c.tag = opEqual then slice (splitNewlines b) c.j1 c.j2 else []) ++
        insSlice (splitNewlines b) c) = splitNewlines b := by
  rw [flatMap_eq_bParts (splitNewlines b), opcodes_cover_b]
  intro c hc
  obtain ⟨_, _, _, _, hcase⟩ := (opcodes_tile (splitNewlines a) (splitNewlines b)).2.2.2.2 c hc
  -- Equal: the residue piece; Delete: the `b`-range is empty; Insert, Replace: the `+` rows
  rcases hcase with ⟨h, _⟩ | ⟨h, _⟩ | ⟨h, _, h1⟩ | ⟨h, _⟩
  · simp [h, insSlice]
  · simp [h, insSlice, sliceL_eq_slice]
  · simp [h, insSlice, h1, slice, sliceL]
  · simp [h, insSlice, sliceL_eq_slice]

/-- … and the two residues are the same list of lines: deleting the `-` rows from `a` and the
`+` rows from `b` (at the positions of the change opcodes) leaves identical texts. -/
theorem residue_equal_lines (a b : Text) :
    residueA (splitNewlines a) (getOpCodes (splitNewlines a) (splitNewlines b)) =
    residueB (splitNewlines b) (getOpCodes (splitNewlines a) (splitNewlines b)) :=
  residue_equal _ _

example :
    residueA (splitNewlines [97, 10, 98, 10, 99]) (getOpCodes (splitNewlines [97, 10, 98, 10, 99])
      (splitNewlines [97, 10, 120, 10, 121, 10, 99])) = [[97, 10], [99, 10]] ∧
    residueB (splitNewlines [97, 10, 120, 10, 121, 10, 99]) (getOpCodes (splitNewlines [97, 10, 98, 10, 99])
      (splitNewlines [97, 10, 120, 10, 121, 10, 99])) = [[97, 10], [99, 10]] := by
  decide +kernel

/-- positional reading: `residueA` is literally `a` with the positions lying in the `a`-range
of some change opcode deleted (`keepUncovered`, `covA`: Lemmas/Diff.lean), likewise for `b` -/
theorem residue_is_positional {α : Type} [DecidableEq α] (a b : List α) :
    residueA a (getOpCodes a b) = keepUncovered (covA (getOpCodes a b)) a 0 ∧
    residueB b (getOpCodes a b) = keepUncovered (covB (getOpCodes a b)) b 0 := by
  have h := getOpCodes_tile a b
  exact ⟨residue_chain a (·.i1) (·.i2) _ 0 (Tile_chain _ 0 0 h).1,
    residue_chain b (·.j1) (·.j2) _ 0 (Tile_chain _ 0 0 h).2⟩

/-- `residue_equal` in positional form: delete from `a` every position covered by the `a`-range of a
non-Equal opcode and from `b` every position covered by the `b`-range of a non-Equal opcode:
the two remaining lists are equal. -/
theorem residue_equal_positional {α : Type} [DecidableEq α] (a b : List α) :
    keepUncovered (covA (getOpCodes a b)) a 0 = keepUncovered (covB (getOpCodes a b)) b 0 := by
  rw [← (residue_is_positional a b).1, ← (residue_is_positional a b).2]
  exact residue_equal a b

example :
    keepUncovered (covA (getOpCodes (splitNewlines [97, 10, 98, 10, 99])
      (splitNewlines [97, 10, 120, 10, 121, 10, 99]))) (splitNewlines [97, 10, 98, 10, 99]) 0
      = [[97, 10], [99, 10]] := by
  decide +kernel

/-- a 12-line text ("a".."l") with line 6 changed: more than 10 lines, so a hunk header
"@@ -3,7 +3,7 @@" is printed and only 3 lines of context on each side are shown -/
example :
    diffRows [97,10,98,10,99,10,100,10,101,10,102,10,103,10,104,10,105,10,106,10,107,10,108]
             [97,10,98,10,99,10,100,10,101,10,120,10,103,10,104,10,105,10,106,10,107,10,108] =
    [.range [64, 64, 32, 45, 51, 44, 55, 32, 43, 51, 44, 55, 32, 64, 64, 10, 10],
     .eq [99, 10], .eq [100, 10], .eq [101, 10], .del [102, 10], .ins [120, 10],
     .eq [103, 10], .eq [104, 10], .eq [105, 10]] := by
  decide +kernel

/-! The report adds no ESC byte (NO_COLOR).  Byte 27 (ESC) starts every ANSI colour sequence.  The
report is a concatenation of ESC-free constants, decimal numbers, hunk headers (a `String` rendered
through `ofString`: `esc_not_in_formatRangeUnified`) and pieces of the inputs, so it contains an
ESC only if an input does. -/

theorem range_header_no_escape (s e : Nat) : (27 : Byte) ∉ ofString (formatRangeUnified s e) :=
  esc_not_in_formatRangeUnified s e

theorem number_no_escape (n : Nat) : (27 : Byte) ∉ natToText n := esc_not_in_natToText n

theorem no_escape_added (e r name : Text) (line : Nat)
    (h : (27 : Byte) ∈ prettyDiff e r name line) :
    (27 : Byte) ∈ e ∨ (27 : Byte) ∈ r ∨ (27 : Byte) ∈ name := by
  unfold prettyDiff at h
  split at h
  · simp at h
  · rcases esc_of_buildDiffReport h with h | h
    · rcases esc_of_diff_text h with h | h
      · exact Or.inl h
      · exact Or.inr (Or.inl h)
    · exact Or.inr (Or.inr h)

/-- ESC-free inputs give an ESC-free report (here with a hunk header) -/
example : (27 : Byte) ∉ prettyDiff
    [97,10,98,10,99,10,100,10,101,10,102,10,103,10,104,10,105,10,106,10,107,10,108]
    [97,10,98,10,99,10,100,10,101,10,120,10,103,10,104,10,105,10,106,10,107,10,108] [110] 7 :=
  fun h => absurd (no_escape_added _ _ _ _ h) (by decide)

/-- an ESC in the input is shown verbatim (it is not stripped) -/
example : (27 : Byte) ∈ prettyDiff [27, 91, 51, 49, 109, 97] [97] [110] 7 := by decide +kernel

end GoSnaps.C13
