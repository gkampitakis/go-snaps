/-
C02World — a changed value is reported, at the level of CALLS of `entryTail` / `matchEntry` /
`standaloneTail` (`GoSnaps/Model.lean`).

`cmpText cmp` (Lemmas/World.lean) is what a taker compares: the text itself for MatchJSON
(`.raw`), `unescape` of it for MatchSnapshot / MatchYAML (`.escaped`).

Byte legend: `[45,45,45]` = "---", `[47,45,47,45,47,45,47]` = TOK (the escape token line),
`[123,125]` = "{}", `[91,93]` = "[]", 120/121 = 'x'/'y', `[47,115]` = "/s".
-/
import GoSnaps.Lemmas.World
import GoSnaps.Props.C01World

namespace GoSnaps.C02World

open GoSnaps GoSnaps.C06Refine GoSnaps.Wld
open GoSnaps.C03 (testID)
open GoSnaps.Generated (Env shouldCreate shouldUpdate)

/-- Both comparison kinds.  The line number in the report is that of the header in the file. -/
theorem entryTail_mismatch (w : World) (c : Cfg) (p rel id s s₀ : Text) (cmp : Cmp)
    (pre post : List Entry)
    (hfile : Holds w.fs p (pre ++ ⟨id, s₀⟩ :: post)) (hgood : Good (pre ++ ⟨id, s₀⟩ :: post))
    (hne : cmpText cmp s₀ ≠ cmpText cmp s)
    (hu : shouldUpdate w.env c.update = false) :
    let r := entryTail w c p rel id s cmp
    let d := prettyDiff (cmpText cmp s₀) (cmpText cmp s) rel ((fileLines pre).length + 2)
    d ≠ [] ∧ r.2.events = [.error d] ∧ r.2.writes = [] ∧ r.2.removed = [] ∧
    r.2.unsupported = none ∧ r.1.fs = w.fs ∧
    r.1.events = { w.events with erred := w.events.erred + 1 } := by
  intro r d
  have hq : (fsRead w.fs p).bind (getPrev id) = some (s₀, (fileLines pre).length + 2) := by
    rw [hfile.lookup id]; exact good_lookup_split hgood
  obtain ⟨hr, hd⟩ := entryTail_found_ne_ro w c p rel id s cmp s₀ _ hq hne hu
  have hr' : r = _ := hr
  rw [hr']
  exact ⟨hd, rfl, rfl, rfl, rfl, rfl, rfl⟩

/-- membership form: some line number -/
theorem entryTail_mismatch_mem (w : World) (c : Cfg) (p rel id s s₀ : Text) (cmp : Cmp)
    (es : List Entry) (hfile : Holds w.fs p es) (hgood : Good es)
    (hm : (⟨id, s₀⟩ : Entry) ∈ es)
    (hne : cmpText cmp s₀ ≠ cmpText cmp s)
    (hu : shouldUpdate w.env c.update = false) :
    let r := entryTail w c p rel id s cmp
    ∃ d, d ≠ [] ∧ r.2.events = [.error d] ∧ r.2.writes = [] ∧ r.2.removed = [] ∧
      r.2.unsupported = none ∧ r.1.fs = w.fs ∧
      r.1.events = { w.events with erred := w.events.erred + 1 } := by
  obtain ⟨pre, post, rfl⟩ := List.append_of_mem hm
  exact ⟨_, entryTail_mismatch w c p rel id s s₀ cmp pre post hfile hgood hne hu⟩

/-- MatchJSON: ANY byte difference is reported. -/
theorem entryTail_mismatch_raw (w : World) (c : Cfg) (p rel id s s₀ : Text)
    (pre post : List Entry)
    (hfile : Holds w.fs p (pre ++ ⟨id, s₀⟩ :: post)) (hgood : Good (pre ++ ⟨id, s₀⟩ :: post))
    (hne : s ≠ s₀) (hu : shouldUpdate w.env c.update = false) :
    let r := entryTail w c p rel id s .raw
    let d := prettyDiff s₀ s rel ((fileLines pre).length + 2)
    d ≠ [] ∧ r.2.events = [.error d] ∧ r.2.writes = [] ∧ r.2.removed = [] ∧
    r.2.unsupported = none ∧ r.1.fs = w.fs ∧
    r.1.events = { w.events with erred := w.events.erred + 1 } :=
  entryTail_mismatch w c p rel id s s₀ .raw pre post hfile hgood (fun h => hne h.symm) hu

/-- `MatchSnapshot` / `MatchYAML` compare unescaped texts -/
theorem entryTail_mismatch_escaped (w : World) (c : Cfg) (p rel id s s₀ : Text)
    (pre post : List Entry)
    (hfile : Holds w.fs p (pre ++ ⟨id, s₀⟩ :: post)) (hgood : Good (pre ++ ⟨id, s₀⟩ :: post))
    (hne : unescape s₀ ≠ unescape s) (hu : shouldUpdate w.env c.update = false) :
    let r := entryTail w c p rel id s .escaped
    let d := prettyDiff (unescape s₀) (unescape s) rel ((fileLines pre).length + 2)
    d ≠ [] ∧ r.2.events = [.error d] ∧ r.2.writes = [] ∧ r.2.removed = [] ∧
    r.2.unsupported = none ∧ r.1.fs = w.fs ∧
    r.1.events = { w.events with erred := w.events.erred + 1 } :=
  entryTail_mismatch w c p rel id s s₀ .escaped pre post hfile hgood hne hu

/-- stored "{}", received "[]", on CI -/
example :
    let p : Text := [47, 115]
    let es : List Entry := [⟨testID [65] 1, [120]⟩, ⟨testID [65] 2, [123, 125]⟩]
    let w : World := { env := ⟨true, ""⟩, fs := [(p, render es)] }
    let r := entryTail w {} p [115] (testID [65] 2) [91, 93] .raw
    Good es ∧ r.2.events = [.error (prettyDiff [123, 125] [91, 93] [115] 6)] ∧
    prettyDiff [123, 125] [91, 93] [115] 6 ≠ [] ∧ r.2.writes = [] ∧ r.1.fs = w.fs ∧
    r.1.events.erred = 1 := by decide +kernel

/-- Any mode, both comparison kinds.  (If the compared texts differ the single event is the error,
or — when updating is allowed — the "updated" log.) -/
theorem entryTail_silent_iff (w : World) (c : Cfg) (p rel id s s₀ : Text) (cmp : Cmp)
    (es : List Entry) (hfile : Holds w.fs p es) (hgood : Good es)
    (hm : (⟨id, s₀⟩ : Entry) ∈ es) :
    (entryTail w c p rel id s cmp).2.events = [] ↔ cmpText cmp s₀ = cmpText cmp s := by
  constructor
  · intro hev
    apply Classical.byContradiction
    intro hne
    obtain ⟨line, hl⟩ := good_lookup_mem hgood hm
    have hf : fsRead w.fs p = some (render es) :=
      hfile.some_of_ne_nil (List.ne_nil_of_mem hm)
    cases hu : shouldUpdate w.env c.update with
    | false =>
      have hq : (fsRead w.fs p).bind (getPrev id) = some (s₀, line) := by
        rw [hfile.lookup id]; exact hl
      rw [(entryTail_found_ne_ro w c p rel id s cmp s₀ line hq hne hu).1] at hev
      exact List.cons_ne_nil _ _ hev
    | true =>
      rw [entryTail_found_ne_upd w c p rel id s cmp s₀ line _ hf hl hne hu] at hev
      exact List.cons_ne_nil _ _ hev
  · intro heq
    rw [entryTail_pass w c p rel id s s₀ cmp es hfile hgood hm heq]

/-- MatchJSON instance -/
theorem entryTail_raw_silent_iff (w : World) (c : Cfg) (p rel id s s₀ : Text)
    (es : List Entry) (hfile : Holds w.fs p es) (hgood : Good es)
    (hm : (⟨id, s₀⟩ : Entry) ∈ es) :
    (entryTail w c p rel id s .raw).2.events = [] ↔ s₀ = s :=
  entryTail_silent_iff w c p rel id s s₀ .raw es hfile hgood hm

/-- in terms of the VALUES: MatchSnapshot stores `escape v₀` and receives `escape v`; the call is
silent iff the values agree up to exchanging "---" and TOK lines (`C02.canon`,
`C02.conflate_iff`) — this is where known finding D10 lives … -/
theorem matchSnapshot_silent_iff_canon (w : World) (c : Cfg) (p rel id v v₀ : Text)
    (es : List Entry) (hfile : Holds w.fs p es) (hgood : Good es)
    (hm : (⟨id, escape v₀⟩ : Entry) ∈ es) :
    (entryTail w c p rel id (escape v) .escaped).2.events = [] ↔ C02.canon v₀ = C02.canon v :=
  (entryTail_silent_iff w c p rel id (escape v) (escape v₀) .escaped es hfile hgood hm).trans
    (C02.conflate_iff v₀ v)

/-- … and for values without a TOK line it is silent iff the values are equal -/
theorem matchSnapshot_silent_iff_eq (w : World) (c : Cfg) (p rel id v v₀ : Text)
    (es : List Entry) (hfile : Holds w.fs p es) (hgood : Good es)
    (hm : (⟨id, escape v₀⟩ : Entry) ∈ es) (h₀ : C02.NoTokLine v₀) (h : C02.NoTokLine v) :
    (entryTail w c p rel id (escape v) .escaped).2.events = [] ↔ v₀ = v := by
  rw [matchSnapshot_silent_iff_canon w c p rel id v v₀ es hfile hgood hm, C02.canon_id v₀ h₀,
    C02.canon_id v h]

/-- a changed value without TOK lines is reported by MatchSnapshot (values, not stored texts) -/
theorem matchSnapshot_mismatch_values (w : World) (c : Cfg) (p rel id v v₀ : Text)
    (pre post : List Entry)
    (hfile : Holds w.fs p (pre ++ ⟨id, escape v₀⟩ :: post))
    (hgood : Good (pre ++ ⟨id, escape v₀⟩ :: post))
    (h₀ : C02.NoTokLine v₀) (h : C02.NoTokLine v) (hne : v ≠ v₀)
    (hu : shouldUpdate w.env c.update = false) :
    let r := entryTail w c p rel id (escape v) .escaped
    let d := prettyDiff v₀ v rel ((fileLines pre).length + 2)
    d ≠ [] ∧ r.2.events = [.error d] ∧ r.2.writes = [] ∧ r.2.removed = [] ∧
    r.2.unsupported = none ∧ r.1.fs = w.fs ∧
    r.1.events = { w.events with erred := w.events.erred + 1 } := by
  have e₀ : cmpText .escaped (escape v₀) = v₀ := C02.unescape_escape_id v₀ h₀
  have e : cmpText .escaped (escape v) = v := C02.unescape_escape_id v h
  have := entryTail_mismatch w c p rel id (escape v) (escape v₀) .escaped pre post hfile hgood
    (by rw [e₀, e]; exact hne.symm) hu
  rwa [e₀, e] at this

/-- a mismatch in a value containing the terminator: stored "a\n---" (escaped), received "a\n--" -/
example :
    let p : Text := [47, 115]
    let v₀ : Text := [97, 10, 45, 45, 45]
    let v : Text := [97, 10, 45, 45]
    let es : List Entry := [⟨testID [65] 1, escape v₀⟩]
    let w : World := { env := ⟨false, ""⟩, fs := [(p, render es)] }
    let r := entryTail w {} p [115] (testID [65] 1) (escape v) .escaped
    Good es ∧ r.2.events = [.error (prettyDiff v₀ v [115] 2)] ∧ r.2.writes = [] ∧ r.1.fs = w.fs := by
  decide +kernel

/-- **D10 at the level of a call**: the stored value is "---", the received value is TOK — two
different values — and MatchSnapshot passes silently, in a `Good` file, even on CI. -/
example :
    let p : Text := [47, 115]
    let v₀ : Text := [45, 45, 45]
    let v : Text := [47, 45, 47, 45, 47, 45, 47]
    let es : List Entry := [⟨testID [65] 1, escape v₀⟩]
    let w : World := { env := ⟨true, ""⟩, fs := [(p, render es)] }
    let r := entryTail w {} p [115] (testID [65] 1) (escape v) .escaped
    v ≠ v₀ ∧ Good es ∧ r.2.events = [] ∧ r.1.events.passed = 1 := by decide +kernel

/-- the `k`-th call of test `t` (running counter `k - 1`) against the recorded `[t - k]` -/
theorem matchEntry_mismatch (w : World) (c : Cfg) (caller t : Text) (x : Nat) (cmp : Cmp)
    (s s₀ p rel : Text) (pre post : List Entry)
    (hsp : snapshotPath c caller t false = (p, some rel))
    (hfile : Holds w.fs p (pre ++ ⟨testID t (alGet w.running (p, t) + 1), s₀⟩ :: post))
    (hgood : Good (pre ++ ⟨testID t (alGet w.running (p, t) + 1), s₀⟩ :: post))
    (hne : cmpText cmp s₀ ≠ cmpText cmp s)
    (hu : shouldUpdate w.env c.update = false) :
    let r := matchEntry w c caller t x cmp (.ok s)
    let d := prettyDiff (cmpText cmp s₀) (cmpText cmp s) rel ((fileLines pre).length + 2)
    d ≠ [] ∧ r.2.events = [.error d] ∧ r.2.writes = [] ∧ r.2.removed = [] ∧
    r.2.unsupported = none ∧ r.1.fs = w.fs ∧
    r.1.events = { w.events with erred := w.events.erred + 1 } := by
  intro r d
  have hr : r = _ := matchEntry_eq w c caller t x cmp s p rel hsp
  rw [hr]
  exact entryTail_mismatch (bumped w p t x) c p rel _ s s₀ cmp pre post hfile hgood hne hu

/-- test "A" of "/t/a_test.go" (`C01World.exCaller`, file `C01World.exPath`): its SECOND call
(running counter 1) receives "{}" where "[A - 2]" holds "[]"; read-only because `Update(false)` -/
example :
    let es : List Entry := [⟨testID [65] 1, [120]⟩, ⟨testID [65] 2, [91, 93]⟩]
    let w : World := { env := ⟨false, "true"⟩, fs := [(C01World.exPath, render es)],
                       running := [((C01World.exPath, [65]), 1)] }
    let r := matchEntry w { update := some false } C01World.exCaller [65] 7 .raw (.ok [123, 125])
    r.2.events = [.error (prettyDiff [91, 93] [123, 125] C01World.exRel 6)] ∧ r.2.writes = [] ∧
    r.1.fs = w.fs ∧ r.1.events.erred = 1 ∧ alGet r.1.running (C01World.exPath, [65]) = 2 := by
  decide +kernel

/-- the file holds `prev` and the received text differs: the report is non-empty and the mode
decides between the error and the overwrite -/
theorem standaloneTail_found_ne (w : World) (c : Cfg) (p rel s prev : Text)
    (hf : fsRead w.fs p = some prev) (hne : s ≠ prev) :
    prettyDiff prev s rel 1 ≠ [] ∧
    standaloneTail w c p rel s =
      if !shouldUpdate w.env c.update then handleError w (prettyDiff prev s rel 1)
      else
        ({ w with fs := fsWrite w.fs p s,
                  events := { w.events with updated := w.events.updated + 1 } },
         { events := [.log Generated.go_updatedMsg], writes := [p] }) := by
  have hd : prettyDiff prev s rel 1 ≠ [] := fun h => hne ((C13.report_empty_iff _ _ _ _).mp h).symm
  refine ⟨hd, ?_⟩
  unfold standaloneTail
  simp only [hf]
  rw [if_neg hd]

/-- `prev` is arbitrary bytes: a standalone file is compared as a whole, not parsed. -/
theorem standaloneTail_mismatch (w : World) (c : Cfg) (p rel s prev : Text)
    (hf : fsRead w.fs p = some prev) (hne : s ≠ prev)
    (hu : shouldUpdate w.env c.update = false) :
    let r := standaloneTail w c p rel s
    let d := prettyDiff prev s rel 1
    d ≠ [] ∧ r.2.events = [.error d] ∧ r.2.writes = [] ∧ r.2.removed = [] ∧
    r.2.unsupported = none ∧ r.1.fs = w.fs ∧
    r.1.events = { w.events with erred := w.events.erred + 1 } := by
  intro r d
  obtain ⟨hd, hr⟩ := standaloneTail_found_ne w c p rel s prev hf hne
  rw [hu] at hr
  have hr' : r = handleError w d := hr
  rw [hr']
  exact ⟨hd, rfl, rfl, rfl, rfl, rfl, rfl⟩

theorem standaloneTail_silent_iff (w : World) (c : Cfg) (p rel s prev : Text)
    (hf : fsRead w.fs p = some prev) :
    (standaloneTail w c p rel s).2.events = [] ↔ prev = s := by
  constructor
  · intro hev
    apply Classical.byContradiction
    intro hne
    rw [(standaloneTail_found_ne w c p rel s prev hf (Ne.symm hne)).2] at hev
    cases hu : shouldUpdate w.env c.update <;> rw [hu] at hev <;> exact List.cons_ne_nil _ _ hev
  · rintro rfl
    exact (C19.standalone_replay w c p rel prev hf).1

/-- the file holds "x\r\n---", received "x\n---" (a carriage return lost): reported -/
example :
    let p : Text := [47, 115]
    let prev : Text := [120, 13, 10, 45, 45, 45]
    let s : Text := [120, 10, 45, 45, 45]
    let w : World := { env := ⟨false, "nope"⟩, fs := [(p, prev)] }
    let r := standaloneTail w {} p [115] s
    r.2.events = [.error (prettyDiff prev s [115] 1)] ∧ prettyDiff prev s [115] 1 ≠ [] ∧
    r.2.writes = [] ∧ r.1.fs = w.fs := by decide +kernel

end GoSnaps.C02World
