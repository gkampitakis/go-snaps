/-
Tie: the hand-written loop-faithful port `GoSnaps.Difflib` (lean/GoSnaps/Difflib.lean, the subject of
Lemmas/Difflib.lean and Props/C13Difflib.lean) against the transliteration of
/repo/internal/difflib/difflib.go that tools/extract regenerates on every run
(`GoSnaps.Generated.DifflibGen`; run-time semantics GoSnaps/GoDiff.lean).

This file: the conversions between the hand port's `Nat` records and the generated `Int` records; the
definitions in which the named instances of agreement are stated (`agreeOn`, `allAgree`, `b2jAgree`: all pairs
of sequences over a two-letter alphabet up to a length, and one 200-line input on which the popularity purge of
`chainB` is active) — the instances themselves (`finite_agreement_len3`, `finite_agreement_len4`,
`finite_b2j_purge`, `finite_agreement_purge`) stand at the end of Props/Tie/DifflibGen2.lean, as corollaries of
the theorems for all inputs proved there; generated `min` / `max`; and generated `getOpCodes`, which is the hand
port's `opLoop` applied to whatever the generated `getMatchingBlocks` returns.
-/
import GoSnaps.Generated.DifflibGen
import GoSnaps.Difflib
namespace GoSnaps.Tie.DifflibGen
open GoSnaps GoSnaps.Generated GoSnaps.Generated.DifflibGen

/-- hand-port opcode (`Nat` fields) as the generated one (`Int` fields) -/
def opI (o : Difflib.OpCode) : GoIO.OpCodeI := ⟨o.tag, o.i1, o.i2, o.j1, o.j2⟩
def mI (x : Difflib.Match) : DifflibGen.Match := ⟨x.i, x.j, x.k⟩

/-- all sequences over the letters "x", "y" of length ≤ n -/
def seqsOf : Nat → List (List (List UInt8))
  | 0 => [[]]
  | n + 1 => (seqsOf n) ++ ((seqsOf n).filter (·.length = n)).flatMap (fun s => [[120] :: s, [121] :: s])

/-- the generated `NewMatcher(a, b).GetGroupedOpCodes(n)` returns (no panic, no bound hit) what the
    hand port computes -/
def agreeOn (a b : List (List UInt8)) (n : Nat) : Bool :=
  decide (DifflibGen.groupedOpCodes a b (n : Int) = some ((Difflib.getGroupedOpCodes a b n).map (·.map opI)))

def allAgree (L : Nat) (ns : List Nat) : Bool :=
  (seqsOf L).all fun a => (seqsOf L).all fun b => ns.all fun n => agreeOn a b n

/-- 200 lines: 100 distinct ones, each followed by the line "x", which is therefore POPULAR
    (100 occurrences > 200/100 + 1): `chainB` purges it from `b2j` -/
def bigB : List (List UInt8) := (List.range 100).flatMap (fun i => [[i.toUInt8], [120]])
def smallA : List (List UInt8) := [[120], [5], [120], [120], [7], [120], [8], [121], [120], [120]]

/-- `b2j` of the generated `NewMatcher(_, b)` against the hand port's `Difflib.b2j`, for the keys `ks` -/
def b2jAgree (b ks : List (List UInt8)) : Bool :=
  ks.all fun x => decide (GoDiff.mapGet (NewMatcher [] b).b2j x [] = (Difflib.b2j b x).map (fun (k : Nat) => (k : Int)))


theorem genMin_eq (a b : Int) : DifflibGen.min a b = Min.min a b := by
  unfold DifflibGen.min
  by_cases h : a < b <;> simp [h, Int.min_def] <;> omega

theorem genMax_eq (a b : Int) : DifflibGen.max a b = Max.max a b := by
  unfold DifflibGen.max
  by_cases h : a > b <;> simp [h, Int.max_def] <;> omega

/-- on natural numbers (truncated subtraction on the hand port's side) -/
theorem max_sub_cast (i1 i2 n : Nat) : DifflibGen.max (i1 : Int) ((i2 : Int) - (n : Int)) = ((Max.max i1 (i2 - n) : Nat) : Int) := by
  rw [genMax_eq]; omega

theorem min_add_cast (i2 i1 n : Nat) : DifflibGen.min (i2 : Int) ((i1 : Int) + (n : Int)) = ((Min.min i2 (i1 + n) : Nat) : Int) := by
  rw [genMin_eq]; omega

theorem forIn_opt_foldl {α β : Type} (l : List α) (F : α → β → Option (ForInStep β)) (f : β → α → β)
    (hF : ∀ a b, F a b = some (ForInStep.yield (f b a))) (b : β) :
    forIn (m := Option) l b F = some (l.foldl f b) :=
  GoSem.forIn_yield_foldl l F f hF b

/-- one iteration of the loop of `getOpCodes` on the state (i, j, opCodes), with Go's `int` -/
def opStep (st : Int × Int × List GoIO.OpCodeI) (x : DifflibGen.Match) : Int × Int × List GoIO.OpCodeI :=
  let tag : Int :=
    if st.1 < x.a ∧ st.2.1 < x.b then 3 else if st.1 < x.a then 2 else if st.2.1 < x.b then 1 else 0
  let out1 := if 0 < tag then st.2.2 ++ [⟨tag, st.1, x.a, st.2.1, x.b⟩] else st.2.2
  let out2 := if 0 < x.size then out1 ++ [⟨0, x.a, x.a + x.size, x.b, x.b + x.size⟩] else out1
  (x.a + x.size, x.b + x.size, out2)

/-- one step of the fold on converted values is one iteration of the hand port's `opLoop` -/
theorem opStep_mI (i j : Nat) (out : List Difflib.OpCode) (x : Difflib.Match) :
    opStep ((i : Int), (j : Int), out.map opI) (mI x) =
      (((x.i + x.k : Nat) : Int), ((x.j + x.k : Nat) : Int), (Difflib.opLoop [x] i j out).map opI) := by
  simp only [opStep, mI, Difflib.opLoop, Int.ofNat_lt, Int.natCast_pos, Int.natCast_add]
  by_cases h1 : i < x.i <;> by_cases h2 : j < x.j <;> by_cases h3 : 0 < x.k <;>
    simp [h1, h2, h3, opI, Difflib.opReplace, Difflib.opDelete, Difflib.opInsert, Difflib.opEqual]

theorem foldl_opStep (ms : List Difflib.Match) (i j : Nat) (out : List Difflib.OpCode) :
    ((ms.map mI).foldl opStep ((i : Int), (j : Int), out.map opI)).2.2 = (Difflib.opLoop ms i j out).map opI := by
  induction ms generalizing i j out with
  | nil => rfl
  | cons x xs ih => rw [List.map_cons, List.foldl_cons, opStep_mI, ih]; rfl

/-- **getOpCodes, relative to getMatchingBlocks** (every fuel, every matcher whose opcode cache is
    empty): if the generated `getMatchingBlocks` returns `(m', mbs)`, the generated `getOpCodes` returns
    the fold of `opStep` over `mbs` (and caches it in `m'`) -/
theorem getOpCodes_of_getMatchingBlocks (fuel : Nat) (m m' : Matcher) (mbs : List DifflibGen.Match)
    (hm : m.opCodes = none) (h : sequenceMatcher_getMatchingBlocks fuel m = some (m', mbs)) :
    sequenceMatcher_getOpCodes fuel m =
      some ({ m' with opCodes := some (mbs.foldl opStep (0, 0, [])).2.2 }, (mbs.foldl opStep (0, 0, [])).2.2) := by
  unfold sequenceMatcher_getOpCodes
  simp only [hm, h, Option.isSome_none, Option.bind_eq_bind, Option.bind_some, Option.pure_def,
    Bool.false_eq_true, if_false]
  rw [forIn_opt_foldl mbs _ opStep]
  · simp
  · intro x st
    obtain ⟨i, j, out⟩ := st
    simp only [opStep]
    by_cases h1 : i < x.a <;> by_cases h2 : j < x.b <;> by_cases h3 : 0 < x.size <;>
      simp [h1, h2, h3]

/-- **getOpCodes agrees with the hand port, GIVEN that getMatchingBlocks does** -/
theorem getOpCodes_agrees (fuel : Nat) (m m' : Matcher) (a b : List (List UInt8))
    (hm : m.opCodes = none)
    (h : sequenceMatcher_getMatchingBlocks fuel m = some (m', (Difflib.getMatchingBlocks a b).map mI)) :
    (sequenceMatcher_getOpCodes fuel m).map (·.2) = some ((Difflib.getOpCodes a b).map opI) := by
  rw [getOpCodes_of_getMatchingBlocks fuel m m' _ hm h]
  have := foldl_opStep (Difflib.getMatchingBlocks a b) 0 0 []
  simp only [List.map_nil, Int.natCast_zero] at this
  simp only [Option.map_some, Difflib.getOpCodes]
  rw [← this]

end GoSnaps.Tie.DifflibGen
