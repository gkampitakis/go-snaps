/-
Tie by proof (conventions: GoSnaps/Props/Tie.lean): `snapshotPath` (snaps/snapshot.go)

Parameters: `trimpath` = the package variable `isTrimBathBuild`, `caller` = the result of
`baseCaller(3)`.  The Go result is `(snapPath, snapPathRel)`; the model (which assumes a
non-trimpath build) returns `(snapPath, fpRel (fpDir caller) snapPath)` (`fpDir caller` escaped when standalone) with `fpRel : Option`.
-/
import GoSnaps.Generated.Funcs
import GoSnaps.Props.C11
namespace GoSnaps.Tie
open GoSnaps

/-- the model's `fpRel` has no answer exactly when one of its operands is relative -/
theorem fpRel_eq_none_iff (base targ : Text) :
    fpRel base targ = none ↔ (fpIsAbs base && fpIsAbs targ) = false := by
  unfold fpRel
  cases fpIsAbs base <;> cases fpIsAbs targ <;> simp

/-- **Tie, non-trimpath build.**  The first component is the model's; the second is the model's
relative path when it has one (`some r` ↦ `r`, Go's `err == nil`), and `""` when the model's
`fpRel` is `none` — there the transliteration takes Go's error shape `("", err)`, and `_` discards
the error (`GoSem.filepathRel`; by `fpRel_eq_none_iff` this happens only when the caller's
directory or the snapshot path is relative, which `baseCaller`'s absolute file names exclude). -/
theorem snapshotPath_tied (caller : Text) (c : Cfg) (tName : Text) (sa : Bool) :
    Generated.Funcs.snapshotPath false caller c tName sa =
      ((GoSnaps.snapshotPath c caller tName sa).1, ((GoSnaps.snapshotPath c caller tName sa).2).getD []) := by
  unfold Generated.Funcs.snapshotPath GoSnaps.snapshotPath Generated.Funcs.escapeFormat GoSnaps.escapeFormat
  simp only [C11.constructFilename_tied]
  cases sa <;> cases h : fpIsAbs c.snapsDir <;> simp [Id.run, pure, GoSem.filepathRel] <;> split <;> simp_all

/-- `-trimpath` build (outside the model's assumption): `Dir` is used as is, even when relative, and
    the "relative" path is the path itself -/
theorem snapshotPath_trimpath (caller : Text) (c : Cfg) (tName : Text) (sa : Bool) :
    Generated.Funcs.snapshotPath true caller c tName sa =
      (fpJoin [if sa then GoSnaps.escapeFormat c.snapsDir else c.snapsDir, GoSnaps.constructFilename c caller tName sa],
       fpJoin [if sa then GoSnaps.escapeFormat c.snapsDir else c.snapsDir, GoSnaps.constructFilename c caller tName sa]) := by
  unfold Generated.Funcs.snapshotPath Generated.Funcs.escapeFormat GoSnaps.escapeFormat
  cases sa <;> simp [C11.constructFilename_tied, Id.run, pure]

/-- when the model has a relative path, Go returns exactly it -/
theorem snapshotPath_rel (caller : Text) (c : Cfg) (tName : Text) (sa : Bool) (r : Text)
    (h : (GoSnaps.snapshotPath c caller tName sa).2 = some r) :
    Generated.Funcs.snapshotPath false caller c tName sa = ((GoSnaps.snapshotPath c caller tName sa).1, r) := by
  rw [snapshotPath_tied, h]; rfl

end GoSnaps.Tie
