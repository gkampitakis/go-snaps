/-
Tie by proof (conventions: GoSnaps/Props/Tie.lean): `escapeEndChars` / `unescapeEndChars` (snaps/snapshot.go)

`ss := strings.Split(s, "\n"); for idx, s := range ss { if s == X { ss[idx] = Y } };
return strings.Join(ss, "\n")` — the loop is a `for` over `GoSem.enum ss` updating the mutable
`ss` with `GoSem.setAt`; `forIn_enum_setAt` shows that it computes a `List.map`.
-/
import GoSnaps.Generated.Funcs
import GoSnaps.Escape
namespace GoSnaps.Tie
open GoSnaps

/-- the range-with-index-assignment loop is a `map` -/
theorem forIn_enum_setAt (src dst : Text) (l pre : List Text) :
    forIn (m := Id) (GoSem.enumFrom (pre.length : Int) l) (pre ++ l) (fun x r =>
        if x.snd = src then pure (ForInStep.yield (GoSem.setAt r x.fst dst)) else pure (ForInStep.yield r)) =
      pure (pre ++ l.map (fun x => if x = src then dst else x)) := by
  induction l generalizing pre with
  | nil => simp [GoSem.enumFrom]
  | cons x xs ih =>
    have h1 := ih (pre ++ [x])
    have h2 := ih (pre ++ [dst])
    simp only [List.length_append, List.length_singleton, List.append_assoc, List.singleton_append,
      Int.natCast_add, Int.cast_ofNat_Int] at h1 h2
    by_cases hx : x = src
    · simp [GoSem.enumFrom, hx, GoSem.setAt_append_length]
      simpa [hx] using h2
    · simp [GoSem.enumFrom, hx]
      simpa [hx] using h1

/-- **Tie**: equality with the model's `escape` -/
theorem escapeEndChars_tied (s : Text) : Generated.Funcs.escapeEndChars s = GoSnaps.escape s := by
  have h := forIn_enum_setAt Generated.go_endSequence [47, 45, 47, 45, 47, 45, 47] (lines s) []
  have e1 : Generated.escapeFrom = Generated.go_endSequence := by decide
  have e2 : Generated.escapeTo = [47, 45, 47, 45, 47, 45, 47] := by decide
  unfold Generated.Funcs.escapeEndChars GoSnaps.escape mapLines
  simp [Id.run, pure, GoSem.enum, e1, e2] at h ⊢
  rw [h]; rfl

/-- **Tie**: equality with the model's `unescape` -/
theorem unescapeEndChars_tied (s : Text) : Generated.Funcs.unescapeEndChars s = GoSnaps.unescape s := by
  have h := forIn_enum_setAt [47, 45, 47, 45, 47, 45, 47] Generated.go_endSequence (lines s) []
  have e1 : Generated.unescapeFrom = [47, 45, 47, 45, 47, 45, 47] := by decide
  have e2 : Generated.unescapeTo = Generated.go_endSequence := by decide
  unfold Generated.Funcs.unescapeEndChars GoSnaps.unescape mapLines
  simp [Id.run, pure, GoSem.enum, e1, e2] at h ⊢
  rw [h]; rfl

end GoSnaps.Tie
