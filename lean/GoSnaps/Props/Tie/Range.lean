/-
Tie by proof (conventions: GoSnaps/Props/Tie.lean): `FormatRangeUnified` (internal/difflib/difflib.go)

The model returns a Lean `String` built with `toString`; `ofString` is its UTF-8 byte list.
`ofString_toString_nat` (Lemmas/Diff.lean) / `ofString_toString_int` identify Lean's decimal rendering with the
model's `natToText` and with `GoSem.itoa` (`strconv.Itoa`).
-/
import GoSnaps.Generated.Funcs
import GoSnaps.Lemmas.Diff
import GoSnaps.Props.Tie.Diff
namespace GoSnaps.Tie
open GoSnaps

theorem ofString_toString_int (i : Int) : ofString (toString i) = GoSem.itoa i := by
  show ofString (Int.repr i) = _
  cases i with
  | ofNat m =>
    have := ofString_toString_nat m
    rw [Nat.toString_eq_repr] at this
    simp only [Int.repr, this]
    exact (GoSem.itoa_natCast m).symm
  | negSucc m =>
    have := ofString_toString_nat (m + 1)
    rw [Nat.toString_eq_repr] at this
    have hd : ofString "-" = [45] := by rw [ofString_eq]; decide
    simp only [Int.repr, ofString_append, this, hd]
    unfold GoSem.itoa
    rw [if_pos (by omega)]
    simp

theorem ofString_repr_nat (n : Nat) : ofString n.repr = natToText n := by
  rw [← Nat.toString_eq_repr]; exact ofString_toString_nat n

theorem ofString_repr_int (i : Int) : ofString (Int.repr i) = GoSem.itoa i := ofString_toString_int i

theorem FormatRangeUnified_spec (a b : Int) :
    Generated.Funcs.FormatRangeUnified a b =
      if b - a = 1 then GoSem.itoa (a + 1)
      else GoSem.itoa (if b - a = 0 then a + 1 - 1 else a + 1) ++ [44] ++ GoSem.itoa (b - a) := by
  unfold Generated.Funcs.FormatRangeUnified
  by_cases h1 : b - a = 1
  · simp [Id.run, pure, h1]
  · by_cases h0 : b - a = 0 <;> simp [Id.run, pure, h1, h0]

/-- **Tie**: for `start stop : Nat` (line numbers) the bytes of the model's string -/
theorem FormatRangeUnified_tied (start stop : Nat) :
    Generated.Funcs.FormatRangeUnified (start : Int) (stop : Int) =
      ofString (Difflib.formatRangeUnified start stop) := by
  have hc : ofString "," = [44] := by rw [ofString_eq]; decide
  rw [FormatRangeUnified_spec]
  unfold Difflib.formatRangeUnified
  by_cases h1 : (stop : Int) - (start : Int) = 1
  · rw [if_pos h1, if_pos h1, ofString_toString_nat]
    exact GoSem.itoa_natCast (start + 1)
  · rw [if_neg h1, if_neg h1, ofString_append, ofString_append, hc, ofString_toString_nat,
      ofString_toString_int]
    by_cases h0 : (stop : Int) - (start : Int) = 0
    · rw [if_pos h0, if_pos h0]
      have : (start : Int) + 1 - 1 = ((start + 1 - 1 : Nat) : Int) := by omega
      rw [this, GoSem.itoa_natCast]
    · rw [if_neg h0, if_neg h0]
      have : (start : Int) + 1 = ((start + 1 : Nat) : Int) := by omega
      rw [this, GoSem.itoa_natCast]

end GoSnaps.Tie
