/-
Tie by proof: from single calls to HISTORIES — the history theorems of
`Props/C01World.lean` (and history versions of the call theorems of `C02World.lean`, `C04World.lean`)
as statements about the TRANSLITERATED code of `Generated/FuncsIO.lean`.

`runCleanups` (written here, not transliterated: the Go side is `testing`'s) is what a `testing.T` does when it
ends: the closures passed to `t.Cleanup` — the transliterated resets — run, last registered first, and are dropped;
`goStep` / `goRun` execute a history (`C01World.Step`) with the transliterations `matchJSON`, `matchYAML` and with
`runCleanups`; `goRun_simulates'` lifts the simulation `StRel` of `Tie/Flows.lean` to histories; the history
theorems `go_replay_history` (C01), `go_mismatch_history` (C02), `go_update_history` (C04) follow.

## How a model step is executed (the choice made for escaped-mode calls)

The model's `Step.call t s cmp x` carries the snapshot text `s` AFTER formatting and escaping.
* `.raw` (MatchJSON): `matchJSON … ⟨t, x⟩ s []` with a validation that accepts the input as it is, no
  matchers and the identity as formatter: the call stores / compares exactly `s` (`docPre_plain`).
* `.escaped` (MatchYAML, MatchSnapshot): `matchYAML … ⟨t, x⟩ (unescape s) []` — the document whose stored
  form is `s`.  This needs `escape (unescape s) = s` (`StepOK`), which holds for every text without a
  line "---" (`escape_unescape_of_escaped`), in particular for every `GoodBody` — a hypothesis of all
  the model's history theorems — so the transferred theorems have exactly the model theorems'
  hypotheses (`HistOK_of_bodies`).  Conversely every call the test code can make is such a step:
  `MatchYAML(t, d)` is the step `.call t (escape d) .escaped x` (`goStep_of_matchYAML`: the flow looks at
  `escape d` only) and `MatchSnapshot(t, vals…)` with at least one value is the step
  `.call t (escape (unlines vals)) .escaped x` (`goStep_of_matchSnapshot`), for every failure oracle.

Build mode: `trimpath = false` (the model's).
-/
import GoSnaps.Props.Tie.Flows
import GoSnaps.Props.Tie.Registry
import GoSnaps.Props.C01World
import GoSnaps.Props.C02World
import GoSnaps.Props.C04World
import GoSnaps.Lemmas.CleanWorld
namespace GoSnaps.Tie
open GoSnaps GoSnaps.GoIO
open GoSnaps.Generated.FuncsIO
open GoSnaps.C06Refine GoSnaps.Wld
open GoSnaps.C01World (Step Scoped calledNames texts entriesFrom entriesOf headers Inv)
open GoSnaps.C03 (testID)
open GoSnaps.Generated (Env shouldCreate shouldUpdate)

/-- one closure passed to `t.Cleanup`, run: `registry.reset(snapPath, t.Name())` resp.
    `standaloneTestsRegistry.reset(snapPath)`; `none` = panic -/
def runCleanup (st : St) : Cleanup → Option St
  | .resetReg p n => (syncRegistry_reset st.reg p n).map fun r => { st with reg := r }
  | .resetSReg p => some { st with sreg := syncStandaloneRegistry_reset st.sreg p }

def runCleanupList : St → List Cleanup → Option St
  | st, [] => some st
  | st, c :: cs => (runCleanup st c).bind fun s => runCleanupList s cs

/-- the end of test execution `id`: its cleanups run, last registered first (`St.tCleanup` conses, so
    that is the order of `st.cleanups`; the model's `endTest` folds over `pending` in the same order),
    and are dropped -/
def runCleanups (st : St) (id : Nat) : Option St :=
  (runCleanupList st ((st.cleanups.filter (·.1 = id)).map (·.2))).map
    fun s => { s with cleanups := st.cleanups.filter (·.1 ≠ id) }

theorem pendOf_fst (ic : Nat × Cleanup) : (pendOf ic).1 = ic.1 := by
  obtain ⟨i, c⟩ := ic
  cases c <;> rfl

/-- `pendOf` keeps the `testing.T`, so filtering by it commutes with the translation -/
theorem filter_map_pendOf (l : List (Nat × Cleanup)) (q : Nat → Bool) :
    (l.filter (fun ic => q ic.1)).map pendOf = (l.map pendOf).filter (fun x => q x.1) := by
  rw [List.filter_map]
  congr 2
  funext ic
  simp [pendOf_fst]

/-- **one cleanup**: from related states, given that `running[snapPath]` exists (`StRel.resetOK`), the
    closure does not panic and is one `resetStep` of the model's `endTest` -/
theorem runCleanup_tied {st : St} {w : World} (h : StRel st w) (i : Nat) (c : Cleanup)
    (hc : ∀ p n, c = .resetReg p n → map2Has st.reg.running p = true) :
    ∃ st', runCleanup st c = some st' ∧ StRel st' (resetStep w (pendOf (i, c))) ∧
      st'.tev = st.tev ∧ st'.cleanups = st.cleanups ∧ st'.fs = st.fs ∧
      ∀ q, map2Has st'.reg.running q = map2Has st.reg.running q := by
  cases c with
  | resetReg p n =>
    obtain ⟨r', e, hr, _, hhas⟩ :=
      syncRegistry_reset_tied st.reg w.running w.cleanup p n h.reg (hc p n rfl)
    refine ⟨{ st with reg := r' }, ?_, ?_, rfl, rfl, rfl, hhas⟩
    · simp [runCleanup, e]
    · exact ⟨h.env, h.fs, hr, h.sreg, h.erred, h.added, h.updated, h.passed, h.skipped, h.pending,
        fun i q m hm => by rw [hhas]; exact h.resetOK i q m hm⟩
  | resetSReg p =>
    refine ⟨{ st with sreg := syncStandaloneRegistry_reset st.sreg p }, rfl, ?_, rfl, rfl, rfl,
      fun _ => rfl⟩
    exact ⟨h.env, h.fs, h.reg, syncStandaloneRegistry_reset_tied _ _ _ p h.sreg, h.erred, h.added,
      h.updated, h.passed, h.skipped, h.pending, h.resetOK⟩

theorem runCleanupList_tied (l : List (Nat × Cleanup)) : ∀ (st : St) (w : World), StRel st w →
    (∀ i p n, (i, Cleanup.resetReg p n) ∈ l → map2Has st.reg.running p = true) →
    ∃ st', runCleanupList st (l.map (·.2)) = some st' ∧
      StRel st' ((l.map pendOf).foldl resetStep w) ∧
      st'.tev = st.tev ∧ st'.cleanups = st.cleanups ∧ st'.fs = st.fs := by
  induction l with
  | nil => intro st w h _; exact ⟨st, rfl, h, rfl, rfl, rfl⟩
  | cons ic l ih =>
    intro st w h hok
    obtain ⟨i, c⟩ := ic
    obtain ⟨s1, e1, h1, t1, c1, f1, has1⟩ := runCleanup_tied h i c (fun p n hc => by
      subst hc; exact hok i p n (by simp))
    obtain ⟨s2, e2, h2, t2, c2, f2⟩ := ih s1 _ h1 (fun j p n hm => by
      rw [has1]; exact hok j p n (List.mem_cons_of_mem _ hm))
    refine ⟨s2, ?_, ?_, t2.trans t1, c2.trans c1, f2.trans f1⟩
    · simp only [List.map_cons, runCleanupList, e1, Option.bind_some]; exact e2
    · simpa only [List.map_cons, List.foldl_cons] using h2

/-- **Tie**: the cleanups of `testing.T` number `id`, run on the transliterated registries, do not panic
    from a state related to a world of the model, are the model's `endTest`, and report nothing -/
theorem runCleanups_tied {st : St} {w : World} (h : StRel st w) (id : Nat) :
    ∃ st', runCleanups st id = some st' ∧ StRel st' (endTest w id) ∧ st'.tev = st.tev := by
  obtain ⟨s1, e1, h1, t1, c1, _⟩ := runCleanupList_tied (st.cleanups.filter (·.1 = id)) st w h
    (fun i p n hm => h.resetOK i p n (List.mem_filter.mp hm).1)
  refine ⟨{ s1 with cleanups := st.cleanups.filter (·.1 ≠ id) }, ?_, ?_, t1⟩
  · simp only [runCleanups, e1, Option.map_some]
  · have hW : (st.cleanups.filter (·.1 = id)).map pendOf = w.pending.filter (·.1 = id) := by
      rw [filter_map_pendOf _ (· = id), h.pending]
    rw [hW] at h1
    rw [endTest_eq]
    exact ⟨h1.env, h1.fs, h1.reg, h1.sreg, h1.erred, h1.added, h1.updated, h1.passed, h1.skipped,
      by rw [resetFold_pending, ← h.pending]; exact filter_map_pendOf _ (· ≠ id),
      fun i p n hm => h1.resetOK i p n (by rw [c1]; exact (List.mem_filter.mp hm).1)⟩

/-! ### the order of the cleanups does not matter (about the transliterated code alone)

Every closure writes 0 to its own key of `running` and nothing else, so the outcome of running a list of
closures — whether one of them panics, and every counter afterwards — depends only on WHICH closures are
in the list.  (The maps are association lists, so "the same" is: every read gives the same answer.) -/

structure CleanupFrame (st st' : St) : Prop where
  env : st'.env = st.env
  fs : st'.fs = st.fs
  events : st'.events = st.events
  skipped : st'.skipped = st.skipped
  cleanups : st'.cleanups = st.cleanups
  tev : st'.tev = st.tev
  stdout : st'.stdout = st.stdout
  cleanup : st'.reg.cleanup = st.reg.cleanup
  scleanup : st'.sreg.cleanup = st.sreg.cleanup
  has : ∀ q, map2Has st'.reg.running q = map2Has st.reg.running q

theorem CleanupFrame.refl (st : St) : CleanupFrame st st :=
  ⟨rfl, rfl, rfl, rfl, rfl, rfl, rfl, rfl, rfl, fun _ => rfl⟩

theorem CleanupFrame.trans {a b c : St} (h1 : CleanupFrame a b) (h2 : CleanupFrame b c) : CleanupFrame a c :=
  ⟨h2.env.trans h1.env, h2.fs.trans h1.fs, h2.events.trans h1.events, h2.skipped.trans h1.skipped,
    h2.cleanups.trans h1.cleanups, h2.tev.trans h1.tev, h2.stdout.trans h1.stdout,
    h2.cleanup.trans h1.cleanup, h2.scleanup.trans h1.scleanup, fun q => (h2.has q).trans (h1.has q)⟩

theorem runCleanup_some_has {st st' : St} {p n : Text} (e : runCleanup st (.resetReg p n) = some st') :
    map2Has st.reg.running p = true := by
  cases hh : map2Has st.reg.running p with
  | true => rfl
  | false =>
    rw [runCleanup, syncRegistry_reset_panics _ _ _ hh] at e
    cases e

theorem runCleanup_spec {st st' : St} {c : Cleanup} (e : runCleanup st c = some st') :
    CleanupFrame st st' ∧
    (∀ p n, map2Get st'.reg.running p n = if c = .resetReg p n then 0 else map2Get st.reg.running p n) ∧
    (∀ p, map1Get st'.sreg.running p = if c = .resetSReg p then 0 else map1Get st.sreg.running p) := by
  cases c with
  | resetReg p n =>
    cases hr : syncRegistry_reset st.reg p n with
    | none => rw [runCleanup, hr] at e; cases e
    | some r' =>
      rw [runCleanup, hr] at e
      simp only [Option.map_some, Option.some.injEq] at e
      subst e
      obtain ⟨h0, hother, hcl⟩ := syncRegistry_reset_isolated _ _ _ _ hr
      refine ⟨⟨rfl, rfl, rfl, rfl, rfl, rfl, rfl, hcl, rfl,
        fun q => syncRegistry_reset_has _ _ _ _ q hr⟩, fun p' n' => ?_, fun p' => ?_⟩
      · by_cases hk : (p', n') = (p, n)
        · obtain ⟨rfl, rfl⟩ := Prod.mk.inj hk
          simp [h0]
        · have : ¬ (Cleanup.resetReg p n = Cleanup.resetReg p' n') := fun h => by
            injection h with a b; exact hk (by rw [a, b])
          simp only [this, ↓reduceIte]
          exact hother p' n' hk
      · simp
  | resetSReg p =>
    simp only [runCleanup, Option.some.injEq] at e
    subst e
    obtain ⟨h0, hother, hcl⟩ := syncStandaloneRegistry_reset_isolated st.sreg p
    refine ⟨⟨rfl, rfl, rfl, rfl, rfl, rfl, rfl, rfl, hcl, fun _ => rfl⟩, fun p' n' => by simp, fun p' => ?_⟩
    by_cases hk : p' = p
    · subst hk; simp [h0]
    · have : ¬ (Cleanup.resetSReg p = Cleanup.resetSReg p') := fun h => by
        injection h with a; exact hk a.symm
      simp only [this, ↓reduceIte]
      exact hother p' hk

theorem runCleanupList_spec (l : List Cleanup) : ∀ {st st' : St}, runCleanupList st l = some st' →
    CleanupFrame st st' ∧
    (∀ p n, map2Get st'.reg.running p n =
      if Cleanup.resetReg p n ∈ l then 0 else map2Get st.reg.running p n) ∧
    (∀ p, map1Get st'.sreg.running p =
      if Cleanup.resetSReg p ∈ l then 0 else map1Get st.sreg.running p) := by
  induction l with
  | nil =>
    intro st st' e
    simp only [runCleanupList, Option.some.injEq] at e
    subst e
    exact ⟨CleanupFrame.refl _, fun _ _ => by simp, fun _ => by simp⟩
  | cons c cs ih =>
    intro st st' e
    cases h1 : runCleanup st c with
    | none => rw [runCleanupList, h1] at e; cases e
    | some s1 =>
      rw [runCleanupList, h1] at e
      simp only [Option.bind_some] at e
      obtain ⟨f1, r1, s1'⟩ := runCleanup_spec h1
      obtain ⟨f2, r2, s2'⟩ := ih e
      refine ⟨f1.trans f2, fun p n => ?_, fun p => ?_⟩
      · rw [r2, r1]
        by_cases hm : Cleanup.resetReg p n ∈ cs
        · simp [hm]
        · by_cases hc : c = Cleanup.resetReg p n
          · simp [hc]
          · have : ¬ (Cleanup.resetReg p n = c) := fun h => hc h.symm
            simp [hm, hc, this]
      · rw [s2', s1']
        by_cases hm : Cleanup.resetSReg p ∈ cs
        · simp [hm]
        · by_cases hc : c = Cleanup.resetSReg p
          · simp [hc]
          · have : ¬ (Cleanup.resetSReg p = c) := fun h => hc h.symm
            simp [hm, hc, this]

/-- what the end of a test execution leaves alone (every failure oracle: no I/O is involved) -/
theorem runCleanups_frame {st st' : St} {id : Nat} (e : runCleanups st id = some st') :
    st'.reg.cleanup = st.reg.cleanup ∧ st'.sreg.cleanup = st.sreg.cleanup ∧ st'.events = st.events ∧
    st'.env = st.env ∧ st'.fs = st.fs ∧ st'.skipped = st.skipped ∧ st'.stdout = st.stdout ∧
    ∀ q, map2Has st'.reg.running q = map2Has st.reg.running q := by
  unfold runCleanups at e
  cases h : runCleanupList st ((st.cleanups.filter (·.1 = id)).map (·.2)) with
  | none => rw [h] at e; cases e
  | some s1 =>
    rw [h] at e
    simp only [Option.map_some, Option.some.injEq] at e
    subst e
    have f := (runCleanupList_spec _ h).1
    exact ⟨f.cleanup, f.scleanup, f.events, f.env, f.fs, f.skipped, f.stdout, f.has⟩

theorem runCleanups_fs {st st' : St} {id : Nat} (e : runCleanups st id = some st')
    {w : World} (h : StRel st w) : st'.fs = st.fs :=
  (runCleanups_frame e).2.2.2.2.1

/-- a list of closures panics exactly when one of them is a reset for a path on which `getTestID` was
    never called — in any order -/
theorem runCleanupList_none_iff (l : List Cleanup) : ∀ st : St, runCleanupList st l = none ↔
    ∃ p n, Cleanup.resetReg p n ∈ l ∧ map2Has st.reg.running p = false := by
  induction l with
  | nil => intro st; simp [runCleanupList]
  | cons c cs ih =>
    intro st
    cases h1 : runCleanup st c with
    | none =>
      simp only [runCleanupList, h1, Option.bind_none, true_iff]
      cases c with
      | resetReg p n =>
        refine ⟨p, n, by simp, ?_⟩
        cases hr : syncRegistry_reset st.reg p n with
        | none => exact (syncRegistry_reset_panics_iff _ _ _).mp hr
        | some r' => rw [runCleanup, hr] at h1; cases h1
      | resetSReg p => cases h1
    | some s1 =>
      simp only [runCleanupList, h1, Option.bind_some]
      rw [ih s1]
      have hf := (runCleanup_spec h1).1
      constructor
      · rintro ⟨p, n, hm, hh⟩
        exact ⟨p, n, List.mem_cons_of_mem _ hm, by rw [← hf.has]; exact hh⟩
      · rintro ⟨p, n, hm, hh⟩
        rcases List.mem_cons.mp hm with heq | hm
        · subst heq
          rw [runCleanup_some_has h1] at hh
          cases hh
        · exact ⟨p, n, hm, by rw [hf.has]; exact hh⟩

structure SameRegs (a b : St) : Prop where
  running : ∀ p n, map2Get a.reg.running p n = map2Get b.reg.running p n
  has : ∀ p, map2Has a.reg.running p = map2Has b.reg.running p
  cleanup : a.reg.cleanup = b.reg.cleanup
  srunning : ∀ p, map1Get a.sreg.running p = map1Get b.sreg.running p
  scleanup : a.sreg.cleanup = b.sreg.cleanup
  env : a.env = b.env
  fs : a.fs = b.fs
  events : a.events = b.events
  skipped : a.skipped = b.skipped
  cleanups : a.cleanups = b.cleanups
  tev : a.tev = b.tev
  stdout : a.stdout = b.stdout

/-- **the order of the cleanups does not matter**: two lists with the same closures (in particular a list
    and its reverse — first registered first — or any permutation) panic together, and otherwise end in
    states that agree on every read of the registries and are equal elsewhere -/
theorem runCleanupList_order (st : St) (l1 l2 : List Cleanup) (hmem : ∀ c, c ∈ l1 ↔ c ∈ l2) :
    (runCleanupList st l1 = none ↔ runCleanupList st l2 = none) ∧
    ∀ a b, runCleanupList st l1 = some a → runCleanupList st l2 = some b → SameRegs a b := by
  constructor
  · rw [runCleanupList_none_iff, runCleanupList_none_iff]
    simp only [hmem]
  · intro a b ea eb
    obtain ⟨fa, ra, sa⟩ := runCleanupList_spec l1 ea
    obtain ⟨fb, rb, sb⟩ := runCleanupList_spec l2 eb
    refine ⟨fun p n => ?_, fun p => (fa.has p).trans (fb.has p).symm, fa.cleanup.trans fb.cleanup.symm,
      fun p => ?_, fa.scleanup.trans fb.scleanup.symm, fa.env.trans fb.env.symm, fa.fs.trans fb.fs.symm,
      fa.events.trans fb.events.symm, fa.skipped.trans fb.skipped.symm, fa.cleanups.trans fb.cleanups.symm,
      fa.tev.trans fb.tev.symm, fa.stdout.trans fb.stdout.symm⟩
    · rw [ra, rb]; simp only [hmem]
    · rw [sa, sb]; simp only [hmem]

theorem runCleanupList_reverse (st : St) (l : List Cleanup) :
    (runCleanupList st l = none ↔ runCleanupList st l.reverse = none) ∧
    ∀ a b, runCleanupList st l = some a → runCleanupList st l.reverse = some b → SameRegs a b :=
  runCleanupList_order st l l.reverse (fun _ => List.mem_reverse.symm)

/-- the simulation relation only reads the registries, so it cannot tell such states apart: the tie
    `runCleanups_tied` holds for every order in which the closures are run -/
theorem StRel.of_sameRegs {a b : St} {w : World} (hs : SameRegs a b) (h : StRel a w) : StRel b w :=
  ⟨hs.env ▸ h.env, hs.fs ▸ h.fs,
    ⟨fun p n => by rw [← hs.running]; exact h.reg.running p n,
     fun p n => by rw [← hs.cleanup]; exact h.reg.cleanup p n,
     fun p => by rw [← hs.has, ← hs.cleanup]; exact h.reg.has p⟩,
    ⟨fun p => by rw [← hs.srunning]; exact h.sreg.running p,
     fun p => by rw [← hs.scleanup]; exact h.sreg.cleanup p⟩,
    hs.events ▸ h.erred, hs.events ▸ h.added, hs.events ▸ h.updated, hs.events ▸ h.passed,
    hs.skipped ▸ h.skipped, hs.cleanups ▸ h.pending,
    fun i p n hm => by rw [← hs.has]; exact h.resetOK i p n (by rw [hs.cleanups]; exact hm)⟩

theorem docPre_plain (render : Text → Text) (input : Text) :
    docPre (fun i => (i, Err.nil)) (fun _ d => (d, [])) render input [] = .ok (render input) := by
  simp [docPre, applyMatchers, Err.notNil]

/-- **one step of a history on the transliteration side** (`none` = panic).
    `.call t s .raw x`: `MatchJSON` on `testing.T` `⟨t, x⟩` with the document `s` (valid as it is, no
    matchers, identity formatting); `.call t s .escaped x`: `MatchYAML` with the document `unescape s`,
    the document stored as `s` (see the header); `.done x`: the cleanups of `testing.T` number `x` run. -/
def goStep (io : IOFail) (c : Cfg) (caller : Text) (st : St) : Step → Option St
  | .call t s .raw x =>
    matchJSON io st false caller (fun _ d => (d, [])) (fun i => (i, Err.nil)) (fun _ j => j) c ⟨t, x⟩ s []
  | .call t s .escaped x =>
    matchYAML io st false caller (fun _ d => (d, [])) (fun i => (i, Err.nil)) c ⟨t, x⟩ (unescape s) []
  | .done x => runCleanups st x

def goRun (io : IOFail) (c : Cfg) (caller : Text) : St → List Step → Option St
  | st, [] => some st
  | st, s :: h => (goStep io c caller st s).bind fun st' => goRun io c caller st' h

theorem goRun_append (io : IOFail) (c : Cfg) (caller : Text) (h1 h2 : List Step) : ∀ st : St,
    goRun io c caller st (h1 ++ h2) = (goRun io c caller st h1).bind fun st' => goRun io c caller st' h2 := by
  induction h1 with
  | nil => intro st; rfl
  | cons s h1 ih =>
    intro st
    simp only [List.cons_append, goRun]
    cases goStep io c caller st s with
    | none => rfl
    | some st' => simp only [Option.bind_some]; exact ih st'

/-- the escaped-mode text of a step is the stored form of some document (of `unescape s`) -/
def StepOK : Step → Prop
  | .call _ s .escaped _ => escape (unescape s) = s
  | _ => True

def HistOK (h : List Step) : Prop := ∀ s ∈ h, StepOK s

instance : ∀ s : Step, Decidable (StepOK s)
  | .call _ s .escaped _ => inferInstanceAs (Decidable (escape (unescape s) = s))
  | .call _ _ .raw _ => isTrue trivial
  | .done _ => isTrue trivial

instance (h : List Step) : Decidable (HistOK h) := by unfold HistOK; infer_instance

/-- a text without a line "---" is the stored form of the document `unescape s` -/
theorem escape_unescape_of_escaped (s : Text) (h : Escaped s) : escape (unescape s) = s := by
  unfold escape unescape
  rw [C02.escapeFrom_eq, C02.unescapeFrom_eq, C02.unescapeTo_eq, mapLines_mapLines _ _ _ _ C02.end_noNL]
  have : (lines s).map (fun l => lineMap Generated.endSeq Generated.escapeTo
      (lineMap Generated.escapeTo Generated.endSeq l)) = lines s := by
    conv => rhs; rw [← List.map_id (lines s)]
    apply List.map_congr_left
    intro l hl
    have hne : l ≠ Generated.endSeq := fun e => h (by subst e; exact hl)
    unfold lineMap
    by_cases h2 : l = Generated.escapeTo
    · simp [h2]
    · simp [h2, hne]
  rw [this, unlines_lines]

theorem escape_unescape_escape (d : Text) : escape (unescape (escape d)) = escape d :=
  escape_unescape_of_escaped _ (escape_escaped d)

theorem StepOK_of_goodBody (t s : Text) (cmp : Cmp) (x : Nat) (hb : GoodBody s) :
    StepOK (.call t s cmp x) := by
  cases cmp with
  | raw => trivial
  | escaped => exact escape_unescape_of_escaped s hb.1

theorem HistOK_of_bodies (h : List Step) (hb : ∀ s ∈ texts h, GoodBody s) : HistOK h := by
  induction h with
  | nil => intro s hs; cases hs
  | cons st h ih =>
    intro s hs
    rcases List.mem_cons.mp hs with rfl | hs
    · cases s with
      | call t txt cmp x => exact StepOK_of_goodBody t txt cmp x (hb txt (by simp [texts]))
      | done x => trivial
    · refine ih (fun s' hs' => hb s' ?_) s hs
      cases st <;> simp [texts, hs']

theorem HistOK.append {h1 h2 : List Step} (a : HistOK h1) (b : HistOK h2) : HistOK (h1 ++ h2) :=
  fun s hs => (List.mem_append.mp hs).elim (a s) (b s)

theorem HistOK.left {h1 h2 : List Step} (a : HistOK (h1 ++ h2)) : HistOK h1 :=
  fun s hs => a s (List.mem_append.mpr (Or.inl hs))

theorem HistOK.right {h1 h2 : List Step} (a : HistOK (h1 ++ h2)) : HistOK h2 :=
  fun s hs => a s (List.mem_append.mpr (Or.inr hs))

/-! ### every call the test code can make is a step -/

/-- `MatchYAML(t, d)` (valid document, no matchers) is the step `.call t (escape d) .escaped x`, for every
    failure oracle: the flow looks at `escape d` only -/
theorem goStep_of_matchYAML (io : IOFail) (c : Cfg) (caller : Text) (st : St) (t d : Text) (x : Nat) :
    matchYAML io st false caller (fun _ d => (d, [])) (fun i => (i, Err.nil)) c ⟨t, x⟩ d [] =
      goStep io c caller st (.call t (escape d) .escaped x) := by
  simp only [goStep, matchYAML_eq, docPre_plain, escape_unescape_escape]

/-- `MatchSnapshot(t, vals…)` with at least one value is the step
    `.call t (escape (unlines vals)) .escaped x`, for every failure oracle -/
theorem goStep_of_matchSnapshot (io : IOFail) (c : Cfg) (caller : Text) (st : St) (t : Text) (vals : List Text)
    (x : Nat) (hv : vals ≠ []) :
    matchSnapshot io st false caller c ⟨t, x⟩ vals =
      goStep io c caller st (.call t (escape (unlines vals)) .escaped x) := by
  simp only [goStep, matchSnapshot_eq, if_neg hv, matchYAML_eq, docPre_plain, escape_unescape_escape]
  rfl

theorem goStep_of_matchJSON (io : IOFail) (c : Cfg) (caller : Text) (st : St) (t d : Text) (x : Nat) :
    matchJSON io st false caller (fun _ d => (d, [])) (fun i => (i, Err.nil)) (fun _ j => j) c ⟨t, x⟩ d [] =
      goStep io c caller st (.call t d .raw x) := rfl

/-- **one step**: under `IOFail.never`, from related states, whenever the model covers the step, the
    transliteration does not panic, does the model's step and reports the model's events -/
theorem goStep_simulates {st : St} {w : World} (h : StRel st w) (c : Cfg) (caller : Text) (s : Step)
    (hok : StepOK s) (hs : ∀ o ∈ (C01World.step c caller w s).2, o.unsupported = none) :
    ∃ st', goStep IOFail.never c caller st s = some st' ∧ StRel st' (C01World.step c caller w s).1 ∧
      st'.tev = st.tev ++ ((C01World.step c caller w s).2.map (·.events)).flatten := by
  cases s with
  | call t txt cmp x =>
    have hs' : (matchEntry w c caller t x cmp (.ok txt)).2.unsupported = none :=
      hs _ (by simp [C01World.step])
    cases cmp with
    | raw =>
      obtain ⟨st', e, h1, h2⟩ := matchJSON_tied st w h caller (fun _ d => (d, [])) (fun i => (i, Err.nil))
        (fun _ j => j) c ⟨t, x⟩ txt [] (matchEntry w c caller t x .raw (.ok txt)).1
        (matchEntry w c caller t x .raw (.ok txt)).2 (by rw [docPre_plain]) hs'
      exact ⟨st', e, h1, by simpa [C01World.step] using h2⟩
    | escaped =>
      have hok' : escape (unescape txt) = txt := hok
      obtain ⟨st', e, h1, h2⟩ := matchYAML_tied st w h caller (fun _ d => (d, [])) (fun i => (i, Err.nil))
        c ⟨t, x⟩ (unescape txt) [] (matchEntry w c caller t x .escaped (.ok txt)).1
        (matchEntry w c caller t x .escaped (.ok txt)).2 (by rw [docPre_plain, hok']) hs'
      exact ⟨st', e, h1, by simpa [C01World.step] using h2⟩
  | done x =>
    obtain ⟨st', e, h1, h2⟩ := runCleanups_tied h x
    exact ⟨st', e, h1, by simpa [C01World.step] using h2⟩

/-- **histories**: under `IOFail.never`, from related states, whenever the model covers every call of the
    history, `goRun` does not panic, ends in a state related to the world `C01World.run` ends in, and
    has reported to the `testing.T`s exactly the events of the model's outputs, in order -/
theorem goRun_simulates' (c : Cfg) (caller : Text) (h : List Step) : ∀ {st : St} {w : World}, StRel st w →
    HistOK h → (∀ o ∈ (C01World.run c caller w h).2, o.unsupported = none) →
    ∃ st', goRun IOFail.never c caller st h = some st' ∧ StRel st' (C01World.run c caller w h).1 ∧
      st'.tev = st.tev ++ ((C01World.run c caller w h).2.map (·.events)).flatten := by
  induction h with
  | nil => intro st w hr _ _; exact ⟨st, rfl, hr, by simp [C01World.run]⟩
  | cons s h ih =>
    intro st w hr hok hs
    simp only [C01World.run] at hs ⊢
    obtain ⟨s1, e1, r1, t1⟩ := goStep_simulates hr c caller s (hok s (by simp))
      (fun o ho => hs o (List.mem_append.mpr (Or.inl ho)))
    obtain ⟨s2, e2, r2, t2⟩ := ih r1 (fun s' hs' => hok s' (List.mem_cons_of_mem _ hs'))
      (fun o ho => hs o (List.mem_append.mpr (Or.inr ho)))
    refine ⟨s2, ?_, r2, ?_⟩
    · simp only [goRun, e1, Option.bind_some]; exact e2
    · rw [t2, t1]; simp

theorem goRun_simulates {st : St} {w : World} (hr : StRel st w) (c : Cfg) (caller : Text) (h : List Step)
    (hok : HistOK h) (w' : World) (outs : List Out) (hrun : C01World.run c caller w h = (w', outs))
    (hs : ∀ o ∈ outs, o.unsupported = none) :
    ∃ st', goRun IOFail.never c caller st h = some st' ∧ StRel st' w' ∧
      st'.tev = st.tev ++ (outs.map (·.events)).flatten := by
  have := goRun_simulates' c caller h hr hok (by rw [hrun]; exact hs)
  rw [hrun] at this
  exact this

/-! ## the history theorems, about the transliterated code

A run of the transliteration starts in the state `{ env := env, fs := fs }`: `newRegistry()`,
`newStandaloneRegistry()`, no event counted, no cleanup pending, nothing reported yet. -/

abbrev freshSt (env : Env) (fs : FS) : St := { env := env, fs := fs }

theorem flatten_events_added (p : Text) (outs : List Out) (h : ∀ o ∈ outs, C01World.Added p o) :
    (outs.map (·.events)).flatten = List.replicate outs.length (.log Generated.go_addedMsg) := by
  induction outs with
  | nil => rfl
  | cons o outs ih =>
    simp only [List.map_cons, List.flatten_cons, (h o (by simp)).1, List.length_cons, List.replicate_succ]
    rw [ih (fun o' ho' => h o' (List.mem_cons_of_mem _ ho'))]
    rfl

theorem flatten_events_silent (outs : List Out) (h : ∀ o ∈ outs, C01World.Silent o) :
    (outs.map (·.events)).flatten = [] := by
  induction outs with
  | nil => rfl
  | cons o outs ih =>
    simp only [List.map_cons, List.flatten_cons, (h o (by simp)).1, List.nil_append]
    exact ih (fun o' ho' => h o' (List.mem_cons_of_mem _ ho'))

/-- **C01 for the transliterated code** (`C01World.replay_history` transferred; same hypotheses).

Run the history `h` with the transliterations from a fresh state over `fs₀` in a creating mode: no panic,
every call logs "added" (and nothing else is reported), the snapshot file `p` ends up holding the initial
entries followed by the history's, no other path changes.  Run `h` again from a fresh state over the
file system the first run left, in ANY environment and with ANY config that addresses the same file: no
panic, NOTHING is reported to any `testing.T`, and the file system is left exactly as it was. -/
theorem go_replay_history (env env' : Env) (c c' : Cfg) (caller caller' p rel rel' : Text)
    (fs₀ : FS) (es₀ : List Entry) (h : List Step)
    (hsp : ∀ t, snapshotPath c caller t false = (p, some rel))
    (hsp' : ∀ t, snapshotPath c' caller' t false = (p, some rel'))
    (hscoped : Scoped [] h)
    (hfile : Holds fs₀ p es₀) (hgood : Good es₀)
    (hfresh : ∀ id ∈ headers h, id ∉ fileLines es₀)
    (hnames : ∀ t ∈ calledNames h, NoNL t)
    (hbodies : ∀ s ∈ texts h, GoodBody s)
    (hns : ∀ s ∈ texts h, ∀ id ∈ ids es₀ ++ headers h, id ∉ lines s)
    (hcreate : shouldCreate env c.update = true) :
    ∃ rcd : St, goRun IOFail.never c caller (freshSt env fs₀) h = some rcd ∧
      rcd.tev = List.replicate (calledNames h).length (.log Generated.go_addedMsg) ∧
      Holds rcd.fs p (es₀ ++ entriesOf h) ∧ (∀ q, q ≠ p → fsRead rcd.fs q = fsRead fs₀ q) ∧
      ∃ rep : St, goRun IOFail.never c' caller' (freshSt env' rcd.fs) h = some rep ∧
        rep.tev = [] ∧ rep.fs = rcd.fs := by
  obtain ⟨m1, m2, _, m4, m5, m6, m7, _⟩ := C01World.replay_history env env' c c' caller caller' p rel rel'
    fs₀ es₀ h hsp hsp' hscoped hfile hgood hfresh hnames hbodies hns hcreate
  have hok := HistOK_of_bodies h hbodies
  obtain ⟨rcd, e1, r1, t1⟩ := goRun_simulates' c caller h (StRel_init env fs₀) hok
    (fun o ho => (m1 o ho).2.2.2)
  have hfs : rcd.fs = (C01World.recordRun env c caller fs₀ h).1.fs := r1.fs
  obtain ⟨rep, e2, r2, t2⟩ := goRun_simulates' c' caller' h
    (StRel_init env' (C01World.recordRun env c caller fs₀ h).1.fs) hok (fun o ho => (m5 o ho).2.2.2)
  refine ⟨rcd, e1, ?_, hfs ▸ m2, fun q hq => by rw [hfs]; exact m4 q hq, rep, by rw [hfs]; exact e2, ?_, ?_⟩
  · have ha := flatten_events_added p _ m1
    rw [m7] at ha
    rw [t1]; exact ha
  · rw [t2]; exact flatten_events_silent _ m5
  · rw [r2.fs, hfs]; exact m6

/-! ### histories in which ONE call receives a different text (model level)

`C02World.lean` and `C04World.lean` state their theorems for single calls.  Here they are lifted to
histories of the model with the machinery of `C01World.lean` (`Inv`, `Scoped`, `replay_run`): the
history is `h1 ++ call t s cmp x :: h2`, the file holds what `h1 ++ call t s₀ cmp x :: h2` recorded. -/

theorem entriesFrom_append (h1 h2 : List Step) : ∀ seen,
    entriesFrom seen (h1 ++ h2) =
      entriesFrom seen h1 ++ entriesFrom ((calledNames h1).reverse ++ seen) h2 := by
  induction h1 with
  | nil => intro seen; rfl
  | cons st h1 ih =>
    intro seen
    cases st with
    | call t s cmp x => simp [entriesFrom, calledNames, ih]
    | done x => simp [entriesFrom, calledNames, ih]

theorem entriesOf_split (h1 h2 : List Step) (t s : Text) (cmp : Cmp) (x : Nat) :
    entriesOf (h1 ++ .call t s cmp x :: h2) =
      entriesFrom [] h1 ++ ⟨testID t ((calledNames h1).count t + 1), s⟩ ::
        entriesFrom (t :: (calledNames h1).reverse) h2 := by
  simp [entriesOf, entriesFrom_append, entriesFrom]

theorem scoped_text_irrel (t s s' : Text) (cmp : Cmp) (x : Nat) (h2 h1 : List Step) : ∀ past,
    Scoped past (h1 ++ .call t s cmp x :: h2) → Scoped past (h1 ++ .call t s' cmp x :: h2) := by
  induction h1 with
  | nil => intro past hs; exact hs
  | cons st h1 ih =>
    intro past hs
    cases st with
    | call t₁ s₁ cmp₁ x₁ => exact ih _ hs
    | done x₁ =>
      have hs' : (∀ q ∈ past, q.2 = x₁ → q.1 ∉ calledNames (h1 ++ .call t s cmp x :: h2)) ∧
          Scoped past (h1 ++ .call t s cmp x :: h2) := hs
      refine ⟨fun q hq hx hm => hs'.1 q hq hx ?_, ih _ hs'.2⟩
      simpa [CleanWorld.calledNames_append, calledNames] using hm

/-- **C02 for histories of the model**: one call receives a text that compares differently, no update -/
theorem mismatch_run (c : Cfg) (caller p rel : Text)
    (hsp : ∀ t, snapshotPath c caller t false = (p, some rel)) (esAll : List Entry) (hgood : Good esAll)
    (t s s₀ : Text) (cmp : Cmp) (x : Nat) (h2 : List Step)
    (hne : cmpText cmp s₀ ≠ cmpText cmp s) (h1 : List Step) :
    ∀ (w : World) (past : List (Text × Nat)),
      Inv p w past (h1 ++ .call t s cmp x :: h2) → Scoped past (h1 ++ .call t s cmp x :: h2) →
      Holds w.fs p esAll →
      (∀ e ∈ entriesFrom (past.map Prod.fst) (h1 ++ .call t s₀ cmp x :: h2), e ∈ esAll) →
      shouldUpdate w.env c.update = false →
      (C01World.run c caller w (h1 ++ .call t s cmp x :: h2)).1.fs = w.fs ∧
      (∀ o ∈ (C01World.run c caller w (h1 ++ .call t s cmp x :: h2)).2,
        o.writes = [] ∧ o.removed = [] ∧ o.unsupported = none) ∧
      ∃ line, prettyDiff (cmpText cmp s₀) (cmpText cmp s) rel line ≠ [] ∧
        ((C01World.run c caller w (h1 ++ .call t s cmp x :: h2)).2.map (·.events)).flatten =
          [.error (prettyDiff (cmpText cmp s₀) (cmpText cmp s) rel line)] := by
  intro w past hi hs hfile hall hu
  rw [entriesFrom_append] at hall
  obtain ⟨f1, v1, q1, i1, sc1⟩ := CleanWorld.replay_prefix c caller p rel hsp esAll hgood h1 _ w past hi hs hfile
    (fun e he => hall e (List.mem_append_left _ he))
  have hseen := CleanWorld.pastAfter_names h1 past
  have hn := i1.ord t (by simp [calledNames])
  rw [hseen] at hn
  obtain ⟨pre, post, hes⟩ := List.append_of_mem (hall
    ⟨testID t (((calledNames h1).reverse ++ past.map Prod.fst).count t + 1), s₀⟩
    (List.mem_append_right _ (by simp only [entriesFrom]; exact List.mem_cons_self)))
  obtain ⟨d1, e1, e2, e3, e4, e5, _⟩ := C02World.matchEntry_mismatch (C01World.run c caller w h1).1 c caller t x
    cmp s s₀ p rel pre post (hsp t) (by rw [hn, ← hes, f1]; exact hfile) (by rw [hn, ← hes]; exact hgood) hne
    (by rw [v1]; exact hu)
  obtain ⟨r1, r2, _⟩ := C01World.replay_run c caller p rel hsp esAll hgood h2 _
    ((t, x) :: CleanWorld.pastAfter past h1) (i1.call c caller _ (hsp t)) sc1 (by rw [e5, f1]; exact hfile)
    (fun e he => hall e (List.mem_append_right _ (by
      rw [List.map_cons, hseen] at he; simp only [entriesFrom]; exact List.mem_cons_of_mem _ he)))
  rw [CleanWorld.run_append, CleanWorld.run_append_outs]
  simp only [C01World.run, C01World.step]
  refine ⟨(r1.trans e5).trans f1, fun o ho => ?_, _, d1, ?_⟩
  · rcases List.mem_append.mp ho with ho | ho
    · exact (q1 o ho).2
    rcases List.mem_append.mp ho with ho | ho
    · rw [List.mem_singleton.mp ho]; exact ⟨e2, e3, e4⟩
    · exact (r2 o ho).2
  · rw [List.map_append, List.flatten_append, flatten_events_silent _ q1, List.map_append, List.flatten_append,
      flatten_events_silent _ r2]
    simp [e1]

/-- **C04 for histories of the model**: one call receives a text that compares differently, updating mode -/
theorem update_run (c : Cfg) (caller p rel : Text)
    (hsp : ∀ t, snapshotPath c caller t false = (p, some rel)) (pre post : List Entry) (id : Line)
    (t s s₀ : Text) (cmp : Cmp) (x : Nat) (h2 : List Step)
    (hgood : Good (pre ++ ⟨id, s₀⟩ :: post)) (hgood' : Good (pre ++ ⟨id, s⟩ :: post))
    (hne : cmpText cmp s₀ ≠ cmpText cmp s) (h1 : List Step) :
    ∀ (w : World) (past : List (Text × Nat)),
      Inv p w past (h1 ++ .call t s cmp x :: h2) → Scoped past (h1 ++ .call t s cmp x :: h2) →
      Holds w.fs p (pre ++ ⟨id, s₀⟩ :: post) →
      id = testID t ((past.map Prod.fst).count t + (calledNames h1).count t + 1) →
      (∀ e ∈ entriesFrom (past.map Prod.fst) (h1 ++ .call t s₀ cmp x :: h2), e ∈ pre ++ ⟨id, s₀⟩ :: post) →
      (∀ e ∈ entriesFrom (past.map Prod.fst) (h1 ++ .call t s cmp x :: h2), e ∈ pre ++ ⟨id, s⟩ :: post) →
      shouldUpdate w.env c.update = true →
      Holds (C01World.run c caller w (h1 ++ .call t s cmp x :: h2)).1.fs p (pre ++ ⟨id, s⟩ :: post) ∧
      (∀ q, q ≠ p → fsRead (C01World.run c caller w (h1 ++ .call t s cmp x :: h2)).1.fs q = fsRead w.fs q) ∧
      (∀ o ∈ (C01World.run c caller w (h1 ++ .call t s cmp x :: h2)).2,
        o.removed = [] ∧ o.unsupported = none) ∧
      ((C01World.run c caller w (h1 ++ .call t s cmp x :: h2)).2.map (·.events)).flatten =
        [.log Generated.go_updatedMsg] := by
  intro w past hi hs hfile hid ha hb hu
  rw [entriesFrom_append] at ha hb
  obtain ⟨f1, v1, q1, i1, sc1⟩ := CleanWorld.replay_prefix c caller p rel hsp _ hgood h1 _ w past hi hs hfile
    (fun e he => ha e (List.mem_append_left _ he))
  have hseen := CleanWorld.pastAfter_names h1 past
  have hid' : id = testID t (alGet (C01World.run c caller w h1).1.running (p, t) + 1) := by
    rw [hid, i1.ord t (by simp [calledNames]), hseen, List.count_append, List.count_reverse]
    exact congrArg (testID t) (by omega)
  subst hid'
  obtain ⟨e1, _, e3, e4, e5, e6, _⟩ := C04World.matchEntry_update (C01World.run c caller w h1).1 c caller t x cmp s
    s₀ p rel pre post (hsp t) (by rw [f1]; exact hfile) hgood hne (by rw [v1]; exact hu)
  obtain ⟨r1, r2, _⟩ := C01World.replay_run c caller p rel hsp _ hgood' h2 _
    ((t, x) :: CleanWorld.pastAfter past h1) (i1.call c caller _ (hsp t)) sc1 (Or.inl e5)
    (fun e he => hb e (List.mem_append_right _ (by
      rw [List.map_cons, hseen] at he; simp only [entriesFrom]; exact List.mem_cons_of_mem _ he)))
  rw [CleanWorld.run_append, CleanWorld.run_append_outs]
  simp only [C01World.run, C01World.step]
  refine ⟨by rw [r1]; exact Or.inl e5, fun q hq => by rw [r1, e6 q hq, f1], fun o ho => ?_, ?_⟩
  · rcases List.mem_append.mp ho with ho | ho
    · exact (q1 o ho).2.2
    rcases List.mem_append.mp ho with ho | ho
    · rw [List.mem_singleton.mp ho]; exact ⟨e3, e4⟩
    · exact (r2 o ho).2.2
  · rw [List.map_append, List.flatten_append, flatten_events_silent _ q1, List.map_append, List.flatten_append,
      flatten_events_silent _ r2]
    simp [e1]

theorem HistOK.replace {h1 h2 : List Step} {a b : Step} (hh : HistOK (h1 ++ a :: h2)) (hb : StepOK b) :
    HistOK (h1 ++ b :: h2) := by
  intro s hs
  rcases List.mem_append.mp hs with hs | hs
  · exact hh s (List.mem_append_left _ hs)
  · rcases List.mem_cons.mp hs with rfl | hs
    · exact hb
    · exact hh s (List.mem_append_right _ (List.mem_cons_of_mem _ hs))

/-- **C02 for the transliterated code** (a changed value is reported).

Record the history `h1 ++ call t s₀ cmp x :: h2` with the transliterations (hypotheses of
`go_replay_history`).  Then run, from a fresh state over the recorded file system, in a mode that does
not update (`shouldUpdate env' c'.update = false`: CI, or `UPDATE_SNAPS` unset, or `Update(false)`), the
same history with the text `s` at that one call, where the COMPARED texts differ
(`s₀ ≠ s` for MatchJSON, `unescape s₀ ≠ unescape s` for MatchYAML/MatchSnapshot).  No panic; the calls
before the changed one report nothing (`mid`); the whole run reports exactly one event, the error
carrying the non-empty diff of the two compared texts; and the file system is left as recorded.
(`hsok`: for an escaped-mode call the new text is the stored form of a document, e.g. any text without a
line "---"; there is no other hypothesis on `s`.) -/
theorem go_mismatch_history (env env' : Env) (c c' : Cfg) (caller caller' p rel rel' : Text)
    (fs₀ : FS) (es₀ : List Entry) (h1 h2 : List Step) (t s₀ s : Text) (cmp : Cmp) (x : Nat)
    (hsp : ∀ t, snapshotPath c caller t false = (p, some rel))
    (hsp' : ∀ t, snapshotPath c' caller' t false = (p, some rel'))
    (hscoped : Scoped [] (h1 ++ .call t s₀ cmp x :: h2))
    (hfile : Holds fs₀ p es₀) (hgood : Good es₀)
    (hfresh : ∀ id ∈ headers (h1 ++ .call t s₀ cmp x :: h2), id ∉ fileLines es₀)
    (hnames : ∀ t' ∈ calledNames (h1 ++ .call t s₀ cmp x :: h2), NoNL t')
    (hbodies : ∀ b ∈ texts (h1 ++ .call t s₀ cmp x :: h2), GoodBody b)
    (hns : ∀ b ∈ texts (h1 ++ .call t s₀ cmp x :: h2),
      ∀ id ∈ ids es₀ ++ headers (h1 ++ .call t s₀ cmp x :: h2), id ∉ lines b)
    (hcreate : shouldCreate env c.update = true)
    (hne : cmpText cmp s₀ ≠ cmpText cmp s)
    (hsok : StepOK (.call t s cmp x))
    (hro : shouldUpdate env' c'.update = false) :
    ∃ rcd : St, goRun IOFail.never c caller (freshSt env fs₀) (h1 ++ .call t s₀ cmp x :: h2) = some rcd ∧
      ∃ (mid rep : St) (line : Nat),
        goRun IOFail.never c' caller' (freshSt env' rcd.fs) h1 = some mid ∧ mid.tev = [] ∧
        goRun IOFail.never c' caller' (freshSt env' rcd.fs) (h1 ++ .call t s cmp x :: h2) = some rep ∧
        prettyDiff (cmpText cmp s₀) (cmpText cmp s) rel' line ≠ [] ∧
        rep.tev = [.error (prettyDiff (cmpText cmp s₀) (cmpText cmp s) rel' line)] ∧
        rep.fs = rcd.fs := by
  obtain ⟨m1, m2, m3, _⟩ := C01World.replay_history env env c c caller caller p rel rel
    fs₀ es₀ _ hsp hsp hscoped hfile hgood hfresh hnames hbodies hns hcreate
  have hok := HistOK_of_bodies _ hbodies
  obtain ⟨rcd, e1, r1, _⟩ := goRun_simulates' c caller _ (StRel_init env fs₀) hok
    (fun o ho => (m1 o ho).2.2.2)
  have hfs : rcd.fs = (C01World.recordRun env c caller fs₀ (h1 ++ .call t s₀ cmp x :: h2)).1.fs := r1.fs
  generalize (C01World.recordRun env c caller fs₀ (h1 ++ .call t s₀ cmp x :: h2)).1.fs = W at m2 hfs
  -- the replay with the changed text
  obtain ⟨q1, q2, line, q3, q4⟩ := mismatch_run c' caller' p rel' hsp' _ m3 t s s₀ cmp x h2 hne h1
    { env := env', fs := W } [] (Inv.fresh p env' W _) (scoped_text_irrel t s₀ s cmp x h2 h1 [] hscoped) m2
    (fun e he => List.mem_append.mpr (Or.inr he)) hro
  obtain ⟨rep, e2, r2, t2⟩ := goRun_simulates' c' caller' _ (StRel_init env' W) (hok.replace hsok)
    (fun o ho => (q2 o ho).2.2)
  -- the calls before the changed one
  obtain ⟨_, _, p2, _⟩ := CleanWorld.replay_prefix c' caller' p rel' hsp' _ m3 h1 _ { env := env', fs := W } []
    (Inv.fresh p env' W _) hscoped m2
    (fun e he => List.mem_append.mpr (Or.inr (by
      rw [entriesOf, entriesFrom_append]; exact List.mem_append_left _ he)))
  obtain ⟨mid, e3, _, t3⟩ := goRun_simulates' c' caller' h1 (StRel_init env' W) hok.left
    (fun o ho => (p2 o ho).2.2.2)
  refine ⟨rcd, e1, mid, rep, line, by rw [hfs]; exact e3, ?_, by rw [hfs]; exact e2, q3, ?_, ?_⟩
  · rw [t3]; exact flatten_events_silent _ p2
  · rw [t2]; exact q4
  · rw [r2.fs, hfs]; exact q1

/-- **C04 for the transliterated code** (update, then a read-only run).

Record the history `h1 ++ call t s₀ cmp x :: h2` (hypotheses of `go_replay_history`).  Run, from a
fresh state over the recorded file system, in an UPDATING mode, the same history with the text `s` at that
one call — a usable body none of whose lines is a header in play, whose compared text differs from the
recorded one: no panic, exactly one event is reported, the log "updated"; the file `p` now holds the
entries of the new history (every other entry byte-identical and in place), no other path changes.  Run
the new history once more from a fresh state over that file system in ANY mode (in particular read-only:
CI): nothing is reported and nothing is written. -/
theorem go_update_history (env env₁ env₂ : Env) (c c₁ c₂ : Cfg)
    (caller caller₁ caller₂ p rel rel₁ rel₂ : Text)
    (fs₀ : FS) (es₀ : List Entry) (h1 h2 : List Step) (t s₀ s : Text) (cmp : Cmp) (x : Nat)
    (hsp : ∀ t, snapshotPath c caller t false = (p, some rel))
    (hsp₁ : ∀ t, snapshotPath c₁ caller₁ t false = (p, some rel₁))
    (hsp₂ : ∀ t, snapshotPath c₂ caller₂ t false = (p, some rel₂))
    (hscoped : Scoped [] (h1 ++ .call t s₀ cmp x :: h2))
    (hfile : Holds fs₀ p es₀) (hgood : Good es₀)
    (hfresh : ∀ id ∈ headers (h1 ++ .call t s₀ cmp x :: h2), id ∉ fileLines es₀)
    (hnames : ∀ t' ∈ calledNames (h1 ++ .call t s₀ cmp x :: h2), NoNL t')
    (hbodies : ∀ b ∈ texts (h1 ++ .call t s₀ cmp x :: h2), GoodBody b)
    (hns : ∀ b ∈ texts (h1 ++ .call t s₀ cmp x :: h2),
      ∀ id ∈ ids es₀ ++ headers (h1 ++ .call t s₀ cmp x :: h2), id ∉ lines b)
    (hcreate : shouldCreate env c.update = true)
    (hne : cmpText cmp s₀ ≠ cmpText cmp s)
    (hsb : GoodBody s)
    (hsns : ∀ id ∈ ids es₀ ++ headers (h1 ++ .call t s₀ cmp x :: h2), id ∉ lines s)
    (hupd : shouldUpdate env₁ c₁.update = true) :
    ∃ rcd : St, goRun IOFail.never c caller (freshSt env fs₀) (h1 ++ .call t s₀ cmp x :: h2) = some rcd ∧
      ∃ upd : St,
        goRun IOFail.never c₁ caller₁ (freshSt env₁ rcd.fs) (h1 ++ .call t s cmp x :: h2) = some upd ∧
        upd.tev = [.log Generated.go_updatedMsg] ∧
        Holds upd.fs p (es₀ ++ entriesOf (h1 ++ .call t s cmp x :: h2)) ∧
        (∀ q, q ≠ p → fsRead upd.fs q = fsRead rcd.fs q) ∧
        ∃ rep : St,
          goRun IOFail.never c₂ caller₂ (freshSt env₂ upd.fs) (h1 ++ .call t s cmp x :: h2) = some rep ∧
          rep.tev = [] ∧ rep.fs = upd.fs := by
  obtain ⟨m1, m2, m3, _⟩ := C01World.replay_history env env c c caller caller p rel rel
    fs₀ es₀ _ hsp hsp hscoped hfile hgood hfresh hnames hbodies hns hcreate
  have hok := HistOK_of_bodies _ hbodies
  have hok' : HistOK (h1 ++ .call t s cmp x :: h2) := hok.replace (StepOK_of_goodBody t s cmp x hsb)
  have hscoped' := scoped_text_irrel t s₀ s cmp x h2 h1 [] hscoped
  obtain ⟨rcd, e1, r1, _⟩ := goRun_simulates' c caller _ (StRel_init env fs₀) hok
    (fun o ho => (m1 o ho).2.2.2)
  have hfs : rcd.fs = (C01World.recordRun env c caller fs₀ (h1 ++ .call t s₀ cmp x :: h2)).1.fs := r1.fs
  generalize (C01World.recordRun env c caller fs₀ (h1 ++ .call t s₀ cmp x :: h2)).1.fs = W at m2 hfs
  -- the two entry lists, split at the changed call
  have hids : ids (es₀ ++ entriesOf (h1 ++ .call t s₀ cmp x :: h2)) =
      ids es₀ ++ headers (h1 ++ .call t s₀ cmp x :: h2) := by simp [ids, headers]
  have hold : es₀ ++ entriesOf (h1 ++ .call t s₀ cmp x :: h2) =
      (es₀ ++ entriesFrom [] h1) ++ ⟨testID t ((calledNames h1).count t + 1), s₀⟩ ::
        entriesFrom (t :: (calledNames h1).reverse) h2 := by rw [entriesOf_split]; simp
  have hnew : es₀ ++ entriesOf (h1 ++ .call t s cmp x :: h2) =
      (es₀ ++ entriesFrom [] h1) ++ ⟨testID t ((calledNames h1).count t + 1), s⟩ ::
        entriesFrom (t :: (calledNames h1).reverse) h2 := by rw [entriesOf_split]; simp
  have hg' : Good (es₀ ++ entriesOf (h1 ++ .call t s cmp x :: h2)) := by
    rw [hnew]
    refine good_replace (e := ⟨testID t ((calledNames h1).count t + 1), s₀⟩) (hold ▸ m3) hsb ?_
    intro o ho
    rw [← hold] at ho
    exact hsns o.id (hids ▸ List.mem_map.mpr ⟨o, ho, rfl⟩)
  -- the updating run
  obtain ⟨u1, u2, u3, u4⟩ := update_run c₁ caller₁ p rel₁ hsp₁ (es₀ ++ entriesFrom [] h1)
    (entriesFrom (t :: (calledNames h1).reverse) h2) (testID t ((calledNames h1).count t + 1))
    t s s₀ cmp x h2 (hold ▸ m3) (hnew ▸ hg') hne h1 { env := env₁, fs := W } []
    (Inv.fresh p env₁ W _) hscoped' (hold ▸ m2) (by simp)
    (fun e he => hold ▸ List.mem_append.mpr (Or.inr he))
    (fun e he => hnew ▸ List.mem_append.mpr (Or.inr he)) hupd
  rw [← hnew] at u1
  obtain ⟨upd, e2, r2, t2⟩ := goRun_simulates' c₁ caller₁ _ (StRel_init env₁ W) hok'
    (fun o ho => (u3 o ho).2)
  have hfs₂ : upd.fs = (C01World.run c₁ caller₁ { env := env₁, fs := W } (h1 ++ .call t s cmp x :: h2)).1.fs :=
    r2.fs
  generalize (C01World.run c₁ caller₁ { env := env₁, fs := W } (h1 ++ .call t s cmp x :: h2)).1.fs = U
    at u1 u2 hfs₂
  -- the run after the update
  obtain ⟨v1, v2, _⟩ := C01World.replay_run c₂ caller₂ p rel₂ hsp₂ _ hg' (h1 ++ .call t s cmp x :: h2)
    { env := env₂, fs := U } [] (Inv.fresh p env₂ U _) hscoped' u1
    (fun e he => List.mem_append.mpr (Or.inr he))
  obtain ⟨rep, e3, r3, t3⟩ := goRun_simulates' c₂ caller₂ _ (StRel_init env₂ U) hok'
    (fun o ho => (v2 o ho).2.2.2)
  refine ⟨rcd, e1, upd, by rw [hfs]; exact e2, ?_, hfs₂ ▸ u1, fun q hq => by rw [hfs₂, hfs]; exact u2 q hq,
    rep, by rw [hfs₂]; exact e3, ?_, ?_⟩
  · rw [t2]; exact u4
  · rw [t3]; exact flatten_events_silent _ v2
  · rw [r3.fs, hfs₂]; exact v1

/-! ## a concrete history (non-vacuity)

Two tests "A" and "B" on the file of "/t/a_test.go" (`C01World.exCaller`, `C01World.exPath`): A calls
`MatchJSON` with "x", B (interleaved) `MatchYAML` with "z", A `MatchJSON` with "y"; then both
`testing.T`s end.  Byte legend: 65/66 = 'A'/'B', 120/121/122/119 = 'x'/'y'/'z'/'w'. -/

def exH1 : List Step := [.call [65] [120] .raw 1, .call [66] [122] .escaped 2]
def exH2 : List Step := [.done 1, .done 2]
def exH : List Step := exH1 ++ .call [65] [121] .raw 1 :: exH2

example : entriesOf exH = [⟨testID [65] 1, [120]⟩, ⟨testID [66] 1, [122]⟩, ⟨testID [65] 2, [121]⟩] := by
  decide +kernel

/-- the simulation theorem on the example: the hypotheses hold (by evaluation of the model) … -/
example : ∃ st', goRun IOFail.never {} C01World.exCaller (freshSt ⟨false, ""⟩ []) exH = some st' ∧
    StRel st' (C01World.run {} C01World.exCaller { env := ⟨false, ""⟩ } exH).1 ∧
    st'.tev = List.replicate 3 (.log Generated.go_addedMsg) := by
  obtain ⟨st', e, r, t⟩ := goRun_simulates' {} C01World.exCaller exH (StRel_init ⟨false, ""⟩ [])
    (by decide +kernel) (by decide +kernel)
  refine ⟨st', e, r, ?_⟩
  rw [t]; decide +kernel

/-- … `go_replay_history` applies (replay on CI with UPDATE_SNAPS=true; initial file absent) … -/
example := go_replay_history ⟨false, ""⟩ ⟨true, "true"⟩ {} {} C01World.exCaller C01World.exCaller
  C01World.exPath C01World.exRel C01World.exRel [] [] exH C01World.exPath_spec C01World.exPath_spec
  (by decide +kernel) (Or.inr ⟨rfl, rfl⟩) (by decide) (by decide +kernel) (by decide +kernel)
  (by decide +kernel) (by decide +kernel) (by decide)

/-- … and this is what the transliterated code does, by evaluation: the record run writes the three
    entries and logs "added" three times, both cleanups have run; the replay run (CI, UPDATE_SNAPS=true)
    reports nothing and leaves the file as it is -/
example :
    (goRun IOFail.never {} C01World.exCaller (freshSt ⟨false, ""⟩ []) exH).map
        (fun s => (s.fs, s.tev, s.cleanups)) =
      some ([(C01World.exPath, render (entriesOf exH))], List.replicate 3 (.log Generated.go_addedMsg), []) ∧
    ((goRun IOFail.never {} C01World.exCaller (freshSt ⟨false, ""⟩ []) exH).bind fun rcd =>
        goRun IOFail.never {} C01World.exCaller (freshSt ⟨true, "true"⟩ rcd.fs) exH).map
        (fun s => (s.fs, s.tev)) =
      some ([(C01World.exPath, render (entriesOf exH))], []) := by
  -- one evaluation for both conjuncts (they share the record run); the instance of the conjunction is
  -- put together by hand: its search as a whole exceeds the limit of instance synthesis
  refine @of_decide_eq_true _ (@instDecidableAnd _ _ ?_ ?_) ?_
  · infer_instance
  · infer_instance
  · decide +kernel

/-- `go_mismatch_history` applies: A's second call receives "w" instead of "y", on CI -/
example := go_mismatch_history ⟨false, ""⟩ ⟨true, ""⟩ {} {} C01World.exCaller C01World.exCaller
  C01World.exPath C01World.exRel C01World.exRel [] [] exH1 exH2 [65] [121] [119] .raw 1
  C01World.exPath_spec C01World.exPath_spec
  (by decide +kernel) (Or.inr ⟨rfl, rfl⟩) (by decide) (by decide +kernel) (by decide +kernel)
  (by decide +kernel) (by decide +kernel) (by decide) (by decide) trivial (by decide)

/-- … by evaluation: one error, the diff of "y" and "w" at the header's line 10; the file is untouched -/
example :
    ((goRun IOFail.never {} C01World.exCaller (freshSt ⟨false, ""⟩ []) exH).bind fun rcd =>
        goRun IOFail.never {} C01World.exCaller (freshSt ⟨true, ""⟩ rcd.fs)
          (exH1 ++ .call [65] [119] .raw 1 :: exH2)).map (fun s => (s.fs, s.tev)) =
      some ([(C01World.exPath, render (entriesOf exH))],
        [.error (prettyDiff [121] [119] C01World.exRel 10)]) := by decide +kernel

/-- `go_update_history` applies: the same change with UPDATE_SNAPS=true, then a run on CI -/
example := go_update_history ⟨false, ""⟩ ⟨false, "true"⟩ ⟨true, ""⟩ {} {} {}
  C01World.exCaller C01World.exCaller C01World.exCaller C01World.exPath C01World.exRel C01World.exRel
  C01World.exRel [] [] exH1 exH2 [65] [121] [119] .raw 1
  C01World.exPath_spec C01World.exPath_spec C01World.exPath_spec
  (by decide +kernel) (Or.inr ⟨rfl, rfl⟩) (by decide) (by decide +kernel) (by decide +kernel)
  (by decide +kernel) (by decide +kernel) (by decide) (by decide) (by decide +kernel) (by decide +kernel)
  (by decide)

/-- … by evaluation: the update logs "updated" once and rewrites the one entry; the CI run is silent -/
example :
    ((goRun IOFail.never {} C01World.exCaller (freshSt ⟨false, ""⟩ []) exH).bind fun rcd =>
        goRun IOFail.never {} C01World.exCaller (freshSt ⟨false, "true"⟩ rcd.fs)
          (exH1 ++ .call [65] [119] .raw 1 :: exH2)).map (fun s => (s.fs, s.tev)) =
      some ([(C01World.exPath, render (entriesOf (exH1 ++ .call [65] [119] .raw 1 :: exH2)))],
        [.log Generated.go_updatedMsg]) ∧
    (goRun IOFail.never {} C01World.exCaller
        (freshSt ⟨true, ""⟩ [(C01World.exPath, render (entriesOf (exH1 ++ .call [65] [119] .raw 1 :: exH2)))])
        (exH1 ++ .call [65] [119] .raw 1 :: exH2)).map (fun s => (s.fs, s.tev)) =
      some ([(C01World.exPath, render (entriesOf (exH1 ++ .call [65] [119] .raw 1 :: exH2)))], []) := by
  -- one evaluation for both conjuncts (they share the record run); the instance of the conjunction is
  -- put together by hand: its search as a whole exceeds the limit of instance synthesis
  refine @of_decide_eq_true _ (@instDecidableAnd _ _ ?_ ?_) ?_
  · infer_instance
  · infer_instance
  · decide +kernel

/-- the cleanups in the other order (first registered first): the same registries, read by read -/
example :
    let st : St :=
      { env := ⟨false, ""⟩
        reg := { running := [([98], [([97], 2), ([99], 1)])], cleanup := [([98], [([97], 2), ([99], 1)])] }
        sreg := { running := [([103], 1)], cleanup := [([103], 1)] } }
    let l : List Cleanup := [.resetReg [98] [99], .resetSReg [103], .resetReg [98] [97]]
    (runCleanupList st l).map (fun s => (s.reg, s.sreg)) =
      some ({ running := [([98], [([97], 0), ([99], 0)])], cleanup := [([98], [([97], 2), ([99], 1)])] },
            { running := [([103], 0)], cleanup := [([103], 1)] }) ∧
    (runCleanupList st l.reverse).map (fun s => (s.reg, s.sreg)) = (runCleanupList st l).map (fun s => (s.reg, s.sreg)) ∧
    runCleanupList st [.resetReg [100] [97]] = none := by
  refine ⟨by decide +kernel, by decide +kernel, by decide +kernel⟩

end GoSnaps.Tie
