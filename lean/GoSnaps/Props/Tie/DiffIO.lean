/-
Tie by proof: the diff report of snaps/diff.go and internal/colors as transliterated in
`GoSnaps.Generated.FuncsIO` (`hasNewlineSuffix`, `trimSuffix`, `Fprint`, `FprintEqual`, `FprintDelete`,
`FprintInsert`, `FprintRange`, `printRange`, `getUnifiedDiff`, `buildDiffReport`, `prettyDiff`), tied
to the hand-written model of `GoSnaps/Diff.lean` on top of the difflib model `GoSnaps/Difflib.lean`.

Both colour modes and ANY opcode source with valid groups are brought into closed form
(`getUnifiedDiff_closed`, `buildDiffReport_closed`); NO_COLOR is then the model
(`getUnifiedDiff_tied`, `buildDiffReport_tied`, `prettyDiff_tied`), and in both modes, whatever
`singlelineDiff` answers, different texts give a non-empty report (`prettyDiff_nonempty`).

Parameters of the transliteration: `nocolor` = `colors.NOCOLOR`; `groupedOpCodes` =
`difflib.NewMatcher(a, b).GetGroupedOpCodes(n)`, instantiated here with the difflib model
(`groupedModel`); `singlelineDiffFn` = `singlelineDiff` (diffmatchpatch), left ARBITRARY everywhere.
Concrete examples are checked by kernel evaluation (`decide +kernel`, no axiom: plain `decide` gets
stuck on the well-founded `extFwd` of the difflib model).
-/
import GoSnaps.Generated.FuncsIO
import GoSnaps.Props.Tie.Diff
import GoSnaps.Props.Tie.Range
import GoSnaps.Props.C13
import GoSnaps.Props.C13Difflib
import GoSnaps.Lemmas.Diff
namespace GoSnaps.Tie
open GoSnaps GoSnaps.Generated

/-! ## internal/colors -/

def cReset : Text := [27, 91, 48, 109]
def cDim : Text := [27, 91, 50, 109]
def cRedDiff : Text := [27, 91, 51, 56, 59, 53, 59, 53, 50, 109]
def cRedBg : Text := [27, 91, 52, 56, 59, 53, 59, 50, 50, 53, 109]
def cGreenDiff : Text := [27, 91, 51, 56, 59, 53, 59, 50, 50, 109]
def cGreenBg : Text := [27, 91, 52, 56, 59, 53, 59, 49, 53, 57, 109]
def cYellow : Text := [27, 91, 51, 51, 59, 49, 109]

theorem ne_nil_of_hasSuffix_nl {s : Text} (h : hasSuffix s [10] = true) : s ≠ [] := by
  intro e; subst e; simp [hasSuffix] at h

/-- `s[:len(s)-1]` panics exactly for the empty string -/
theorem slice_dropLast (s : Text) (h : s ≠ []) : GoSem.slice s 0 (GoSem.len s - 1) = some s.dropLast := by
  unfold GoSem.slice GoSem.len
  have : 0 < s.length := List.length_pos_iff.mpr h
  rw [if_pos (by omega)]
  simp [List.dropLast_eq_take]

theorem trimSuffix_eq (s : Text) (h : s ≠ []) : FuncsIO.trimSuffix s = some s.dropLast :=
  slice_dropLast s h

theorem trimSuffix_nil : FuncsIO.trimSuffix [] = none := by decide

/-- `if hasNewlineSuffix(s) { … trimSuffix(s) … }`: the guard makes the slice safe -/
theorem ite_trimSuffix {β : Type} (s : Text) (f : Text → Option β) (g : Option β) :
    (if FuncsIO.hasNewlineSuffix s = true then (FuncsIO.trimSuffix s).bind f else g) =
      if hasSuffix s [10] = true then f s.dropLast else g := by
  change (if hasSuffix s [10] = true then _ else _) = _
  split
  · rw [trimSuffix_eq s (ne_nil_of_hasSuffix_nl ‹_›)]; rfl
  · rfl

def delRowC (s : Text) : Text :=
  if hasSuffix s [10] then cRedDiff ++ cRedBg ++ [45, 32] ++ s.dropLast ++ cReset ++ [10]
  else cRedDiff ++ cRedBg ++ [45, 32] ++ s ++ cReset
def insRowC (s : Text) : Text :=
  if hasSuffix s [10] then cGreenDiff ++ cGreenBg ++ [43, 32] ++ s.dropLast ++ cReset ++ [10]
  else cGreenDiff ++ cGreenBg ++ [43, 32] ++ s ++ cReset


def rowDelIO (nocolor : Bool) (s : Text) : Text := if nocolor then [45, 32] ++ s else delRowC s
def rowInsIO (nocolor : Bool) (s : Text) : Text := if nocolor then [43, 32] ++ s else insRowC s
def rowEqIO (nocolor : Bool) (s : Text) : Text :=
  if nocolor then [32, 32] ++ s else [32, 32] ++ cDim ++ s ++ cReset
def rowRangeIO (nocolor : Bool) (r1 r2 : Text) : Text :=
  if nocolor then [64, 64, 32, 45] ++ r1 ++ [32, 43] ++ r2 ++ [32, 64, 64, 10, 10]
  else cYellow ++ [64, 64, 32, 45] ++ r1 ++ [32, 43] ++ r2 ++ [32, 64, 64] ++ cReset ++ [10, 10]

theorem FprintDelete_eq (nocolor : Bool) (w s : Text) :
    FuncsIO.FprintDelete nocolor w s = some (w ++ rowDelIO nocolor s) := by
  cases nocolor
  · unfold FuncsIO.FprintDelete rowDelIO delRowC
    simp only [Option.bind_eq_bind, ite_trimSuffix, Bool.false_eq_true, if_false]
    split <;> rfl
  · rfl
theorem FprintInsert_eq (nocolor : Bool) (w s : Text) :
    FuncsIO.FprintInsert nocolor w s = some (w ++ rowInsIO nocolor s) := by
  cases nocolor
  · unfold FuncsIO.FprintInsert rowInsIO insRowC
    simp only [Option.bind_eq_bind, ite_trimSuffix, Bool.false_eq_true, if_false]
    split <;> rfl
  · rfl
theorem FprintEqual_eq (nocolor : Bool) (w s : Text) :
    FuncsIO.FprintEqual nocolor w s = w ++ rowEqIO nocolor s := by
  cases nocolor <;> rfl
theorem FprintRange_eq (nocolor : Bool) (w r1 r2 : Text) :
    FuncsIO.FprintRange nocolor w r1 r2 = w ++ rowRangeIO nocolor r1 r2 := by
  cases nocolor <;> rfl

/-! the two modes one at a time, with the literals of the Go source -/

theorem FprintEqual_nocolor (w s : Text) : FuncsIO.FprintEqual true w s = w ++ ofString "  " ++ s := by
  rw [FprintEqual_eq, ofString_blank]; exact (List.append_assoc ..).symm
theorem FprintEqual_colour (w s : Text) :
    FuncsIO.FprintEqual false w s = w ++ ([32, 32] ++ cDim ++ s ++ cReset) := FprintEqual_eq false w s
theorem FprintRange_nocolor (w r1 r2 : Text) :
    FuncsIO.FprintRange true w r1 r2 = w ++ ofString "@@ -" ++ r1 ++ ofString " +" ++ r2 ++ ofString " @@\n\n" := by
  have e1 : ofString "@@ -" = [64, 64, 32, 45] := by decide +kernel
  have e2 : ofString " +" = [32, 43] := by decide +kernel
  have e3 : ofString " @@\n\n" = [32, 64, 64, 10, 10] := by decide +kernel
  rw [FprintRange_eq, e1, e2, e3]; simp [rowRangeIO]
theorem FprintRange_colour (w r1 r2 : Text) :
    FuncsIO.FprintRange false w r1 r2 =
      w ++ (cYellow ++ [64, 64, 32, 45] ++ r1 ++ [32, 43] ++ r2 ++ [32, 64, 64] ++ cReset ++ [10, 10]) :=
  FprintRange_eq false w r1 r2
theorem FprintDelete_nocolor (w s : Text) : FuncsIO.FprintDelete true w s = some (w ++ ofString "- " ++ s) := by
  rw [FprintDelete_eq, ofString_minus]; exact congrArg some (List.append_assoc ..).symm
theorem FprintInsert_nocolor (w s : Text) : FuncsIO.FprintInsert true w s = some (w ++ ofString "+ " ++ s) := by
  rw [FprintInsert_eq, ofString_plus]; exact congrArg some (List.append_assoc ..).symm

/-! every row is non-empty (it starts with a sign or an escape sequence) -/

theorem rowDelIO_ne_nil (nocolor : Bool) (s : Text) : rowDelIO nocolor s ≠ [] := by
  unfold rowDelIO delRowC
  split
  · exact List.cons_ne_nil _ _
  · split <;> exact List.cons_ne_nil _ _
theorem rowInsIO_ne_nil (nocolor : Bool) (s : Text) : rowInsIO nocolor s ≠ [] := by
  unfold rowInsIO insRowC
  split
  · exact List.cons_ne_nil _ _
  · split <;> exact List.cons_ne_nil _ _
theorem rowEqIO_ne_nil (nocolor : Bool) (s : Text) : rowEqIO nocolor s ≠ [] := by
  unfold rowEqIO; split <;> exact List.cons_ne_nil _ _
theorem rowRangeIO_ne_nil (nocolor : Bool) (r1 r2 : Text) : rowRangeIO nocolor r1 r2 ≠ [] := by
  unfold rowRangeIO; split <;> exact List.cons_ne_nil _ _

theorem Fprint_eq (nocolor : Bool) (w c s : Text) :
    FuncsIO.Fprint nocolor w c s = w ++ (if nocolor then s else c ++ s ++ cReset) := by
  cases nocolor <;> rfl

/-- both modes only append, and never panic -/
theorem Fprint_appends (nocolor : Bool) (w c s : Text) : ∃ x, FuncsIO.Fprint nocolor w c s = w ++ x :=
  ⟨_, Fprint_eq nocolor w c s⟩
theorem FprintEqual_appends (nocolor : Bool) (w s : Text) :
    ∃ x, x ≠ [] ∧ FuncsIO.FprintEqual nocolor w s = w ++ x :=
  ⟨_, rowEqIO_ne_nil nocolor s, FprintEqual_eq nocolor w s⟩
theorem FprintDelete_appends (nocolor : Bool) (w s : Text) :
    ∃ x, x ≠ [] ∧ FuncsIO.FprintDelete nocolor w s = some (w ++ x) :=
  ⟨_, rowDelIO_ne_nil nocolor s, FprintDelete_eq nocolor w s⟩
theorem FprintInsert_appends (nocolor : Bool) (w s : Text) :
    ∃ x, x ≠ [] ∧ FuncsIO.FprintInsert nocolor w s = some (w ++ x) :=
  ⟨_, rowInsIO_ne_nil nocolor s, FprintInsert_eq nocolor w s⟩
theorem FprintRange_appends (nocolor : Bool) (w r1 r2 : Text) :
    ∃ x, x ≠ [] ∧ FuncsIO.FprintRange nocolor w r1 r2 = w ++ x :=
  ⟨_, rowRangeIO_ne_nil nocolor r1 r2, FprintRange_eq nocolor w r1 r2⟩

example : FuncsIO.FprintDelete false [120] [97, 10] =
    some ([120] ++ cRedDiff ++ cRedBg ++ [45, 32, 97] ++ cReset ++ [10]) := by decide +kernel
example : FuncsIO.FprintInsert false [120] [97] =
    some ([120] ++ cGreenDiff ++ cGreenBg ++ [43, 32, 97] ++ cReset) := by decide +kernel
example : FuncsIO.FprintDelete true [120] [97, 10] = some [120, 45, 32, 97, 10] := by decide +kernel
example : FuncsIO.FprintRange true [] [49] [50] = ofString "@@ -1 +2 @@\n\n" := by
  decide +kernel


/-! ## `printRange` -/

/-- a difflib opcode of the model as the Go value (`int` fields) -/
def ofOp (c : Difflib.OpCode) : GoIO.OpCodeI := ⟨c.tag, c.i1, c.i2, c.j1, c.j2⟩

def rangeRowIO (nocolor : Bool) (g : List GoIO.OpCodeI) : Text :=
  match g.head?, g.getLast? with
  | some first, some last =>
    rowRangeIO nocolor (Funcs.FormatRangeUnified first.i1 last.i2) (Funcs.FormatRangeUnified first.j1 last.j2)
  | _, _ => []

/-- `opcodes[0]` panics on an empty group -/
theorem printRange_nil (nocolor : Bool) (w : Text) : FuncsIO.printRange nocolor w [] = none := rfl

theorem printRange_eq (nocolor : Bool) (w : Text) (g : List GoIO.OpCodeI) (h : g ≠ []) :
    FuncsIO.printRange nocolor w g = some (w ++ rangeRowIO nocolor g) := by
  cases g with
  | nil => exact absurd rfl h
  | cons c cs =>
    unfold FuncsIO.printRange rangeRowIO
    rw [GoSem.index_len_sub_one]
    have h0 : GoSem.index (c :: cs) 0 = some c := rfl
    rw [h0]
    cases hl : (c :: cs).getLast? with
    | none => simp at hl
    | some l => simp only [Option.bind_eq_bind, Option.bind_some, List.head?_cons, FprintRange_eq]; rfl

theorem rangeRowIO_tied (g : List Difflib.OpCode) : rangeRowIO true (g.map ofOp) = rangeRow g := by
  unfold rangeRowIO rangeRow
  rw [List.head?_map, List.getLast?_map]
  cases g.head? <;> cases g.getLast? <;> try rfl
  rename_i f l
  have e1 : ofString "@@ -" = [64, 64, 32, 45] := by decide +kernel
  have e2 : ofString " +" = [32, 43] := by decide +kernel
  have e3 : ofString " @@" = [32, 64, 64] := by decide +kernel
  simp only [Option.map_some, ofOp, FormatRangeUnified_tied, rowRangeIO, e1, e2, e3, if_true]
  simp [nl]

theorem printRange_tied (w : Text) (g : List Difflib.OpCode) (h : g ≠ []) :
    FuncsIO.printRange true w (g.map ofOp) = some (w ++ rangeRow g) := by
  rw [printRange_eq true w _ (by simpa using h), rangeRowIO_tied]

example : FuncsIO.printRange true [] [⟨0, 3, 6, 3, 6⟩, ⟨3, 6, 7, 6, 7⟩, ⟨0, 7, 10, 7, 10⟩] =
    some (ofString "@@ -4,7 +4,7 @@\n\n") := by
  decide +kernel


/-! ## the groups of the difflib model: never empty, every opcode within bounds -/

/-- what `getUnifiedDiff` needs of an opcode: the slices `aLines[i1:i2]`, `bLines[j1:j2]` exist,
    the tag is one of the four, and a change opcode has something to print -/
def OpBounds (na nb : Nat) (c : Difflib.OpCode) : Prop :=
  c.i1 ≤ c.i2 ∧ c.i2 ≤ na ∧ c.j1 ≤ c.j2 ∧ c.j2 ≤ nb ∧
  (c.tag = 0 ∨ (c.tag = 1 ∧ c.j1 < c.j2) ∨ (c.tag = 2 ∧ c.i1 < c.i2) ∨ (c.tag = 3 ∧ c.i1 < c.i2 ∧ c.j1 < c.j2))

theorem grouped_bounds {α : Type} [DecidableEq α] (a b : List α) (n : Nat) :
    ∀ g ∈ Difflib.getGroupedOpCodes a b n, ∀ c ∈ g, OpBounds a.length b.length c := by
  intro g hg c' hc'
  obtain ⟨c, hc, hrel⟩ := Difflib.grouped_members a b n g hg c' hc'
  obtain ⟨k1, k2, k3, k4, k5⟩ := (Difflib.opcodes_tile a b).2.2.2.2 c hc
  rcases hrel with rfl | ⟨s1, s2, s3, s4, s5, s6, s7⟩
  · refine ⟨k1, k3, k2, k4, ?_⟩
    rcases k5 with ⟨t, _, _⟩ | ⟨t, _, h⟩ | ⟨t, h, _⟩ | ⟨t, h1, h2⟩
    · exact Or.inl t
    · exact Or.inr (Or.inl ⟨t, h⟩)
    · exact Or.inr (Or.inr (Or.inl ⟨t, h⟩))
    · exact Or.inr (Or.inr (Or.inr ⟨t, h1, h2⟩))
  · have he : c.i2 - c.i1 = c.j2 - c.j1 := by
      rcases k5 with ⟨_, _, h⟩ | ⟨t, _⟩ | ⟨t, _⟩ | ⟨t, _⟩
      · exact h
      all_goals (rw [s2] at t; simp [Difflib.opEqual, Difflib.opInsert, Difflib.opDelete, Difflib.opReplace] at t)
    refine ⟨s4, by omega, by omega, by omega, Or.inl s1⟩

/-- no group is empty: Go's `opcodes[0]` in `printRange` cannot panic -/
theorem grouped_ne_nil {α : Type} [DecidableEq α] (a b : List α) (n : Nat) :
    ∀ g ∈ Difflib.getGroupedOpCodes a b n, g ≠ [] := by
  intro g hg e
  obtain ⟨c, hc, _⟩ := Difflib.grouped_groups_have_change a b n g hg
  rw [e] at hc; simp at hc



/-! ## the loops of `getUnifiedDiff`, both colour modes -/

theorem forIn_opt_foldl_mem {α β : Type} (l : List α) (F : α → β → Option (ForInStep β)) (f : β → α → β)
    (hF : ∀ a ∈ l, ∀ b, F a b = some (ForInStep.yield (f b a))) (b : β) :
    forIn (m := Option) l b F = some (l.foldl f b) := by
  induction l generalizing b with
  | nil => rfl
  | cons x xs ih =>
    rw [List.forIn_cons, hF x (by simp)]
    simp only [Option.bind_eq_bind, Option.bind_some]
    rw [ih (fun a ha => hF a (by simp [ha]))]
    rfl

theorem foldl_append_rows {α : Type} (r : α → Text) (l : List α) (s : Text) :
    l.foldl (fun s x => s ++ r x) s = s ++ (l.map r).flatten := by
  induction l generalizing s with
  | nil => simp
  | cons x xs ih => simp [ih]

theorem foldl_count_rows {α : Type} (r : α → Text) (l : List α) (n : Int) (s : Text) :
    l.foldl (fun (st : Int × Text) x => (st.1 + 1, st.2 ++ r x)) (n, s) =
      (n + (l.length : Int), s ++ (l.map r).flatten) := by
  induction l generalizing n s with
  | nil => simp
  | cons x xs ih => simp [ih]; omega

/-- `if line == "\n" { line = newLineSymbol + "\n" }` -/
def eqLine (l : Text) : Text := if l = [10] then go_newLineSymbol ++ [10] else l

/-- the loop over the lines of an Equal opcode, for an arbitrary body that behaves like the Go one -/
theorem equal_loop (nocolor : Bool) (l : List Text) (s : Text) (F : Text → Text → Option (ForInStep Text))
    (hF : ∀ line s, F line s = some (ForInStep.yield (s ++ rowEqIO nocolor (eqLine line)))) :
    forIn (m := Option) l s F = some (s ++ (l.map (fun x => rowEqIO nocolor (eqLine x))).flatten) := by
  rw [forIn_opt_foldl_mem l F (fun s x => s ++ rowEqIO nocolor (eqLine x)) (fun a _ b => hF a b),
    foldl_append_rows]

/-- the state of the loops: (inserted, deleted, s) -/
abbrev DSt := Int × Int × Text

/-- one opcode, given the two slices -/
def opIO (nocolor : Bool) (sl : Text → Text → Text × Int × Int) (da db : List Text) (tag : Int)
    (st : DSt) : DSt :=
  if tag = 3 ∧ Funcs.shouldPrintHighlights nocolor db.flatten da.flatten = true ∧
      (sl da.flatten db.flatten).1 ≠ [] then
    (st.1 + (sl da.flatten db.flatten).2.1, st.2.1 + (sl da.flatten db.flatten).2.2,
      st.2.2 ++ (sl da.flatten db.flatten).1)
  else if tag = 0 then
    (st.1, st.2.1, st.2.2 ++ (da.map (fun x => rowEqIO nocolor (eqLine x))).flatten)
  else
    let dels := if tag = 3 ∨ tag = 2 then da else []
    let inss := if tag = 3 ∨ tag = 1 then db else []
    (st.1 + (inss.length : Int), st.2.1 + (dels.length : Int),
      st.2.2 ++ (dels.map (rowDelIO nocolor)).flatten ++ (inss.map (rowInsIO nocolor)).flatten)

def sliceI (l : List Text) (lo hi : Int) : List Text := (l.drop lo.toNat).take (hi.toNat - lo.toNat)

def opStepIO (nocolor : Bool) (sl : Text → Text → Text × Int × Int) (aL bL : List Text)
    (st : DSt) (c : GoIO.OpCodeI) : DSt :=
  opIO nocolor sl (sliceI aL c.i1 c.i2) (sliceI bL c.j1 c.j2) c.tag st

/-- the Go slices do not panic -/
def ValidI (aL bL : List Text) (c : GoIO.OpCodeI) : Prop :=
  0 ≤ c.i1 ∧ c.i1 ≤ c.i2 ∧ c.i2 ≤ (aL.length : Int) ∧ 0 ≤ c.j1 ∧ c.j1 ≤ c.j2 ∧ c.j2 ≤ (bL.length : Int)

theorem slice_valid (l : List Text) (lo hi : Int) (h : 0 ≤ lo ∧ lo ≤ hi ∧ hi ≤ (l.length : Int)) :
    GoSem.slice l lo hi = some (sliceI l lo hi) := by
  unfold GoSem.slice; rw [if_pos h]; rfl


theorem forIn_count (r : Text → Text) (l : List Text) (n : Int) (s : Text) :
    forIn (m := Option) l (n, s) (fun line __s => some (ForInStep.yield (__s.fst + 1, __s.snd ++ r line))) =
      some (n + (l.length : Int), s ++ (l.map r).flatten) := by
  rw [forIn_opt_foldl_mem l _ (fun st x => (st.1 + 1, st.2 ++ r x)) (fun _ _ _ => rfl), foldl_count_rows]

theorem forIn_eqrows (nocolor : Bool) (l : List Text) (s : Text) :
    forIn (m := Option) l s (fun line __s =>
      if line = [10] then some (ForInStep.yield (__s ++ rowEqIO nocolor (go_newLineSymbol ++ [10])))
      else some (ForInStep.yield (__s ++ rowEqIO nocolor line))) =
      some (s ++ (l.map (fun x => rowEqIO nocolor (eqLine x))).flatten) :=
  equal_loop nocolor l s _ fun line s => by unfold eqLine; by_cases h : line = [10] <;> simp [h]

/-- one group: the range row (only for texts of more than ten lines), then its opcodes -/
def groupStepIO (nocolor : Bool) (sl : Text → Text → Text × Int × Int) (aL bL : List Text)
    (st : DSt) (g : List GoIO.OpCodeI) : DSt :=
  g.foldl (opStepIO nocolor sl aL bL)
    (st.1, st.2.1, if aL.length > 10 ∨ bL.length > 10 then st.2.2 ++ rangeRowIO nocolor g else st.2.2)

/-- the triple `return s, inserted, deleted` -/
def outIO (st : DSt) : Text × Int × Int := (st.2.2, st.1, st.2.1)

/-- an optional statement `if c { x, err := f(); … }` followed by the rest `K` of the block -/
theorem ite_bind_some {β γ : Type} (c : Prop) [Decidable c] (x y : β) (K : β → Option γ) :
    (if c then (some x).bind K else K y) = K (if c then x else y) := by
  split <;> rfl

/-- **Closed form of the transliterated `getUnifiedDiff`, both colour modes**: for ANY opcode
    source whose groups are non-empty and within the bounds of the two line lists, nothing panics
    and the result is a fold -/
theorem getUnifiedDiff_closed (nocolor : Bool)
    (grouped : List Text → List Text → Int → List (List GoIO.OpCodeI))
    (sl : Text → Text → Text × Int × Int) (a b : Text)
    (hg : ∀ g ∈ grouped (splitNewlines a) (splitNewlines b) 3,
      g ≠ [] ∧ ∀ c ∈ g, ValidI (splitNewlines a) (splitNewlines b) c) :
    FuncsIO.getUnifiedDiff nocolor grouped sl a b =
      some (outIO ((grouped (splitNewlines a) (splitNewlines b) 3).foldl
        (groupStepIO nocolor sl (splitNewlines a) (splitNewlines b)) (0, 0, []))) := by
  unfold FuncsIO.getUnifiedDiff
  rw [splitNewlines_tied a, splitNewlines_tied b]
  dsimp only [Option.bind_eq_bind, Option.bind_some]
  generalize splitNewlines a = aL at hg ⊢
  generalize splitNewlines b = bL at hg ⊢
  rw [forIn_opt_foldl_mem _ _ (groupStepIO nocolor sl aL bL) ?h]
  · rfl
  intro g hgm st
  obtain ⟨ins, del, s⟩ := st
  obtain ⟨hne, hv⟩ := hg g hgm
  have hl : ((decide (GoSem.len aL > 10) || decide (GoSem.len bL > 10)) = true) =
      (aL.length > 10 ∨ bL.length > 10) := by
    simp [GoSem.len]; omega
  -- the range row is optional: both branches continue with the same loop over the group
  simp only [printRange_eq nocolor _ g hne]
  rw [ite_bind_some]
  simp only [hl]
  rw [forIn_opt_foldl_mem g _ (opStepIO nocolor sl aL bL) ?h2]
  · rfl
  intro c hc st
  obtain ⟨ins, del, s⟩ := st
  obtain ⟨v1, v2, v3, v4, v5, v6⟩ := hv c hc
  have ha := slice_valid aL c.i1 c.i2 ⟨v1, v2, v3⟩
  have hb := slice_valid bL c.j1 c.j2 ⟨v4, v5, v6⟩
  simp only [ha, hb, Option.bind_some, FprintDelete_eq, FprintInsert_eq, FprintEqual_eq, pure,
    forIn_count, forIn_eqrows, Bool.true_or, Bool.false_or, if_true, beq_iff_eq, bne_iff_ne]
  unfold opStepIO opIO
  generalize sliceI aL c.i1 c.i2 = da
  generalize sliceI bL c.j1 c.j2 = db
  generalize c.tag = tag
  -- what is left compares two decision trees over the tag: Replace (inline diff, or fall back to
  -- both row lists), Equal, Delete, Insert, and any other tag (nothing is printed)
  by_cases h3 : tag = 3
  · subst h3
    by_cases hh : Funcs.shouldPrintHighlights nocolor db.flatten da.flatten = true
    · by_cases hd : (sl da.flatten db.flatten).1 = []
      · simp [hh, hd]
      · simp [hh, hd]
    · simp [hh]
  · by_cases h0 : tag = 0
    · subst h0; simp
    · by_cases h2 : tag = 2
      · subst h2; simp
      · by_cases h1 : tag = 1
        · subst h1; simp
        · simp [h3, h0, h2, h1]


/-! ## NO_COLOR: `getUnifiedDiff` is the model's -/

/-- the difflib model as the opcode source of the transliteration -/
def groupedModel (a b : List Text) (n : Int) : List (List GoIO.OpCodeI) :=
  (Difflib.getGroupedOpCodes a b n.toNat).map (fun g => g.map ofOp)

theorem groupedModel_eq : groupedModel =
    fun a b n => (Difflib.getGroupedOpCodes a b n.toNat).map (fun g => g.map ofOp) := rfl

/-- stated with `unfold`: left to the unifier, `?x ∈ groupedModel a b n` makes it evaluate the
    difflib model -/
theorem mem_groupedModel {a b : List Text} {n : Int} {g : List Difflib.OpCode}
    (h : g ∈ Difflib.getGroupedOpCodes a b n.toNat) : g.map ofOp ∈ groupedModel a b n := by
  unfold groupedModel; exact List.mem_map_of_mem h

theorem groupedModel_three (a b : List Text) :
    groupedModel a b 3 = (Difflib.getGroupedOpCodes a b 3).map (fun g => g.map ofOp) := rfl

def accOf (acc : DiffAcc) : DSt := ((acc.inserted : Int), (acc.deleted : Int), acc.text)

theorem diffContext_eq : Generated.diffContext = 3 := by decide

theorem shouldPrintHighlights_nocolor (a b : Text) : Funcs.shouldPrintHighlights true a b = false := by
  rw [shouldPrintHighlights_tied]; rfl

theorem sliceI_ofNat (l : List Text) (i1 i2 : Nat) : sliceI l (i1 : Int) (i2 : Int) = sliceL l i1 i2 := by
  simp [sliceI, sliceL]

theorem rowEqIO_tied (x : Text) : rowEqIO true (eqLine x) = rowEqual x := by
  rw [rowEqual_eq]; unfold rowEqIO eqLine; simp [nl]; rfl
theorem rowDelIO_tied : rowDelIO true = rowDelete := by
  funext x; rw [rowDelete_eq]; simp [rowDelIO]
theorem rowInsIO_tied : rowInsIO true = rowInsert := by
  funext x; rw [rowInsert_eq]; simp [rowInsIO]

theorem opStepIO_tied (sl : Text → Text → Text × Int × Int) (aL bL : List Text) (acc : DiffAcc)
    (c : Difflib.OpCode) :
    opStepIO true sl aL bL (accOf acc) (ofOp c) = accOf (opRows aL bL c acc) := by
  unfold opStepIO opIO opRows ofOp accOf
  simp only [sliceI_ofNat, shouldPrintHighlights_nocolor, rowEqIO_tied, rowDelIO_tied, rowInsIO_tied]
  have e0 : ((c.tag : Int) = 0) ↔ c.tag = Difflib.opEqual := by simp [Difflib.opEqual]
  have e1 : ((c.tag : Int) = 1) ↔ c.tag = Difflib.opInsert := by simp [Difflib.opInsert]; omega
  have e2 : ((c.tag : Int) = 2) ↔ c.tag = Difflib.opDelete := by simp [Difflib.opDelete]; omega
  have e3 : ((c.tag : Int) = 3) ↔ c.tag = Difflib.opReplace := by simp [Difflib.opReplace]; omega
  simp only [e0, e1, e2, e3]
  by_cases h0 : c.tag = Difflib.opEqual
  · simp [h0]
  · simp only [h0, if_false, Bool.false_eq_true, false_and, and_false]
    have : (c.tag = Difflib.opReplace ∨ c.tag = Difflib.opDelete) ↔ (c.tag = Difflib.opDelete ∨ c.tag = Difflib.opReplace) := Or.comm
    have : (c.tag = Difflib.opReplace ∨ c.tag = Difflib.opInsert) ↔ (c.tag = Difflib.opInsert ∨ c.tag = Difflib.opReplace) := Or.comm
    simp only [*]
    simp

theorem foldl_tied {α β : Type} (m : α → β) (stepIO : DSt → β → DSt) (stepM : DiffAcc → α → DiffAcc)
    (h : ∀ acc x, stepIO (accOf acc) (m x) = accOf (stepM acc x)) (l : List α) (acc : DiffAcc) :
    (l.map m).foldl stepIO (accOf acc) = accOf (l.foldl stepM acc) := by
  induction l generalizing acc with
  | nil => rfl
  | cons x xs ih => rw [List.map_cons, List.foldl_cons, List.foldl_cons, h, ih]

/-- the model's step for one group -/
def groupStepM (aL bL : List Text) (acc : DiffAcc) (g : List Difflib.OpCode) : DiffAcc :=
  g.foldl (fun acc c => opRows aL bL c acc)
    (if aL.length > 10 ∨ bL.length > 10 then { acc with text := acc.text ++ rangeRow g } else acc)

theorem getUnifiedDiff_model (a b : Text) :
    GoSnaps.getUnifiedDiff a b =
      (Difflib.getGroupedOpCodes (splitNewlines a) (splitNewlines b) 3).foldl
        (groupStepM (splitNewlines a) (splitNewlines b)) {} := rfl

theorem groupStepIO_tied (sl : Text → Text → Text × Int × Int) (aL bL : List Text) (acc : DiffAcc)
    (g : List Difflib.OpCode) :
    groupStepIO true sl aL bL (accOf acc) (g.map ofOp) = accOf (groupStepM aL bL acc g) := by
  unfold groupStepIO groupStepM
  rw [rangeRowIO_tied, ← foldl_tied ofOp _ _ (fun acc c => opStepIO_tied sl aL bL acc c)]
  split <;> rfl

theorem ofOp_valid {aL bL : List Text} {c : Difflib.OpCode} (h : OpBounds aL.length bL.length c) :
    ValidI aL bL (ofOp c) := by
  obtain ⟨h1, h2, h3, h4, _⟩ := h
  unfold ValidI ofOp
  simp only
  omega

/-- the opcode source `groupedModel` satisfies the hypothesis of `getUnifiedDiff_closed`: the Go
    code indexes `opcodes[0]` and slices `aLines[i1:i2]`, `bLines[j1:j2]` without panicking -/
theorem groupedModel_valid (aL bL : List Text) (n : Int) :
    ∀ g ∈ groupedModel aL bL n, g ≠ [] ∧ ∀ c ∈ g, ValidI aL bL c := by
  intro g hg
  unfold groupedModel at hg
  obtain ⟨g', hg', rfl⟩ := List.mem_map.mp hg
  refine ⟨by simpa using grouped_ne_nil aL bL _ g' hg', ?_⟩
  intro c hc
  obtain ⟨c', hc', rfl⟩ := List.mem_map.mp hc
  exact ofOp_valid (grouped_bounds aL bL _ g' hg' c' hc')

/-- **Tie** (NO_COLOR, every `a b`, every `sl`): nothing panics and text and counts are the model's -/
theorem getUnifiedDiff_tied (sl : Text → Text → Text × Int × Int) (a b : Text) :
    FuncsIO.getUnifiedDiff true groupedModel sl a b =
      some ((GoSnaps.getUnifiedDiff a b).text, ((GoSnaps.getUnifiedDiff a b).inserted : Int),
        ((GoSnaps.getUnifiedDiff a b).deleted : Int)) := by
  rw [getUnifiedDiff_closed true groupedModel sl a b (groupedModel_valid _ _ 3), getUnifiedDiff_model,
    groupedModel_three]
  -- as a variable: a unifier that sees the difflib model starts to evaluate it
  generalize Difflib.getGroupedOpCodes (splitNewlines a) (splitNewlines b) 3 = gs
  exact congrArg (fun st => some (outIO st)) (foldl_tied _ _ _ (groupStepIO_tied sl _ _) gs {})

example : FuncsIO.getUnifiedDiff true groupedModel (fun _ _ => ([], 0, 0)) [97, 10, 98, 10] [97, 10, 99, 10] =
    some (ofString "  a\n- b\n+ c\n  ↵\n", 1, 1) := by
  decide +kernel



/-! ## `buildDiffReport`, `prettyDiff` -/

/-- the head of the report: an empty line, the two summary rows with their paddings, an empty line -/
def headIO (nocolor : Bool) (ip dp : Text) (i d : Int) : Text :=
  [10] ++ rowDelIO nocolor ([83, 110, 97, 112, 115, 104, 111, 116, 32] ++ dp ++ [45, 32] ++ GoSem.itoa d ++ [10]) ++
    rowInsIO nocolor ([82, 101, 99, 101, 105, 118, 101, 100, 32] ++ ip ++ [43, 32] ++ GoSem.itoa i ++ [10]) ++ [10]

/-- the footer row `colors.Fprint(&s, colors.Dim, "at name:line\n")` -/
def footRowIO (nocolor : Bool) (name : Text) (line : Int) : Text :=
  if nocolor then [97, 116, 32] ++ name ++ [58] ++ GoSem.itoa line ++ [10]
  else cDim ++ ([97, 116, 32] ++ name ++ [58] ++ GoSem.itoa line ++ [10]) ++ cReset

/-- **Closed form of `buildDiffReport`, both colour modes, any `int` counts**: it panics only if
    `intPadding` does (it never does: `intPadding_no_panic`) -/
theorem buildDiffReport_closed (nocolor : Bool) (i d : Int) (diff name : Text) (line : Int)
    (hd : diff ≠ []) (ip dp : Text) (hp : Funcs.intPadding i d = some (ip, dp)) :
    FuncsIO.buildDiffReport nocolor i d diff name line =
      some (headIO nocolor ip dp i d ++ diff ++ [10] ++
        (if name = [] then [] else footRowIO nocolor name line)) := by
  unfold FuncsIO.buildDiffReport
  rw [if_neg (by simpa using hd), hp]
  simp only [Option.bind_eq_bind, Option.bind_some, FprintDelete_eq, FprintInsert_eq, pure, Fprint_eq,
    List.nil_append]
  by_cases hn : name = []
  · subst hn; exact congrArg some (List.append_nil _).symm
  · rw [if_pos (by simpa using hn), if_neg hn]; rfl

theorem buildDiffReport_empty (nocolor : Bool) (i d : Int) (name : Text) (line : Int) :
    FuncsIO.buildDiffReport nocolor i d [] name line = some [] := rfl

/-- for a non-empty diff the report is produced (no panic) and is non-empty, in both modes and for
    arbitrary `int` counts (diffmatchpatch's `-1, -1` included) -/
theorem buildDiffReport_nonempty (nocolor : Bool) (i d : Int) (diff name : Text) (line : Int)
    (hd : diff ≠ []) : ∃ r, r ≠ [] ∧ FuncsIO.buildDiffReport nocolor i d diff name line = some r := by
  have h := intPadding_no_panic i d
  cases hp : Funcs.intPadding i d with
  | none => rw [hp] at h; simp at h
  | some p =>
    obtain ⟨ip, dp⟩ := p
    exact ⟨_, by simp, buildDiffReport_closed nocolor i d diff name line hd ip dp hp⟩

theorem buildDiffReport_tied (i d : Nat) (diff name : Text) (line : Nat) :
    FuncsIO.buildDiffReport true (i : Int) (d : Int) diff name (line : Int) =
      some (GoSnaps.buildDiffReport i d diff name line) := by
  by_cases hd : diff = []
  · subst hd; rfl
  · rw [buildDiffReport_closed true i d diff name line hd (GoSnaps.intPadding i d).1 (GoSnaps.intPadding i d).2
      (intPadding_tied i d)]
    unfold GoSnaps.buildDiffReport headIO footRowIO
    generalize GoSnaps.intPadding i d = p
    obtain ⟨ip, dp⟩ := p
    have e1 : ofString "Snapshot " = [83, 110, 97, 112, 115, 104, 111, 116, 32] := by decide +kernel
    have e2 : ofString "Received " = [82, 101, 99, 101, 105, 118, 101, 100, 32] := by decide +kernel
    have e3 : ofString "at " = [97, 116, 32] := by decide +kernel
    have e4 : ofString ":" = [58] := by decide +kernel
    rw [if_neg hd, e1, e2, e3, e4, ofString_minus, ofString_plus, rowDelIO_tied, rowInsIO_tied, GoSem.itoa_natCast,
      GoSem.itoa_natCast, GoSem.itoa_natCast, ite_not]
    rfl

example : FuncsIO.buildDiffReport true 1 10 [120, 10] [110] 5 =
    some (ofString "\n- Snapshot - 10\n+ Received  + 1\n\nx\n\nat n:5\n") := by
  decide +kernel


theorem prettyDiff_tied (sl : Text → Text → Text × Int × Int) (expected received name : Text) (line : Nat) :
    FuncsIO.prettyDiff true groupedModel sl expected received name (line : Int) =
      some (GoSnaps.prettyDiff expected received name line) := by
  unfold FuncsIO.prettyDiff GoSnaps.prettyDiff
  by_cases he : expected = received
  · subst he; simp
  · have he' : (expected == received) = false := by simpa using he
    simp only [he', Bool.false_eq_true, if_false, shouldPrintHighlights_nocolor, getUnifiedDiff_tied,
      Option.bind_eq_bind, Option.bind_some, he]
    simp only [ite_self, buildDiffReport_tied]

/-- the `prettyDiff` used by the transliterated Match* flows (`GoIO.prettyDiffI`, the model with
    Go's `int` line number) is the transliterated `prettyDiff` for `line ≥ 0` -/
theorem prettyDiffI_tied (sl : Text → Text → Text × Int × Int) (a b rel : Text) (line : Int) (h : 0 ≤ line) :
    FuncsIO.prettyDiff true groupedModel sl a b rel line = some (GoIO.prettyDiffI a b rel line) := by
  have e : ((line.toNat : Nat) : Int) = line := by omega
  have h := prettyDiff_tied sl a b rel line.toNat
  rw [e] at h
  exact h

example : FuncsIO.prettyDiff true groupedModel (fun _ _ => ([], 0, 0)) [97, 10, 98] [97, 10, 99] [110] 5 =
    some (ofString "\n- Snapshot - 1\n+ Received + 1\n\n  a\n- b\n+ c\n\nat n:5\n") := by
  decide +kernel

/-- a 12-line text with line 6 changed: the range row appears -/
example : FuncsIO.getUnifiedDiff true groupedModel (fun _ _ => ([], 0, 0))
    [97,10,98,10,99,10,100,10,101,10,102,10,103,10,104,10,105,10,106,10,107,10,108]
    [97,10,98,10,99,10,100,10,101,10,120,10,103,10,104,10,105,10,106,10,107,10,108] =
    some (ofString "@@ -3,7 +3,7 @@\n\n  c\n  d\n  e\n- f\n+ x\n  g\n  h\n  i\n", 1, 1) := by
  decide +kernel



/-! ## both modes: the report of different texts is not empty -/

def tlen (st : DSt) : Nat := st.2.2.length

theorem flatten_map_length_pos {α : Type} (r : α → Text) (l : List α) (hl : l ≠ []) (hr : ∀ x, r x ≠ []) :
    0 < (l.map r).flatten.length := by
  cases l with
  | nil => exact absurd rfl hl
  | cons x xs =>
    have := List.length_pos_iff.mpr (hr x)
    simp only [List.map_cons, List.flatten_cons, List.length_append]
    omega

theorem ite_rel {α : Type} (P : α → Prop) {c : Prop} [Decidable c] {a b : α}
    (ha : c → P a) (hb : ¬ c → P b) : P (if c then a else b) := by
  split
  · exact ha ‹_›
  · exact hb ‹_›

/-- every opcode only appends … -/
theorem opIO_len_le (nocolor : Bool) (sl : Text → Text → Text × Int × Int) (da db : List Text) (tag : Int)
    (st : DSt) : tlen st ≤ tlen (opIO nocolor sl da db tag st) := by
  unfold opIO
  refine ite_rel (tlen st ≤ tlen ·) (fun _ => ?_) fun _ => ite_rel (tlen st ≤ tlen ·) (fun _ => ?_) fun _ => ?_
  all_goals (unfold tlen; simp only [List.length_append]; omega)

/-- … and a change opcode with a non-empty side appends something, whatever `singlelineDiff`
    answers: either its non-empty inline text, or (fall-back) at least one `-` or `+` row -/
theorem opIO_len_lt (nocolor : Bool) (sl : Text → Text → Text × Int × Int) (da db : List Text) (tag : Int)
    (st : DSt) (h : (tag = 1 ∧ db ≠ []) ∨ (tag = 2 ∧ da ≠ []) ∨ (tag = 3 ∧ da ≠ [])) :
    tlen st < tlen (opIO nocolor sl da db tag st) := by
  unfold opIO
  refine ite_rel (tlen st < tlen ·) (fun hc => ?_) fun _ => ?_
  · have := List.length_pos_iff.mpr hc.2.2
    unfold tlen
    simp only [List.length_append]; omega
  · have h0 : tag ≠ 0 := by omega
    rw [if_neg h0]
    unfold tlen
    simp only [List.length_append]
    rcases h with ⟨ht, hne⟩ | ⟨ht, hne⟩ | ⟨ht, hne⟩
    · subst ht
      have := flatten_map_length_pos (rowInsIO nocolor) db hne (rowInsIO_ne_nil nocolor)
      simp only [or_true, if_true]
      omega
    · subst ht
      have := flatten_map_length_pos (rowDelIO nocolor) da hne (rowDelIO_ne_nil nocolor)
      simp only [or_true, if_true]
      omega
    · subst ht
      have := flatten_map_length_pos (rowDelIO nocolor) da hne (rowDelIO_ne_nil nocolor)
      simp only [true_or, if_true]
      omega

theorem foldl_measure_le {σ α : Type} (m : σ → Nat) (f : σ → α → σ) (l : List α)
    (hle : ∀ s, ∀ a ∈ l, m s ≤ m (f s a)) (s : σ) : m s ≤ m (l.foldl f s) := by
  induction l generalizing s with
  | nil => exact Nat.le_refl _
  | cons x xs ih =>
    exact Nat.le_trans (hle s x (by simp)) (ih (fun s a ha => hle s a (by simp [ha])) _)

theorem foldl_measure_lt {σ α : Type} (m : σ → Nat) (f : σ → α → σ) (l : List α)
    (hle : ∀ s, ∀ a ∈ l, m s ≤ m (f s a)) (a0 : α) (h0 : a0 ∈ l) (hlt : ∀ s, m s < m (f s a0)) (s : σ) :
    m s < m (l.foldl f s) := by
  induction l generalizing s with
  | nil => simp at h0
  | cons x xs ih =>
    have hle' : ∀ s, ∀ a ∈ xs, m s ≤ m (f s a) := fun s a ha => hle s a (by simp [ha])
    simp only [List.mem_cons] at h0
    rcases h0 with rfl | h0
    · exact Nat.lt_of_lt_of_le (hlt s) (foldl_measure_le m f xs hle' _)
    · exact Nat.lt_of_le_of_lt (hle s x (by simp)) (ih hle' h0 _)

theorem groupStepIO_len_le (nocolor : Bool) (sl : Text → Text → Text × Int × Int) (aL bL : List Text)
    (st : DSt) (g : List GoIO.OpCodeI) : tlen st ≤ tlen (groupStepIO nocolor sl aL bL st g) := by
  unfold groupStepIO
  refine Nat.le_trans ?_ (foldl_measure_le tlen _ g (fun s c _ => opIO_len_le nocolor sl _ _ c.tag s) _)
  unfold tlen
  split
  · simp only [List.length_append]; omega
  · exact Nat.le_refl _

theorem groupStepIO_len_lt (nocolor : Bool) (sl : Text → Text → Text × Int × Int) (aL bL : List Text)
    (st : DSt) (g : List Difflib.OpCode) (c : Difflib.OpCode) (hc : c ∈ g) (ht : c.tag ≠ 0)
    (hb : OpBounds aL.length bL.length c) :
    tlen st < tlen (groupStepIO nocolor sl aL bL st (g.map ofOp)) := by
  unfold groupStepIO
  refine Nat.lt_of_le_of_lt ?_ (foldl_measure_lt tlen _ (g.map ofOp)
    (fun s c _ => opIO_len_le nocolor sl _ _ c.tag s) (ofOp c) (List.mem_map_of_mem hc) ?_ _)
  · unfold tlen
    split
    · simp only [List.length_append]; omega
    · exact Nat.le_refl _
  · intro s
    apply opIO_len_lt
    obtain ⟨b1, b2, b3, b4, b5⟩ := hb
    simp only [ofOp, sliceI_ofNat]
    rcases b5 with h | ⟨h, hj⟩ | ⟨h, hi⟩ | ⟨h, hi, hj⟩
    · exact absurd h ht
    · exact Or.inl ⟨by simp [h], sliceL_ne_nil hj b4⟩
    · exact Or.inr (Or.inl ⟨by simp [h], sliceL_ne_nil hi b2⟩)
    · exact Or.inr (Or.inr ⟨by simp [h], sliceL_ne_nil hi b2⟩)

/-- **both modes, any `singlelineDiff`**: for different texts the line diff does not panic and its
    text is not empty -/
theorem getUnifiedDiff_nonempty (nocolor : Bool) (sl : Text → Text → Text × Int × Int) (a b : Text)
    (h : a ≠ b) : ∃ t i d, t ≠ [] ∧ FuncsIO.getUnifiedDiff nocolor groupedModel sl a b = some (t, i, d) := by
  refine ⟨_, _, _, ?_, getUnifiedDiff_closed nocolor groupedModel sl a b (groupedModel_valid _ _ 3)⟩
  have hL : splitNewlines a ≠ splitNewlines b := fun e => h (splitNewlines_inj e)
  generalize splitNewlines a = aL at hL ⊢
  generalize splitNewlines b = bL at hL ⊢
  have hne := Difflib.grouped_nonempty_of_ne aL bL 3 hL
  obtain ⟨g, hg⟩ := List.exists_mem_of_ne_nil _ hne
  obtain ⟨c, hc, ht⟩ := Difflib.grouped_groups_have_change aL bL 3 g hg
  have hb := grouped_bounds aL bL 3 g hg c hc
  have key := foldl_measure_lt tlen (groupStepIO nocolor sl aL bL) (groupedModel aL bL 3)
    (fun s g _ => groupStepIO_len_le nocolor sl aL bL s g) (g.map ofOp) (mem_groupedModel hg)
    (fun s => groupStepIO_len_lt nocolor sl aL bL s g c hc ht hb) (0, 0, [])
  intro e
  unfold tlen at key
  rw [e] at key
  exact Nat.lt_irrefl 0 key

/-- **C02/C13 on the transliteration, both colour modes** -/
theorem prettyDiff_nonempty (nocolor : Bool) (sl : Text → Text → Text × Int × Int)
    (expected received name : Text) (line : Int) (h : expected ≠ received) :
    ∃ r, r ≠ [] ∧ FuncsIO.prettyDiff nocolor groupedModel sl expected received name line = some r := by
  obtain ⟨t, i, d, ht, hu⟩ := getUnifiedDiff_nonempty nocolor sl expected received h
  have he' : (expected == received) = false := by simpa using h
  have ht' : (t == []) = false := by simpa using ht
  unfold FuncsIO.prettyDiff
  simp only [he', Bool.false_eq_true, if_false, Option.bind_eq_bind, pure]
  by_cases hh : Funcs.shouldPrintHighlights nocolor expected received = true
  · simp only [hh, if_true, Option.bind_some]
    by_cases hd : (sl expected received).1 = []
    · simp only [hd, beq_self_eq_true, if_true, hu, Option.bind_some]
      obtain ⟨r, hr, e⟩ := buildDiffReport_nonempty nocolor i d t name line ht
      exact ⟨r, hr, by rw [e]⟩
    · have hd' : ((sl expected received).1 == []) = false := by simpa using hd
      simp only [hd', Bool.false_eq_true, if_false]
      obtain ⟨r, hr, e⟩ := buildDiffReport_nonempty nocolor (sl expected received).2.1 (sl expected received).2.2
        (sl expected received).1 name line hd
      exact ⟨r, hr, by rw [e]⟩
  · simp only [hh, Bool.false_eq_true, if_false, hu, Option.bind_some, ht']
    obtain ⟨r, hr, e⟩ := buildDiffReport_nonempty nocolor i d t name line ht
    exact ⟨r, hr, by rw [e]⟩

/-- with colours on, for ANY answer of diffmatchpatch, different texts give a report, and it is not
    empty (defect D3 cannot occur) -/
theorem prettyDiff_colour_nonempty (sl : Text → Text → Text × Int × Int)
    (expected received name : Text) (line : Int) (h : expected ≠ received) :
    ∃ r, FuncsIO.prettyDiff false groupedModel sl expected received name line = some r ∧ r ≠ [] := by
  obtain ⟨r, hr, e⟩ := prettyDiff_nonempty false sl expected received name line h
  exact ⟨r, e, hr⟩

example : ∃ r, FuncsIO.prettyDiff false groupedModel (fun _ _ => ([], -1, -1)) [97] [98] [110] 3 = some r ∧ r ≠ [] :=
  prettyDiff_colour_nonempty _ _ _ _ _ (by decide)

/-- the scenario of defect D3: colours on, a single-line pair, and diffmatchpatch cannot tell the two
    lines apart (`singlelineDiff` returns `"", -1, -1`): `getUnifiedDiff` falls back to one `-` row and
    one `+` row and counts them -/
example : FuncsIO.getUnifiedDiff false groupedModel (fun _ _ => ([], -1, -1)) [97] [98] =
    some (cRedDiff ++ cRedBg ++ [45, 32, 97] ++ cReset ++ [10] ++
          (cGreenDiff ++ cGreenBg ++ [43, 32, 98] ++ cReset ++ [10]), 1, 1) := by
  decide +kernel

/-- … and when diffmatchpatch does answer, its text and counts are taken over -/
example : FuncsIO.getUnifiedDiff false groupedModel (fun _ _ => ([120], 5, 7)) [97] [98] =
    some ([120], 5, 7) := by
  decide +kernel

/-- the whole coloured report for the D3 scenario (`prettyDiff` first asks `singlelineDiff`, gets
    `""`, and falls back to `getUnifiedDiff`, which falls back to line rows) -/
example : FuncsIO.prettyDiff false groupedModel (fun _ _ => ([], -1, -1)) [97] [98] [] 3 =
    some ([10] ++ delRowC (ofString "Snapshot - 1\n") ++ insRowC (ofString "Received + 1\n") ++ [10] ++
      (delRowC [97, 10] ++ insRowC [98, 10]) ++ [10]) := by
  decide +kernel

end GoSnaps.Tie
