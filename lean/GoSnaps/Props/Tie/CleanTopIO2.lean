/-
Tie by proof: `examineFiles` (snaps/clean.go; `Generated/FuncsIO.lean`) against the model's
`examineFiles` (`GoSnaps/Clean.lean`).

The Go function ranges over maps and sets (unspecified order; the transliteration iterates in list
order), the model visits the directories in byte order (`sortBytes (dedup …)`).  For every failure
oracle the transliteration is a fold over the directories of a fold over the entries, each entry
treated by its classification (`isCand`, `isUsed`, `isObs`); the model's loops are put in terms of
the same classification.  One directory is tied exactly; all directories exactly when visited in the
model's order (`examineFiles_tied_partial`, always so for one directory), and in ANY order up to a
permutation of `obsolete` / `used` and the content of the file system (`examineFiles_tied`), given
that `filepath.Join` is faithful (`joinFaithful_abs`) and no snapshot directory lies inside another.
-/
import GoSnaps.Props.Tie.CleanTopIO1
namespace GoSnaps.Tie
open GoSnaps GoSnaps.GoIO
open GoSnaps.Generated.FuncsIO

/-! ## closed form, for every failure oracle -/

/-- the variables the loops of `examineFiles` carry: `fs`, `stdout`, `obsolete`, `used` -/
abbrev FSt := FS × Text × List Text × List Text

/-! ### the classification of a directory entry -/

/-- `filepath.Join(dir, content.Name())` -/
def entryPath (dir : Text) (c : Text × Bool) : Text := fpJoin [dir, c.1]

/-- a regular file whose name contains `.snap` -/
def isCand (c : Text × Bool) : Bool := !(c.2 || !containsSub c.1 Generated.go_snapsExt)

/-- `_, called := registry[snapPath]` -/
def isUsed (registry : Map2) (dir : Text) (c : Text × Bool) : Bool :=
  isCand c && map2Has registry (entryPath dir c)

/-- neither called, nor a registered standalone snapshot, nor skipped through `-run` -/
def isObs (parseFile : Text → List GoDecl × Err) (re : Text → Text → Bool × Bool) (registry : Map2) (sa : GoSet)
    (runOnly dir : Text) (c : Text × Bool) : Bool :=
  isCand c && !map2Has registry (entryPath dir c) && !setHas sa (entryPath dir c) &&
    !Generated.FuncsIO.isFileSkipped parseFile re dir c.1 runOnly

theorem isObs_of_isUsed (parseFile : Text → List GoDecl × Err) (re : Text → Text → Bool × Bool) (registry : Map2)
    (sa : GoSet) (runOnly dir : Text) (c : Text × Bool) (hu : isUsed registry dir c = true) :
    isObs parseFile re registry sa runOnly dir c = false := by
  unfold isUsed at hu; unfold isObs
  simp only [Bool.and_eq_true] at hu
  simp [hu.2]

/-- one directory entry: a used file is recorded; an obsolete one is recorded and, when updating,
    removed (a failing `os.Remove` prints its error); anything else is passed over -/
def goEntry (io : IOFail) (parseFile : Text → List GoDecl × Err) (re : Text → Text → Bool × Bool)
    (registry : Map2) (sa : GoSet) (runOnly : Text) (update : Bool) (dir : Text) (s : FSt) (c : DirEntry) : FSt :=
  if isUsed registry dir (entPair c) then (s.1, s.2.1, s.2.2.1, s.2.2.2 ++ [entryPath dir (entPair c)])
  else if isObs parseFile re registry sa runOnly dir (entPair c) then
    if update then
      ((remove io s.1 (entryPath dir (entPair c))).1,
       (if (remove io s.1 (entryPath dir (entPair c))).2.notNil then
          s.2.1 ++ (remove io s.1 (entryPath dir (entPair c))).2.text ++ [10] else s.2.1),
       s.2.2.1 ++ [entryPath dir (entPair c)], s.2.2.2)
    else (s.1, s.2.1, s.2.2.1 ++ [entryPath dir (entPair c)], s.2.2.2)
  else s

def goDir (io : IOFail) (parseFile : Text → List GoDecl × Err) (re : Text → Text → Bool × Bool)
    (registry : Map2) (sa : GoSet) (runOnly : Text) (update : Bool) (s : FSt) (dir : Text) : FSt :=
  ((GoIO.readDir io s.1 dir).1).foldl (goEntry io parseFile re registry sa runOnly update dir) s

/-- `uniqueDirs`, in the order the transliteration builds it -/
def goDirs (registry : Map2) (sa : GoSet) : GoSet :=
  sa.foldl (fun acc p => setAdd acc (fpDir p)) ((registry.map (·.1)).foldl (fun acc p => setAdd acc (fpDir p)) [])

/-- **`examineFiles`, for every failure oracle**: a fold over the directories of a fold over the
    entries of each listing -/
theorem examineFiles_eq (io : IOFail) (fs : FS) (out : Text) (parseFile : Text → List GoDecl × Err)
    (re : Text → Text → Bool × Bool) (registry : Map2) (sa : GoSet) (runOnly : Text) (update : Bool) :
    Generated.FuncsIO.examineFiles io fs out parseFile re registry sa runOnly update =
      (goDirs registry sa).foldl (goDir io parseFile re registry sa runOnly update) (fs, out, [], []) := by
  unfold Generated.FuncsIO.examineFiles
  simp only [Id.run, pure, bind, Prod.eta]
  simp only [forIn_id_fold _ _ _ (fun acc p => setAdd acc (fpDir p)) (fun _ _ => rfl)]
  rw [forIn_id_fold _ _ _ (goDir io parseFile re registry sa runOnly update) ?h]
  · rfl
  case h =>
    intro dir s
    congr 1
    unfold goDir
    apply forIn_id_fold
    intro c s
    -- the `continue`s of the loop body, one after the other
    unfold goEntry isUsed isObs isCand entryPath entPair
    by_cases h1 : (c.isDir || !containsSub c.name Generated.go_snapsExt) = true
    · simp only [h1, Bool.not_true, Bool.false_and, Bool.false_eq_true, ↓reduceIte]
    have h1' : (c.isDir || !containsSub c.name Generated.go_snapsExt) = false := by simpa using h1
    by_cases h2 : map2Has registry (fpJoin [dir, c.name]) = true
    · simp only [h1', h2, Bool.not_false, Bool.true_and, Bool.false_eq_true, ↓reduceIte]
    have h2' : map2Has registry (fpJoin [dir, c.name]) = false := by simpa using h2
    by_cases h3 : setHas sa (fpJoin [dir, c.name]) = true
    · simp only [h1', h2', h3, Bool.not_false, Bool.not_true, Bool.true_and, Bool.and_false, Bool.false_and, Bool.false_eq_true, ↓reduceIte]
    have h3' : setHas sa (fpJoin [dir, c.name]) = false := by simpa using h3
    by_cases h4 : Generated.FuncsIO.isFileSkipped parseFile re dir c.name runOnly = true
    · simp only [h1', h2', h3', h4, Bool.not_false, Bool.not_true, Bool.true_and, Bool.and_false, Bool.false_eq_true, ↓reduceIte]
    have h4' : Generated.FuncsIO.isFileSkipped parseFile re dir c.name runOnly = false := by simpa using h4
    simp only [h1', h2', h3', h4', Bool.not_false, Bool.true_and, Bool.and_self, Bool.false_eq_true, ↓reduceIte]
    cases update
    · rfl
    · simp only [Bool.not_true, Bool.false_eq_true, ↓reduceIte]
      split <;> rfl

/-! ## what one directory listing contributes (no file system involved) -/

def obsOf (parseFile : Text → List GoDecl × Err) (re : Text → Text → Bool × Bool) (registry : Map2) (sa : GoSet)
    (runOnly dir : Text) (L : List (Text × Bool)) : List Text :=
  (L.filter (isObs parseFile re registry sa runOnly dir)).map (entryPath dir)

def usedOf (registry : Map2) (dir : Text) (L : List (Text × Bool)) : List Text :=
  (L.filter (isUsed registry dir)).map (entryPath dir)

theorem obsOf_cons (parseFile : Text → List GoDecl × Err) (re : Text → Text → Bool × Bool) (registry : Map2) (sa : GoSet)
    (runOnly dir : Text) (c : Text × Bool) (L : List (Text × Bool)) :
    obsOf parseFile re registry sa runOnly dir (c :: L) =
      (if isObs parseFile re registry sa runOnly dir c then [entryPath dir c] else []) ++
        obsOf parseFile re registry sa runOnly dir L := by
  unfold obsOf
  cases h : isObs parseFile re registry sa runOnly dir c <;> simp [h]

theorem usedOf_cons (registry : Map2) (dir : Text) (c : Text × Bool) (L : List (Text × Bool)) :
    usedOf registry dir (c :: L) = (if isUsed registry dir c then [entryPath dir c] else []) ++ usedOf registry dir L := by
  unfold usedOf
  cases h : isUsed registry dir c <;> simp [h]

/-- `os.Remove` of an existing file when no call fails -/
theorem remove_never (fs : FS) (p : Text) (h : fsRead fs p ≠ none) :
    remove IOFail.never fs p = (fsRemove fs p, Err.nil) := by
  unfold remove
  simp only [IOFail.never]
  cases hr : fsRead fs p with
  | none => exact absurd hr h
  | some c => rfl

def fsAfter (update : Bool) (fs : FS) (ps : List Text) : FS := if update then ps.foldl fsRemove fs else fs

/-- one listing under `IOFail.never`: its obsolete and used files are appended, nothing is printed,
    and when updating each obsolete file — they must exist and be pairwise different — is removed -/
theorem goEntry_fold_never (parseFile : Text → List GoDecl × Err) (re : Text → Text → Bool × Bool)
    (registry : Map2) (sa : GoSet) (runOnly : Text) (update : Bool) (dir : Text) (Ld : List DirEntry) (s : FSt)
    (hex : update = true → ∀ p ∈ obsOf parseFile re registry sa runOnly dir (Ld.map entPair), fsRead s.1 p ≠ none)
    (hnd : update = true → (obsOf parseFile re registry sa runOnly dir (Ld.map entPair)).Nodup) :
    Ld.foldl (goEntry IOFail.never parseFile re registry sa runOnly update dir) s =
      (fsAfter update s.1 (obsOf parseFile re registry sa runOnly dir (Ld.map entPair)), s.2.1,
        s.2.2.1 ++ obsOf parseFile re registry sa runOnly dir (Ld.map entPair),
        s.2.2.2 ++ usedOf registry dir (Ld.map entPair)) := by
  induction Ld generalizing s with
  | nil => cases update <;> simp [obsOf, usedOf, fsAfter]
  | cons c Ld ih =>
    rw [List.map_cons, obsOf_cons] at hex hnd
    rw [List.foldl_cons, List.map_cons, obsOf_cons, usedOf_cons, goEntry]
    cases hu : isUsed registry dir (entPair c) with
    | true =>
      have ho := isObs_of_isUsed parseFile re registry sa runOnly dir _ hu
      simp only [ho, Bool.false_eq_true, ↓reduceIte, List.nil_append] at hex hnd ⊢
      refine (ih (s.1, s.2.1, s.2.2.1, s.2.2.2 ++ [entryPath dir (entPair c)]) hex hnd).trans ?_
      simp
    | false =>
      cases ho : isObs parseFile re registry sa runOnly dir (entPair c) with
      | false =>
        simp only [ho, Bool.false_eq_true, ↓reduceIte, List.nil_append] at hex hnd ⊢
        exact ih s hex hnd
      | true =>
        simp only [ho, ↓reduceIte, Bool.false_eq_true, List.singleton_append, List.mem_cons, forall_eq_or_imp,
          List.nodup_cons] at hex hnd ⊢
        cases update with
        | false =>
          simp only [Bool.false_eq_true, ↓reduceIte]
          refine (ih _ (by simp) (by simp)).trans ?_
          simp [fsAfter]
        | true =>
          simp only [↓reduceIte, remove_never s.1 _ (hex rfl).1]
          refine (ih _ (fun _ q hq => ?_) (fun _ => (hnd rfl).2)).trans ?_
          · rw [fsRead_fsRemove, if_neg (fun e : q = entryPath dir (entPair c) => (hnd rfl).1 (e ▸ hq))]
            exact (hex rfl).2 q hq
          · simp [fsAfter, Err.notNil]

/-! ## the model's loops in terms of the same classification -/

/-- how the Go registry, the standalone set and the parser/regexp functions correspond to what the
    model's `examineFiles` is given -/
structure FilesCorr (o : Oracles) (parseFile : Text → List GoDecl × Err) (re : Text → Text → Bool × Bool)
    (registry : Map2) (sa : GoSet) (regPaths standalone : List Text) (runOnly : Text) : Prop where
  /-- the keys of `registry` are the model's registered paths -/
  reg : ∀ p, p ∈ registry.map (·.1) ↔ p ∈ regPaths
  /-- the standalone set has the members of the model's list -/
  sa : ∀ p, p ∈ sa ↔ p ∈ standalone
  parse : ParseSound o parseFile
  re : OracleSound o re runOnly

theorem map2Has_iff_mem (m : Map2) (a : Text) : map2Has m a = true ↔ a ∈ m.map (·.1) := by
  unfold map2Has
  rw [List.any_eq_true]
  constructor
  · rintro ⟨x, hx, he⟩; exact List.mem_map.mpr ⟨x, hx, by simpa using he⟩
  · intro h; obtain ⟨x, hx, he⟩ := List.mem_map.mp h; exact ⟨x, hx, by simpa using he⟩

theorem FilesCorr.has {o : Oracles} {parseFile : Text → List GoDecl × Err} {re : Text → Text → Bool × Bool}
    {registry : Map2} {sa : GoSet} {regPaths standalone : List Text} {runOnly : Text}
    (h : FilesCorr o parseFile re registry sa regPaths standalone runOnly) (p : Text) :
    regPaths.contains p = map2Has registry p := by
  cases hm : map2Has registry p with
  | true => exact List.contains_iff_mem.mpr ((h.reg p).mp ((map2Has_iff_mem _ _).mp hm))
  | false =>
    have : p ∉ regPaths := fun e => by
      have := (map2Has_iff_mem registry p).mpr ((h.reg p).mpr e)
      rw [hm] at this; cases this
    simpa using this

theorem FilesCorr.setHas {o : Oracles} {parseFile : Text → List GoDecl × Err} {re : Text → Text → Bool × Bool}
    {registry : Map2} {sa : GoSet} {regPaths standalone : List Text} {runOnly : Text}
    (h : FilesCorr o parseFile re registry sa regPaths standalone runOnly) (p : Text) :
    standalone.contains p = setHas sa p :=
  (contains_eq_of_mem_iff sa standalone p (h.sa p)).symm

theorem snapsExt_eq : Generated.snapsExt = Generated.go_snapsExt := by decide +kernel

theorem filesInner_class (o : Oracles) (parseFile : Text → List GoDecl × Err) (re : Text → Text → Bool × Bool)
    (registry : Map2) (sa : GoSet) (regPaths standalone : List Text) (runOnly : Text) (update : Bool) (dir : Text)
    (hc : FilesCorr o parseFile re registry sa regPaths standalone runOnly) (r r' : FilesResult) (x : Text × Bool)
    (h : filesInner o regPaths standalone runOnly update dir (some r) x = some r') :
    r' = if isUsed registry dir x then { r with used := r.used ++ [entryPath dir x] }
      else if isObs parseFile re registry sa runOnly dir x then
        if update then { r with obsolete := r.obsolete ++ [entryPath dir x], fs := fsRemove r.fs (entryPath dir x),
                                removed := r.removed ++ [entryPath dir x] }
        else { r with obsolete := r.obsolete ++ [entryPath dir x] }
      else r := by
  unfold filesInner at h
  unfold isUsed isObs isCand entryPath
  simp only [snapsExt_eq, hc.has, hc.setHas] at h
  cases h1 : (x.2 || !containsSub x.1 Generated.go_snapsExt) with
  | true => simp only [h1, ↓reduceIte, Option.some.injEq] at h; simp [h]
  | false =>
    simp only [h1, Bool.false_eq_true, ↓reduceIte] at h
    cases h2 : map2Has registry (fpJoin [dir, x.1]) with
    | true => simp only [h2, ↓reduceIte, Option.some.injEq] at h; simp [h]
    | false =>
      simp only [h2, Bool.false_eq_true, ↓reduceIte] at h
      cases h3 : setHas sa (fpJoin [dir, x.1]) with
      | true => simp only [h3, ↓reduceIte, Option.some.injEq] at h; simp [h]
      | false =>
        simp only [h3, Bool.false_eq_true, ↓reduceIte] at h
        cases h4 : GoSnaps.isFileSkipped o dir x.1 runOnly with
        | none => rw [h4] at h; cases h
        | some b =>
          have hb := isFileSkipped_sound o parseFile re dir x.1 runOnly hc.parse hc.re b h4
          rw [h4] at h
          cases b with
          | true => simp only [Option.some.injEq] at h; simp [hb, h]
          | false =>
            simp only at h
            cases update with
            | true => simp only [↓reduceIte, Option.some.injEq] at h; simp [hb, h]
            | false => simp only [Bool.false_eq_true, ↓reduceIte, Option.some.injEq] at h; simp [hb, h]

/-- the model's inner loop over one listing, when it has a result: the obsolete and used files of
    the listing are appended, and in clean mode the obsolete ones are removed -/
theorem filesInner_fold (o : Oracles) (parseFile : Text → List GoDecl × Err) (re : Text → Text → Bool × Bool)
    (registry : Map2) (sa : GoSet) (regPaths standalone : List Text) (runOnly : Text) (update : Bool) (dir : Text)
    (hc : FilesCorr o parseFile re registry sa regPaths standalone runOnly) (L : List (Text × Bool)) (r r' : FilesResult)
    (h : L.foldl (filesInner o regPaths standalone runOnly update dir) (some r) = some r') :
    r'.obsolete = r.obsolete ++ obsOf parseFile re registry sa runOnly dir L ∧
    r'.used = r.used ++ usedOf registry dir L ∧
    r'.fs = (if update then (obsOf parseFile re registry sa runOnly dir L).foldl fsRemove r.fs else r.fs) ∧
    r'.removed = r.removed ++ (if update then obsOf parseFile re registry sa runOnly dir L else []) := by
  induction L generalizing r with
  | nil =>
    simp only [List.foldl_nil, Option.some.injEq] at h
    subst h
    cases update <;> simp [obsOf, usedOf]
  | cons x L ih =>
    rw [List.foldl_cons] at h
    cases hx : filesInner o regPaths standalone runOnly update dir (some r) x with
    | none => rw [hx, foldl_none _ (fun _ => rfl)] at h; cases h
    | some r1 =>
      rw [hx] at h
      obtain ⟨h1, h2, h3, h4⟩ := ih r1 h
      have hr1 := filesInner_class o parseFile re registry sa regPaths standalone runOnly update dir hc r r1 x hx
      rw [h1, h2, h3, h4, obsOf_cons, usedOf_cons, hr1]
      cases hu : isUsed registry dir x
      · cases isObs parseFile re registry sa runOnly dir x <;> cases update <;> simp
      · cases update <;> simp [isObs_of_isUsed parseFile re registry sa runOnly dir _ hu]

/-! ## the listing: names are pairwise different, listed regular files exist -/

/-- `dir + "/"`, the prefix of the paths directly or indirectly inside `dir` -/
def dirPrefix (dir : Text) : Text := if dir = [slash] then dir else dir ++ [slash]

theorem uniq_names_nodup (ents acc : List (Text × Bool)) (h : (acc.map (·.1)).Nodup) :
    ((ents.foldl (fun acc e => if acc.any (·.1 = e.1) then acc else acc ++ [e]) acc).map (·.1)).Nodup := by
  induction ents generalizing acc with
  | nil => exact h
  | cons e es ih =>
    rw [List.foldl_cons]
    apply ih
    split
    · exact h
    · rename_i hn
      rw [List.map_append, List.nodup_append]
      refine ⟨h, by simp, ?_⟩
      intro a ha b hb
      simp only [List.map_cons, List.map_nil, List.mem_singleton] at hb
      subst hb
      intro hab
      apply hn
      rw [List.any_eq_true]
      obtain ⟨y, hy, hya⟩ := List.mem_map.mp ha
      exact ⟨y, hy, by simp [hya, hab]⟩

theorem takeWhile_eq_self_of_length {α : Type} (p : α → Bool) (l : List α) (h : (l.takeWhile p).length = l.length) :
    l.takeWhile p = l := by
  induction l with
  | nil => rfl
  | cons a l ih =>
    simp only [List.takeWhile_cons] at h ⊢
    split at h
    · rename_i hp
      simp only [hp, ↓reduceIte, List.cons.injEq, true_and]
      exact ih (by simpa using h)
    · simp at h

theorem fsRead_of_mem (fs : FS) (p c : Text) (h : (p, c) ∈ fs) : fsRead fs p ≠ none := by
  induction fs with
  | nil => cases h
  | cons kv fs ih =>
    obtain ⟨p', c'⟩ := kv
    by_cases hp : p' = p
    · simp [fsRead, hp]
    · simp only [fsRead, hp, ↓reduceIte]
      rcases List.mem_cons.mp h with h' | h'
      · cases h'; exact absurd rfl hp
      · exact ih h'

theorem readDir_names_nodup (fs : FS) (dir : Text) : ((GoSnaps.readDir fs dir).map (·.1)).Nodup := by
  unfold GoSnaps.readDir
  simp only
  exact ((readDir_sort_perm _).map _).nodup_iff.mpr (uniq_names_nodup _ [] List.nodup_nil)

theorem readDir_file_exists (fs : FS) (dir name : Text) (h : (name, false) ∈ GoSnaps.readDir fs dir) :
    fsRead fs (dirPrefix dir ++ name) ≠ none := by
  obtain ⟨p, c, rest, hpc, hp, hname, _, hlen⟩ := mem_readDir h
  simp only [Bool.false_eq, decide_eq_false_iff_not, ne_eq, Decidable.not_not] at hlen
  have hname : name = rest.takeWhile (· ≠ slash) := hname
  have : name = rest := by
    rw [hname] at hlen ⊢; exact takeWhile_eq_self_of_length _ _ hlen
  rw [dirPrefix, this, ← hp]
  exact fsRead_of_mem fs p c hpc

/-- a name as `os.ReadDir` returns it that `examineFiles` looks at -/
def SimpleName (name : Text) : Prop :=
  name ≠ [] ∧ slash ∉ name ∧ containsSub name Generated.go_snapsExt = true

/-- `filepath.Join(dir, name)` is `dir/name` for the names of a listing: true for a directory as
    `filepath.Dir` returns it (clean) other than `.` — in particular for every absolute one -/
def JoinFaithful (dir : Text) : Prop := ∀ name, SimpleName name → fpJoin [dir, name] = dirPrefix dir ++ name

/-- what `os.Remove` needs in order to succeed silently on every obsolete file of the listing: the
    files exist and are pairwise different -/
def DirOK (parseFile : Text → List GoDecl × Err) (re : Text → Text → Bool × Bool) (registry : Map2) (sa : GoSet)
    (runOnly : Text) (fs : FS) (dir : Text) : Prop :=
  (∀ p ∈ obsOf parseFile re registry sa runOnly dir (GoSnaps.readDir fs dir), fsRead fs p ≠ none) ∧
  (obsOf parseFile re registry sa runOnly dir (GoSnaps.readDir fs dir)).Nodup

theorem nodup_map_of_inj_on {α β γ : Type} (f : α → β) (g : α → γ) (l : List α) (hg : (l.map g).Nodup)
    (h : ∀ a ∈ l, ∀ b ∈ l, f a = f b → g a = g b) : (l.map f).Nodup := by
  induction l with
  | nil => exact List.nodup_nil
  | cons a l ih =>
    rw [List.map_cons, List.nodup_cons] at hg ⊢
    refine ⟨?_, ih hg.2 (fun x hx y hy => h x (by simp [hx]) y (by simp [hy]))⟩
    intro hm
    obtain ⟨b, hb, hfb⟩ := List.mem_map.mp hm
    exact hg.1 (List.mem_map.mpr ⟨b, hb, (h a (by simp) b (by simp [hb]) hfb.symm).symm⟩)

theorem isCand_simple (dir : Text) (fs : FS) (c : Text × Bool) (hc : c ∈ GoSnaps.readDir fs dir)
    (h : isCand c = true) : c.2 = false ∧ SimpleName c.1 := by
  unfold isCand at h
  simp only [Bool.not_eq_true', Bool.or_eq_false_iff, Bool.not_eq_false'] at h
  obtain ⟨h1, h2⟩ := readDir_name fs dir c hc
  exact ⟨h.1, h1, h2, h.2⟩

theorem isCand_of_isObs {parseFile : Text → List GoDecl × Err} {re : Text → Text → Bool × Bool} {registry : Map2}
    {sa : GoSet} {runOnly dir : Text} {c : Text × Bool} (h : isObs parseFile re registry sa runOnly dir c = true) :
    isCand c = true := by
  unfold isObs at h
  simp only [Bool.and_eq_true] at h
  exact h.1.1.1

theorem isCand_of_isUsed {registry : Map2} {dir : Text} {c : Text × Bool} (h : isUsed registry dir c = true) :
    isCand c = true := by
  unfold isUsed at h
  simp only [Bool.and_eq_true] at h
  exact h.1

/-- under a faithful `filepath.Join` the candidates of one listing have pairwise different paths -/
theorem cand_paths_nodup (fs : FS) (dir : Text) (hj : JoinFaithful dir) (P : Text × Bool → Bool)
    (hP : ∀ c, P c = true → isCand c = true) :
    (((GoSnaps.readDir fs dir).filter P).map (entryPath dir)).Nodup := by
  apply nodup_map_of_inj_on (entryPath dir) (·.1)
  · exact (List.filter_sublist.map _).nodup (readDir_names_nodup fs dir)
  · intro a ha b hb hab
    obtain ⟨ham, hao⟩ := List.mem_filter.mp ha
    obtain ⟨hbm, hbo⟩ := List.mem_filter.mp hb
    unfold entryPath at hab
    rw [hj _ (isCand_simple dir fs a ham (hP a hao)).2, hj _ (isCand_simple dir fs b hbm (hP b hbo)).2] at hab
    exact List.append_cancel_left hab

/-- for a directory on which `filepath.Join` is faithful, every file system is fine -/
theorem dirOK_of_joinFaithful (parseFile : Text → List GoDecl × Err) (re : Text → Text → Bool × Bool) (registry : Map2)
    (sa : GoSet) (runOnly : Text) (fs : FS) (dir : Text) (hj : JoinFaithful dir) :
    DirOK parseFile re registry sa runOnly fs dir := by
  constructor
  · intro p hp
    unfold obsOf at hp
    obtain ⟨c, hc, rfl⟩ := List.mem_map.mp hp
    obtain ⟨hcm, hco⟩ := List.mem_filter.mp hc
    obtain ⟨hd, hs⟩ := isCand_simple dir fs c hcm (isCand_of_isObs hco)
    unfold entryPath
    rw [hj _ hs]
    apply readDir_file_exists
    have : c = (c.1, false) := by rw [← hd]
    rw [← this]; exact hcm
  · exact cand_paths_nodup fs dir hj _ (fun _ => isCand_of_isObs)

/-! ## one directory: the transliteration does the model's step -/

theorem goDir_never (parseFile : Text → List GoDecl × Err) (re : Text → Text → Bool × Bool)
    (registry : Map2) (sa : GoSet) (runOnly : Text) (update : Bool) (dir : Text) (s : FSt)
    (hok : update = true → DirOK parseFile re registry sa runOnly s.1 dir) :
    goDir IOFail.never parseFile re registry sa runOnly update s dir =
      (fsAfter update s.1 (obsOf parseFile re registry sa runOnly dir (GoSnaps.readDir s.1 dir)), s.2.1,
        s.2.2.1 ++ obsOf parseFile re registry sa runOnly dir (GoSnaps.readDir s.1 dir),
        s.2.2.2 ++ usedOf registry dir (GoSnaps.readDir s.1 dir)) := by
  unfold goDir
  have hL := readDir_never s.1 dir
  rw [goEntry_fold_never parseFile re registry sa runOnly update dir _ s
    (fun hu => by rw [hL]; exact (hok hu).1) (fun hu => by rw [hL]; exact (hok hu).2), hL]

/-- from corresponding states (same file system, same lists) the loop body
    of `for dir := range uniqueDirs` under `IOFail.never` does what the model's `filesOuter` does:
    same file system afterwards (equal as lists), same `obsolete` and `used`, nothing printed.
    In clean mode the obsolete files of the listing must exist under the path `filepath.Join`
    computes and be pairwise different (`DirOK`; see `dirOK_of_joinFaithful`). -/
theorem dir_step_tied (o : Oracles) (parseFile : Text → List GoDecl × Err) (re : Text → Text → Bool × Bool)
    (registry : Map2) (sa : GoSet) (regPaths standalone : List Text) (runOnly : Text) (update : Bool) (dir : Text)
    (hc : FilesCorr o parseFile re registry sa regPaths standalone runOnly) (r r' : FilesResult) (out : Text)
    (hok : update = true → DirOK parseFile re registry sa runOnly r.fs dir)
    (h : filesOuter o regPaths standalone runOnly update (some r) dir = some r') :
    goDir IOFail.never parseFile re registry sa runOnly update (r.fs, out, r.obsolete, r.used) dir =
      (r'.fs, out, r'.obsolete, r'.used) := by
  unfold filesOuter at h
  simp only at h
  obtain ⟨h1, h2, h3, _⟩ := filesInner_fold o parseFile re registry sa regPaths standalone runOnly update dir hc _ r r' h
  rw [goDir_never parseFile re registry sa runOnly update dir (r.fs, out, r.obsolete, r.used) hok, h1, h2, h3]
  rfl

/-! ## all directories, processed in the model's order -/

theorem dirs_fold_tied (o : Oracles) (parseFile : Text → List GoDecl × Err) (re : Text → Text → Bool × Bool)
    (registry : Map2) (sa : GoSet) (regPaths standalone : List Text) (runOnly : Text) (update : Bool)
    (hc : FilesCorr o parseFile re registry sa regPaths standalone runOnly) (out : Text) (ds : List Text)
    (hj : update = true → ∀ d ∈ ds, JoinFaithful d) (r r' : FilesResult)
    (h : ds.foldl (filesOuter o regPaths standalone runOnly update) (some r) = some r') :
    ds.foldl (goDir IOFail.never parseFile re registry sa runOnly update) (r.fs, out, r.obsolete, r.used) =
      (r'.fs, out, r'.obsolete, r'.used) := by
  induction ds generalizing r with
  | nil => simp only [List.foldl_nil, Option.some.injEq] at h; subst h; rfl
  | cons d ds ih =>
    rw [List.foldl_cons] at h ⊢
    cases hd : filesOuter o regPaths standalone runOnly update (some r) d with
    | none => rw [hd, foldl_none _ (fun _ => rfl)] at h; cases h
    | some r1 =>
      rw [hd] at h
      rw [dir_step_tied o parseFile re registry sa regPaths standalone runOnly update d hc r r1 out
        (fun hu => dirOK_of_joinFaithful parseFile re registry sa runOnly r.fs d (hj hu d (by simp))) hd]
      exact ih (fun hu d' hd' => hj hu d' (by simp [hd'])) r1 h

/-- if the transliteration happens to range over
    `uniqueDirs` in the model's canonical order (always the case when at most one directory is
    involved, see `examineFiles_tied_one_dir`), then under `IOFail.never` the transliterated
    `examineFiles` returns exactly the model's result: the same file system (as a list), the same
    `obsolete` and `used` lists, and `stdout` unchanged. -/
theorem examineFiles_tied_partial (o : Oracles) (parseFile : Text → List GoDecl × Err) (re : Text → Text → Bool × Bool)
    (registry : Map2) (sa : GoSet) (regPaths standalone : List Text) (runOnly : Text) (update : Bool)
    (hc : FilesCorr o parseFile re registry sa regPaths standalone runOnly) (fs : FS) (out : Text)
    (hdirs : goDirs registry sa = sortBytes (dedup ((regPaths ++ standalone).map fpDir)))
    (hj : update = true → ∀ d ∈ goDirs registry sa, JoinFaithful d) (r : FilesResult)
    (h : GoSnaps.examineFiles o fs regPaths standalone runOnly update = some r) :
    Generated.FuncsIO.examineFiles IOFail.never fs out parseFile re registry sa runOnly update =
      (r.fs, out, r.obsolete, r.used) := by
  rw [GoSnaps.examineFiles_eq, ← hdirs] at h
  rw [examineFiles_eq]
  exact dirs_fold_tied o parseFile re registry sa regPaths standalone runOnly update hc out _ hj { fs := fs } r h

/-! ## any order of the directories: the result up to permutation -/

theorem foldl_setAdd_spec (f : Text → Text) (l : List Text) (acc : GoSet) (hacc : acc.Nodup) :
    (l.foldl (fun acc p => setAdd acc (f p)) acc).Nodup ∧
    ∀ x, x ∈ l.foldl (fun acc p => setAdd acc (f p)) acc ↔ x ∈ acc ∨ x ∈ l.map f := by
  induction l generalizing acc with
  | nil => exact ⟨hacc, by simp⟩
  | cons a l ih =>
    rw [List.foldl_cons]
    obtain ⟨h1, h2⟩ := ih (setAdd acc (f a)) (setAdd_nodup _ _ hacc)
    refine ⟨h1, fun x => ?_⟩
    rw [h2, mem_setAdd, List.map_cons, List.mem_cons]
    constructor
    · rintro ((h | h) | h)
      · exact Or.inl h
      · exact Or.inr (Or.inl h)
      · exact Or.inr (Or.inr h)
    · rintro (h | h | h)
      · exact Or.inl (Or.inl h)
      · exact Or.inl (Or.inr h)
      · exact Or.inr h

/-- `uniqueDirs` has no duplicates and holds the directories of the registry keys and of the
    standalone set -/
theorem goDirs_spec (registry : Map2) (sa : GoSet) :
    (goDirs registry sa).Nodup ∧ ∀ x, x ∈ goDirs registry sa ↔ x ∈ (registry.map (·.1) ++ sa).map fpDir := by
  unfold goDirs
  obtain ⟨h1, h2⟩ := foldl_setAdd_spec fpDir (registry.map (·.1)) [] List.nodup_nil
  obtain ⟨h3, h4⟩ := foldl_setAdd_spec fpDir sa _ h1
  refine ⟨h3, fun x => ?_⟩
  rw [h4, h2, List.map_append, List.mem_append]
  simp

theorem dedup_spec (l : List Text) : (dedup l).Nodup ∧ ∀ x, x ∈ dedup l ↔ x ∈ l := by
  have e : dedup l = l.foldl (fun acc p => setAdd acc (id p)) [] := rfl
  rw [e]
  obtain ⟨h1, h2⟩ := foldl_setAdd_spec id l [] List.nodup_nil
  exact ⟨h1, fun x => by rw [h2]; simp⟩

theorem goDirs_perm (o : Oracles) (parseFile : Text → List GoDecl × Err) (re : Text → Text → Bool × Bool)
    (registry : Map2) (sa : GoSet) (regPaths standalone : List Text) (runOnly : Text)
    (hc : FilesCorr o parseFile re registry sa regPaths standalone runOnly) :
    (goDirs registry sa).Perm (sortBytes (dedup ((regPaths ++ standalone).map fpDir))) := by
  obtain ⟨h1, h2⟩ := goDirs_spec registry sa
  obtain ⟨h3, h4⟩ := dedup_spec ((regPaths ++ standalone).map fpDir)
  refine (List.perm_ext_iff_of_nodup h1 ((sortBytes_perm _).nodup_iff.mpr h3)).mpr (fun x => ?_)
  rw [h2, (sortBytes_perm _).mem_iff, h4]
  simp only [List.map_append, List.mem_append, List.mem_map]
  constructor
  · rintro (⟨a, ha, rfl⟩ | ⟨a, ha, rfl⟩)
    · exact Or.inl ⟨a, (hc.reg a).mp (List.mem_map.mpr ha), rfl⟩
    · exact Or.inr ⟨a, (hc.sa a).mp ha, rfl⟩
  · rintro (⟨a, ha, rfl⟩ | ⟨a, ha, rfl⟩)
    · exact Or.inl ⟨a, List.mem_map.mp ((hc.reg a).mpr ha), rfl⟩
    · exact Or.inr ⟨a, (hc.sa a).mpr ha, rfl⟩

/-- removing a path that does not lie under `dir` does not change the listing of `dir` -/
theorem readDir_fsRemove (fs : FS) (q dir : Text) (h : hasPrefix q (dirPrefix dir) = false) :
    GoSnaps.readDir (fsRemove fs q) dir = GoSnaps.readDir fs dir := by
  unfold GoSnaps.readDir
  simp only
  unfold dirPrefix at h
  generalize (if dir = [slash] then dir else dir ++ [slash]) = pre at h ⊢
  congr 2
  unfold fsRemove
  rw [List.filterMap_filter]
  apply filterMap_congr_mem
  intro x _
  by_cases hx : x.1 = q
  · subst hx; simp [h]
  · simp [hx]

theorem readDir_foldl_fsRemove (fs : FS) (qs : List Text) (dir : Text)
    (h : ∀ q ∈ qs, hasPrefix q (dirPrefix dir) = false) :
    GoSnaps.readDir (qs.foldl fsRemove fs) dir = GoSnaps.readDir fs dir := by
  induction qs generalizing fs with
  | nil => rfl
  | cons q qs ih =>
    rw [List.foldl_cons, ih _ (fun q' hq' => h q' (by simp [hq'])), readDir_fsRemove _ _ _ (h q (by simp))]

theorem fsRead_foldl_fsRemove_iff (fs : FS) (ps : List Text) (q : Text) :
    fsRead (ps.foldl fsRemove fs) q = if q ∈ ps then none else fsRead fs q := by
  induction ps generalizing fs with
  | nil => simp
  | cons p ps ih =>
    rw [List.foldl_cons, ih, fsRead_fsRemove]
    by_cases h1 : q ∈ ps
    · simp [h1]
    · by_cases h2 : q = p
      · simp [h2]
      · simp [h1, h2]

/-- no candidate path of one directory lies under another of the directories (true when no
    snapshot directory is nested inside another one, see `dirsIndependent_of_notUnder`) -/
def DirsIndependent (ds : List Text) : Prop :=
  ∀ d ∈ ds, ∀ d' ∈ ds, d ≠ d' → ∀ name, SimpleName name → hasPrefix (fpJoin [d', name]) (dirPrefix d) = false

/-- the loop over the directories, in ANY order, in terms of the listings of the initial file
    system `fs0`: what was removed from one directory does not show in the listing of another -/
theorem goDirs_fold_indep (parseFile : Text → List GoDecl × Err) (re : Text → Text → Bool × Bool)
    (registry : Map2) (sa : GoSet) (runOnly : Text) (update : Bool) (fs0 : FS) (ds : List Text)
    (hw : update = true → (∀ d ∈ ds, JoinFaithful d) ∧ ds.Nodup ∧ DirsIndependent ds) (s : FSt)
    (hinv : ∀ d ∈ ds, GoSnaps.readDir s.1 d = GoSnaps.readDir fs0 d) :
    ds.foldl (goDir IOFail.never parseFile re registry sa runOnly update) s =
      (fsAfter update s.1 (ds.flatMap fun d => obsOf parseFile re registry sa runOnly d (GoSnaps.readDir fs0 d)), s.2.1,
        s.2.2.1 ++ ds.flatMap (fun d => obsOf parseFile re registry sa runOnly d (GoSnaps.readDir fs0 d)),
        s.2.2.2 ++ ds.flatMap (fun d => usedOf registry d (GoSnaps.readDir fs0 d))) := by
  induction ds generalizing s with
  | nil => cases update <;> simp [fsAfter]
  | cons d ds ih =>
    rw [List.foldl_cons, goDir_never parseFile re registry sa runOnly update d s
      (fun hu => dirOK_of_joinFaithful parseFile re registry sa runOnly s.1 d ((hw hu).1 d (by simp))),
      hinv d (by simp)]
    rw [ih]
    · simp only [List.flatMap_cons, List.append_assoc]
      cases update <;> simp [fsAfter, List.foldl_append]
    · intro hu
      obtain ⟨h1, h2, h3⟩ := hw hu
      exact ⟨fun d' hd' => h1 d' (by simp [hd']), (List.nodup_cons.mp h2).2,
        fun a ha b hb => h3 a (by simp [ha]) b (by simp [hb])⟩
    · intro d' hd'
      simp only
      cases hu : update with
      | false => simp only [fsAfter, Bool.false_eq_true, ↓reduceIte]; exact hinv d' (by simp [hd'])
      | true =>
        obtain ⟨h1, h2, h3⟩ := hw hu
        simp only [fsAfter, ↓reduceIte]
        rw [readDir_foldl_fsRemove]
        · exact hinv d' (by simp [hd'])
        · intro q hq
          unfold obsOf at hq
          obtain ⟨c, hc, rfl⟩ := List.mem_map.mp hq
          obtain ⟨hcm, hco⟩ := List.mem_filter.mp hc
          have hne : d' ≠ d := fun e => (List.nodup_cons.mp h2).1 (e ▸ hd')
          exact h3 d' (by simp [hd']) d (by simp) hne c.1
            (isCand_simple d fs0 c hcm (isCand_of_isObs hco)).2

theorem dirPrefix_getLast (d : Text) : (dirPrefix d).getLast? = some slash := by
  unfold dirPrefix
  split
  · rename_i h; rw [h]; rfl
  · simp

/-- `DirsIndependent` from a condition on the directories alone: `filepath.Join` is faithful on each
    and none lies (as a path) below or at another one -/
theorem dirsIndependent_of_notUnder (ds : List Text) (hj : ∀ d ∈ ds, JoinFaithful d)
    (hn : ∀ d ∈ ds, ∀ d' ∈ ds, d ≠ d' → hasPrefix (dirPrefix d') (dirPrefix d) = false) : DirsIndependent ds := by
  intro d hd d' hd' hne name hname
  rw [hj d' hd' name hname]
  cases hp : hasPrefix (dirPrefix d' ++ name) (dirPrefix d) with
  | false => rfl
  | true =>
    exfalso
    have hnu := hn d hd d' hd' hne
    unfold hasPrefix at hp hnu
    have h1 := List.isPrefixOf_iff_prefix.mp hp
    rcases List.prefix_or_prefix_of_prefix h1 (List.prefix_append (dirPrefix d') name) with h2 | h2
    · rw [List.isPrefixOf_iff_prefix.mpr h2] at hnu; cases hnu
    · obtain ⟨t, ht⟩ := h2
      rw [← ht] at h1
      have h3 : t <+: name := (List.prefix_append_right_inj _).mp h1
      cases t with
      | nil =>
        rw [List.append_nil] at ht
        rw [ht, List.isPrefixOf_iff_prefix.mpr (List.prefix_refl (dirPrefix d))] at hnu
        cases hnu
      | cons a t =>
        have hl := dirPrefix_getLast d
        rw [← ht, List.getLast?_append] at hl
        cases hgl : (a :: t).getLast? with
        | none => simp at hgl
        | some x =>
          rw [hgl] at hl
          simp only [Option.some_or, Option.some.injEq] at hl
          subst hl
          exact hname.2.1 (h3.subset (List.mem_of_getLast? hgl))

/-- the model's result in closed form: the per-directory lists of the initial listings, in the
    model's directory order, and the initial file system without the obsolete files when updating -/
theorem examineFiles_model_closed (o : Oracles) (parseFile : Text → List GoDecl × Err) (re : Text → Text → Bool × Bool)
    (registry : Map2) (sa : GoSet) (regPaths standalone : List Text) (runOnly : Text) (update : Bool)
    (hc : FilesCorr o parseFile re registry sa regPaths standalone runOnly) (fs : FS)
    (hw : update = true → (∀ d ∈ goDirs registry sa, JoinFaithful d) ∧ DirsIndependent (goDirs registry sa))
    (r : FilesResult) (h : GoSnaps.examineFiles o fs regPaths standalone runOnly update = some r) :
    r.obsolete = (sortBytes (dedup ((regPaths ++ standalone).map fpDir))).flatMap
        (fun d => obsOf parseFile re registry sa runOnly d (GoSnaps.readDir fs d)) ∧
    r.used = (sortBytes (dedup ((regPaths ++ standalone).map fpDir))).flatMap
        (fun d => usedOf registry d (GoSnaps.readDir fs d)) ∧
    r.fs = fsAfter update fs ((sortBytes (dedup ((regPaths ++ standalone).map fpDir))).flatMap
        (fun d => obsOf parseFile re registry sa runOnly d (GoSnaps.readDir fs d))) := by
  have hperm := goDirs_perm o parseFile re registry sa regPaths standalone runOnly hc
  have hndg := (goDirs_spec registry sa).1
  have hndm : (sortBytes (dedup ((regPaths ++ standalone).map fpDir))).Nodup := hperm.nodup_iff.mp hndg
  have hwm : update = true → (∀ d ∈ sortBytes (dedup ((regPaths ++ standalone).map fpDir)), JoinFaithful d) ∧
      (sortBytes (dedup ((regPaths ++ standalone).map fpDir))).Nodup ∧
      DirsIndependent (sortBytes (dedup ((regPaths ++ standalone).map fpDir))) := fun hu =>
    ⟨fun d hd => (hw hu).1 d (hperm.mem_iff.mpr hd), hndm,
      fun a ha b hb => (hw hu).2 a (hperm.mem_iff.mpr ha) b (hperm.mem_iff.mpr hb)⟩
  rw [GoSnaps.examineFiles_eq] at h
  have hm := dirs_fold_tied o parseFile re registry sa regPaths standalone runOnly update hc [] _
    (fun hu => (hwm hu).1) { fs := fs } r h
  rw [goDirs_fold_indep parseFile re registry sa runOnly update fs _ hwm _ (fun _ _ => rfl)] at hm
  simp only [List.nil_append, Prod.mk.injEq] at hm
  exact ⟨hm.2.2.1.symm, hm.2.2.2.symm, hm.1.symm⟩

/-- under `IOFail.never`, whenever the model's `examineFiles` has a result
    `r` (the oracle answered every query), the transliterated Go function — which ranges over the
    directories in its own order — returns a file system with the same content as `r.fs`, leaves
    `stdout` alone, and returns `obsolete` / `used` lists that are permutations of the model's.
    Correspondence: `FilesCorr` (registry keys = `regPaths`, standalone set = `standalone`, sound
    parser and regexp tables).  Well-formedness, needed in clean mode only: `filepath.Join` is
    faithful on every directory and no candidate path of one directory lies under another. -/
theorem examineFiles_tied (o : Oracles) (parseFile : Text → List GoDecl × Err) (re : Text → Text → Bool × Bool)
    (registry : Map2) (sa : GoSet) (regPaths standalone : List Text) (runOnly : Text) (update : Bool)
    (hc : FilesCorr o parseFile re registry sa regPaths standalone runOnly) (fs : FS) (out : Text)
    (hw : update = true → (∀ d ∈ goDirs registry sa, JoinFaithful d) ∧ DirsIndependent (goDirs registry sa))
    (r : FilesResult) (h : GoSnaps.examineFiles o fs regPaths standalone runOnly update = some r) :
    ∃ fs' obsolete used,
      Generated.FuncsIO.examineFiles IOFail.never fs out parseFile re registry sa runOnly update = (fs', out, obsolete, used) ∧
      (∀ p, fsRead fs' p = fsRead r.fs p) ∧ obsolete.Perm r.obsolete ∧ used.Perm r.used := by
  have hperm := goDirs_perm o parseFile re registry sa regPaths standalone runOnly hc
  -- both orders have the closed form in terms of the listings of the initial file system
  obtain ⟨hm3, hm4, hm1⟩ := examineFiles_model_closed o parseFile re registry sa regPaths standalone runOnly update
    hc fs hw r h
  have hg := goDirs_fold_indep parseFile re registry sa runOnly update fs (goDirs registry sa)
      (fun hu => ⟨(hw hu).1, (goDirs_spec registry sa).1, (hw hu).2⟩) (fs, out, [], []) (fun _ _ => rfl)
  simp only [List.nil_append] at hg
  refine ⟨_, _, _, by rw [examineFiles_eq]; exact hg, ?_, ?_, ?_⟩
  · intro p
    rw [hm1]
    simp only [fsAfter]
    cases update with
    | false => rfl
    | true =>
      simp only [↓reduceIte, fsRead_foldl_fsRemove_iff]
      have := (hperm.flatMap_right (fun d => obsOf parseFile re registry sa runOnly d (GoSnaps.readDir fs d))).mem_iff (a := p)
      by_cases hp : p ∈ List.flatMap (fun d => obsOf parseFile re registry sa runOnly d (GoSnaps.readDir fs d)) (goDirs registry sa)
      · rw [if_pos hp, if_pos (this.mp hp)]
      · rw [if_neg hp, if_neg (fun e => hp (this.mpr e))]
  · rw [hm3]; exact hperm.flatMap_right _
  · rw [hm4]; exact hperm.flatMap_right _

theorem used_flatMap_nodup (registry : Map2) (fs : FS) (ds : List Text) (hj : ∀ d ∈ ds, JoinFaithful d)
    (hnd : ds.Nodup) (hi : DirsIndependent ds) :
    (ds.flatMap fun d => usedOf registry d (GoSnaps.readDir fs d)).Nodup := by
  unfold List.Nodup
  rw [List.pairwise_flatMap]
  constructor
  · intro d hd
    exact cand_paths_nodup fs d (hj d hd) _ (fun _ => isCand_of_isUsed)
  · refine hnd.imp_of_mem ?_
    intro d d' hd hd' hne x hx y hy hxy
    unfold usedOf at hx hy
    obtain ⟨a, ha, rfl⟩ := List.mem_map.mp hx
    obtain ⟨b, hb, rfl⟩ := List.mem_map.mp hy
    obtain ⟨ham, hao⟩ := List.mem_filter.mp ha
    obtain ⟨hbm, hbo⟩ := List.mem_filter.mp hb
    have h1 := hi d hd d' hd' hne b.1 (isCand_simple d' fs b hbm (isCand_of_isUsed hbo)).2
    unfold entryPath at hxy
    rw [← hxy, hj d hd _ (isCand_simple d fs a ham (isCand_of_isUsed hao)).2] at h1
    unfold hasPrefix at h1
    rw [List.isPrefixOf_iff_prefix.mpr (List.prefix_append _ _)] at h1
    cases h1

theorem examineFiles_used_nodup (o : Oracles) (parseFile : Text → List GoDecl × Err) (re : Text → Text → Bool × Bool)
    (registry : Map2) (sa : GoSet) (regPaths standalone : List Text) (runOnly : Text) (update : Bool)
    (hc : FilesCorr o parseFile re registry sa regPaths standalone runOnly) (fs : FS)
    (hw : (∀ d ∈ goDirs registry sa, JoinFaithful d) ∧ DirsIndependent (goDirs registry sa))
    (r : FilesResult) (h : GoSnaps.examineFiles o fs regPaths standalone runOnly update = some r) : r.used.Nodup := by
  have hperm := goDirs_perm o parseFile re registry sa regPaths standalone runOnly hc
  rw [(examineFiles_model_closed o parseFile re registry sa regPaths standalone runOnly update hc fs (fun _ => hw) r h).2.1]
  exact used_flatMap_nodup registry fs _ (fun d hd => hw.1 d (hperm.mem_iff.mpr hd))
    (hperm.nodup_iff.mp (goDirs_spec registry sa).1)
    (fun a ha b hb => hw.2 a (hperm.mem_iff.mpr ha) b (hperm.mem_iff.mpr hb))

/-! ## `filepath.Join` is faithful on absolute clean directories other than the root -/

theorem splitSlash_cons_comp (c rest : Text) (h : slash ∉ c) :
    splitSlash (c ++ slash :: rest) = c :: splitSlash rest := by
  induction c with
  | nil => simp [splitSlash]
  | cons a c ih =>
    have ha : a ≠ slash := fun e => h (by simp [e])
    have hc : slash ∉ c := fun e => h (by simp [e])
    simp [splitSlash, ha, ih hc]

theorem splitSlash_simple (name : Text) (h : slash ∉ name) : splitSlash name = [name] := by
  induction name with
  | nil => rfl
  | cons c cs ih =>
    have hc : c ≠ slash := fun e => h (by simp [e])
    have hcs : slash ∉ cs := fun e => h (by simp [e])
    simp [splitSlash, hc, ih hcs]

/-- a path component `filepath.Clean` keeps as it is -/
def NormalComp (c : Text) : Prop := c ≠ [] ∧ slash ∉ c ∧ c ≠ [dot] ∧ c ≠ [dot, dot]

theorem splitSlash_joinSlash (comps : List Text) (name : Text) (hc : ∀ c ∈ comps, slash ∉ c) (hn : slash ∉ name)
    (hne : comps ≠ []) : splitSlash (joinSlash comps ++ slash :: name) = comps ++ [name] := by
  induction comps with
  | nil => exact absurd rfl hne
  | cons c cs ih =>
    cases cs with
    | nil =>
      simp only [joinSlash, List.cons_append, List.nil_append]
      rw [splitSlash_cons_comp c name (hc c (by simp)), splitSlash_simple name hn]
    | cons c' cs' =>
      simp only [joinSlash, List.append_assoc, List.cons_append]
      rw [splitSlash_cons_comp c _ (hc c (by simp))]
      have := ih (fun x hx => hc x (by simp [hx])) (by simp)
      rw [this]
      rfl

theorem joinSlash_append_one (comps : List Text) (name : Text) (hne : comps ≠ []) :
    joinSlash (comps ++ [name]) = joinSlash comps ++ slash :: name := by
  induction comps with
  | nil => exact absurd rfl hne
  | cons c cs ih =>
    cases cs with
    | nil => rfl
    | cons c' cs' =>
      have := ih (by simp)
      simp only [List.cons_append, joinSlash, List.append_assoc] at this ⊢
      rw [this]

theorem cleanComps_normal (cs out : List Text) (h : ∀ c ∈ cs, NormalComp c) :
    cleanComps true cs out = cs.reverse ++ out := by
  induction cs generalizing out with
  | nil => rfl
  | cons c cs ih =>
    obtain ⟨h1, _, h3, h4⟩ := h c (by simp)
    simp only [cleanComps, h1, h3, h4, decide_false, Bool.or_self, Bool.false_eq_true, ↓reduceIte]
    rw [ih _ (fun x hx => h x (by simp [hx]))]
    simp

theorem containsSub_length (s sep : Text) (h : containsSub s sep = true) : sep.length ≤ s.length := by
  unfold containsSub indexOf at h
  cases hi : indexOf.go sep s 0 with
  | none => rw [hi] at h; cases h
  | some k =>
    obtain ⟨_, hp⟩ := indexOf_go_spec sep s 0 k hi
    have := (List.isPrefixOf_iff_prefix.mp hp).length_le
    simp only [List.length_drop] at this
    omega

theorem simpleName_normal (name : Text) (h : SimpleName name) : NormalComp name := by
  obtain ⟨h1, h2, h3⟩ := h
  have hlen := containsSub_length _ _ h3
  refine ⟨h1, h2, ?_, ?_⟩
  · intro e; rw [e] at hlen; simp [Generated.go_snapsExt] at hlen
  · intro e; rw [e] at hlen; simp [Generated.go_snapsExt] at hlen

/-- **`filepath.Join(dir, name) = dir + "/" + name`** for every absolute clean directory other than
    the root: `/c₁/…/cₙ` with `n ≥ 1` and no component empty, `.`, `..` or containing a slash — the
    shape of every `filepath.Dir` of an absolute snapshot path -/
theorem joinFaithful_abs (comps : List Text) (hne : comps ≠ []) (hc : ∀ c ∈ comps, NormalComp c) :
    JoinFaithful (slash :: joinSlash comps) := by
  intro name hname
  have hn := simpleName_normal name hname
  have hd : (slash :: joinSlash comps) ≠ [slash] := by
    intro e
    have : joinSlash comps = [] := by simpa using e
    cases comps with
    | nil => exact hne rfl
    | cons c cs =>
      have hc1 := (hc c (by simp)).1
      cases cs with
      | nil => exact hc1 (by simpa [joinSlash] using this)
      | cons c' cs' => simp [joinSlash] at this
  unfold fpJoin
  have e1 : List.filter (fun x => decide (x ≠ [])) [slash :: joinSlash comps, name] = [slash :: joinSlash comps, name] := by
    simp [hn.1]
  simp only [e1, joinSlash]
  unfold fpClean dirPrefix
  simp only [hd, ↓reduceIte, List.cons_append]
  have e2 : splitSlash (slash :: (joinSlash comps ++ slash :: name)) = [] :: (comps ++ [name]) := by
    simp only [splitSlash, ↓reduceIte]
    rw [splitSlash_joinSlash comps name (fun c hc' => (hc c hc').2.1) hn.2.1 hne]
  rw [e2]
  have e3 : cleanComps true ([] :: (comps ++ [name])) [] = (comps ++ [name]).reverse := by
    simp only [cleanComps, decide_true, Bool.true_or, ↓reduceIte]
    rw [cleanComps_normal _ _ (fun c hc' => by
      rcases List.mem_append.mp hc' with h | h
      · exact hc c h
      · simp only [List.mem_singleton] at h; subst h; exact hn)]
    simp
  have e4 : (slash :: (joinSlash comps ++ slash :: name)).head? = some slash := rfl
  simp only [e4, decide_true, e3, List.reverse_reverse, ↓reduceIte, joinSlash_append_one comps name hne]
  simp

theorem joinFaithful_example : JoinFaithful [47, 115] :=
  joinFaithful_abs [[115]] (by simp) (fun c hc => by
    simp only [List.mem_singleton] at hc; subst hc
    exact ⟨by decide, by decide, by decide, by decide⟩)


/-! ## at most one directory, and concrete inputs -/

theorem nodup_all_eq {α : Type} (l : List α) (d : α) (hn : l.Nodup) (h : ∀ x ∈ l, x = d) : l = [] ∨ l = [d] := by
  cases l with
  | nil => exact Or.inl rfl
  | cons a l =>
    right
    have ha := h a (by simp)
    subst ha
    cases l with
    | nil => rfl
    | cons b l =>
      have hb := h b (by simp)
      subst hb
      simp at hn

/-- when every registered path lives in one directory, both sides visit the same list of
    directories: the hypothesis `hdirs` of `examineFiles_tied_partial` holds -/
theorem goDirs_one_dir (o : Oracles) (parseFile : Text → List GoDecl × Err) (re : Text → Text → Bool × Bool)
    (registry : Map2) (sa : GoSet) (regPaths standalone : List Text) (runOnly : Text)
    (hc : FilesCorr o parseFile re registry sa regPaths standalone runOnly) (d : Text)
    (h1 : ∀ p ∈ regPaths ++ standalone, fpDir p = d) :
    goDirs registry sa = sortBytes (dedup ((regPaths ++ standalone).map fpDir)) := by
  have hperm := goDirs_perm o parseFile re registry sa regPaths standalone runOnly hc
  have hndg := (goDirs_spec registry sa).1
  have hall : ∀ x ∈ sortBytes (dedup ((regPaths ++ standalone).map fpDir)), x = d := by
    intro x hx
    have := (dedup_spec _).2 x |>.mp ((sortBytes_perm _).mem_iff.mp hx)
    obtain ⟨p, hp, rfl⟩ := List.mem_map.mp this
    exact h1 p hp
  rcases nodup_all_eq _ d (hperm.nodup_iff.mp hndg) hall with e | e
  · rw [e] at hperm ⊢; exact hperm.eq_nil
  · rw [e] at hperm ⊢; exact List.perm_singleton.mp hperm

/-- exact equality with the model's result -/
theorem examineFiles_tied_one_dir (o : Oracles) (parseFile : Text → List GoDecl × Err) (re : Text → Text → Bool × Bool)
    (registry : Map2) (sa : GoSet) (regPaths standalone : List Text) (runOnly : Text) (update : Bool)
    (hc : FilesCorr o parseFile re registry sa regPaths standalone runOnly) (fs : FS) (out : Text) (d : Text)
    (h1 : ∀ p ∈ regPaths ++ standalone, fpDir p = d) (hj : update = true → JoinFaithful d) (r : FilesResult)
    (h : GoSnaps.examineFiles o fs regPaths standalone runOnly update = some r) :
    Generated.FuncsIO.examineFiles IOFail.never fs out parseFile re registry sa runOnly update =
      (r.fs, out, r.obsolete, r.used) := by
  have hd := goDirs_one_dir o parseFile re registry sa regPaths standalone runOnly hc d h1
  refine examineFiles_tied_partial o parseFile re registry sa regPaths standalone runOnly update hc fs out hd ?_ r h
  intro hu x hx
  rw [hd] at hx
  have := (dedup_spec _).2 x |>.mp ((sortBytes_perm _).mem_iff.mp hx)
  obtain ⟨p, hp, rfl⟩ := List.mem_map.mp this
  rw [h1 p hp]; exact hj hu

/-- `/s/a.snap` (registered: used), `/s/b.snap` (orphan: obsolete), `/s/c.txt` (ignored) -/
def xA : Text := [47, 115, 47, 97, 46, 115, 110, 97, 112]
def xB : Text := [47, 115, 47, 98, 46, 115, 110, 97, 112]
def xFS : FS := [(xA, cFile), (xB, [1]), ([47, 115, 47, 99, 46, 116, 120, 116], [2])]
def xRegistry : Map2 := [(xA, [([84, 101, 115, 116, 65], 1)])]
def xParse : Text → List GoDecl × Err := fun _ => ([], Err.other [33])

theorem xCorr : FilesCorr {} xParse cRe xRegistry [] [xA] [] [] :=
  ⟨fun p => by simp [xRegistry], fun p => Iff.rfl, fun p key entry h => by simp at h, cSound⟩

/-- report mode: the orphan is listed, nothing is removed -/
example : Generated.FuncsIO.examineFiles IOFail.never xFS [7] xParse cRe xRegistry [] [] false =
    (xFS, [7], [xB], [xA]) := by decide +kernel
/-- clean mode: the orphan is listed and removed -/
example : Generated.FuncsIO.examineFiles IOFail.never xFS [7] xParse cRe xRegistry [] [] true =
    ([(xA, cFile), ([47, 115, 47, 99, 46, 116, 120, 116], [2])], [7], [xB], [xA]) := by decide +kernel
/-- the same through the theorem -/
example : ∃ r, GoSnaps.examineFiles {} xFS [xA] [] [] true = some r ∧
    Generated.FuncsIO.examineFiles IOFail.never xFS [7] xParse cRe xRegistry [] [] true = (r.fs, [7], r.obsolete, r.used) := by
  have hm : ∃ r, GoSnaps.examineFiles {} xFS [xA] [] [] true = some r := by
    cases h : GoSnaps.examineFiles {} xFS [xA] [] [] true with
    | none => exact absurd h (by decide)
    | some r => exact ⟨r, rfl⟩
  obtain ⟨r, hr⟩ := hm
  exact ⟨r, hr, examineFiles_tied_one_dir {} xParse cRe xRegistry [] [xA] [] [] true xCorr xFS [7] [47, 115]
    (by decide) (fun _ => joinFaithful_example) r hr⟩
/-- a failing `os.Remove`: the error is printed, the file stays, it is still reported as removed -/
example : Generated.FuncsIO.examineFiles (fun op _ => if op = .remove then some [33] else none) xFS [7] xParse cRe
      xRegistry [] [] true = (xFS, [7, 33, 10], [xB], [xA]) := by decide +kernel

/-! ### two directories visited in another order than the model's

`/t/a.snap` was registered before `/s/a.snap`: the transliteration visits `/t` first, the model `/s`. -/

def yTA : Text := [47, 116, 47, 97, 46, 115, 110, 97, 112]
def yTB : Text := [47, 116, 47, 98, 46, 115, 110, 97, 112]
def yFS : FS := [(xA, cFileA), (xB, [1]), (yTA, cFileA), (yTB, [2])]
def yRegistry : Map2 := [(yTA, [([84, 101, 115, 116, 65], 1)]), (xA, [([84, 101, 115, 116, 65], 1)])]

theorem yCorr : FilesCorr {} xParse cRe yRegistry [] [xA, yTA] [] [] :=
  ⟨fun p => by simp [yRegistry]; exact Or.comm, fun p => Iff.rfl, fun p key entry h => by simp at h, cSound⟩

theorem yDirs : goDirs yRegistry [] = [[47, 116], [47, 115]] := by decide +kernel

theorem yJoin : ∀ d ∈ goDirs yRegistry [], JoinFaithful d := by
  rw [yDirs]
  intro d hd
  simp only [List.mem_cons, List.not_mem_nil, or_false] at hd
  rcases hd with rfl | rfl
  · exact joinFaithful_abs [[116]] (by simp) (fun c hc => by
      simp only [List.mem_singleton] at hc; subst hc
      exact ⟨by decide, by decide, by decide, by decide⟩)
  · exact joinFaithful_example

theorem yIndep : DirsIndependent (goDirs yRegistry []) := by
  apply dirsIndependent_of_notUnder _ yJoin
  rw [yDirs]
  intro d hd d' hd' hne
  simp only [List.mem_cons, List.not_mem_nil, or_false] at hd hd'
  rcases hd with rfl | rfl <;> rcases hd' with rfl | rfl
  · exact absurd rfl hne
  · decide +kernel
  · decide +kernel
  · exact absurd rfl hne

/-- the transliteration: `/t` first -/
example : Generated.FuncsIO.examineFiles IOFail.never yFS [] xParse cRe yRegistry [] [] true =
    ([(xA, cFileA), (yTA, cFileA)], [], [yTB, xB], [yTA, xA]) := by decide +kernel
/-- the model: `/s` first -/
example : (GoSnaps.examineFiles {} yFS [xA, yTA] [] [] true).map (fun r => (r.fs, r.obsolete, r.used)) =
    some ([(xA, cFileA), (yTA, cFileA)], [xB, yTB], [xA, yTA]) := by decide +kernel
/-- `examineFiles_tied` on this input -/
example : ∃ r fs' obsolete used, GoSnaps.examineFiles {} yFS [xA, yTA] [] [] true = some r ∧
    Generated.FuncsIO.examineFiles IOFail.never yFS [] xParse cRe yRegistry [] [] true = (fs', [], obsolete, used) ∧
    (∀ p, fsRead fs' p = fsRead r.fs p) ∧ obsolete.Perm r.obsolete ∧ used.Perm r.used := by
  have hm : ∃ r, GoSnaps.examineFiles {} yFS [xA, yTA] [] [] true = some r := by
    cases h : GoSnaps.examineFiles {} yFS [xA, yTA] [] [] true with
    | none =>
      have : (GoSnaps.examineFiles {} yFS [xA, yTA] [] [] true).isSome = true := by decide +kernel
      rw [h] at this; cases this
    | some r => exact ⟨r, rfl⟩
  obtain ⟨r, hr⟩ := hm
  obtain ⟨fs', ob, us, h1, h2, h3, h4⟩ := examineFiles_tied {} xParse cRe yRegistry [] [xA, yTA] [] [] true yCorr yFS []
    (fun _ => ⟨yJoin, yIndep⟩) r hr
  exact ⟨r, fs', ob, us, hr, h1, h2, h3, h4⟩

end GoSnaps.Tie
