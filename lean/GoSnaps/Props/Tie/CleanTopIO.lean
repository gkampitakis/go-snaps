/-
Tie by proof: the top-level `Clean` (snaps/clean.go; `Generated/FuncsIO.lean`) against the model's
`clean` (`GoSnaps/Clean.lean`), on top of the ties of its callees (`Tie/CleanIO`, `Tie/CleanTopIO1-3`).

`Clean_eq` is the closed form for every failure oracle.  Under `IOFail.never` the tie is exact when
the directories are visited in the model's order or there is one directory; in ANY order the same
file-system content and the model's summary text of permuted obsolete lists (`Clean_tied`).  Then
outcome facts for EVERY failure oracle (`Clean_ci_readonly`, `Clean_no_update_no_removal`,
`Clean_prints_once`) and concrete worlds.
-/
import GoSnaps.Props.Tie.CleanTopIO1
import GoSnaps.Props.Tie.CleanTopIO2
import GoSnaps.Props.Tie.CleanTopIO3
import GoSnaps.Props.Tie.Registry
namespace GoSnaps.Tie
open GoSnaps GoSnaps.GoIO
open GoSnaps.Generated.FuncsIO

/-! ## `Clean` in closed form, for every failure oracle -/

/-- `shouldClean && !isCI`: the `shouldUpdate` / `update` argument of all three callees -/
def cleanUpd (st : St) : Bool := Generated.shouldClean st.env && !st.env.isCI

/-- what `Clean` does with the results of `examineFiles` and `examineSnaps`: print the error, or
    the summary when it is not empty (`fmt.Println` adds the newline) -/
def cleanFinish (st : St) (files : FSt) (snaps : FS × List Text × Err) : St :=
  if snaps.2.2.notNil = true then
    { st with fs := snaps.1, stdout := files.2.1 ++ snaps.2.2.text ++ [10] }
  else if (Generated.FuncsIO.summary files.2.2.1 snaps.2.1 (GoSem.len st.skipped) st.events (cleanUpd st) != []) = true then
    { st with fs := snaps.1, stdout := files.2.1 ++
        Generated.FuncsIO.summary files.2.2.1 snaps.2.1 (GoSem.len st.skipped) st.events (cleanUpd st) ++ [10] }
  else { st with fs := snaps.1, stdout := files.2.1 }

def cleanSteps (io : IOFail) (st : St) (parseFile : Text → List GoDecl × Err) (re : Text → Text → Bool × Bool)
    (runOnly : Text) (count : Int) (sortOpt : Bool) : Option St :=
  (Generated.FuncsIO.occurrences st.sreg.cleanup count standaloneOccurrenceFMT).bind fun sa =>
    (Generated.FuncsIO.examineSnaps io
      (Generated.FuncsIO.examineFiles io st.fs st.stdout parseFile re st.reg.cleanup sa runOnly (cleanUpd st)).1
      re st.skipped st.reg.cleanup
      (Generated.FuncsIO.examineFiles io st.fs st.stdout parseFile re st.reg.cleanup sa runOnly (cleanUpd st)).2.2.2
      runOnly count (cleanUpd st) (sortOpt && !st.env.isCI)).bind fun r =>
    some (cleanFinish st
      (Generated.FuncsIO.examineFiles io st.fs st.stdout parseFile re st.reg.cleanup sa runOnly (cleanUpd st)) r)

/-- the transliterated `Clean`, for every failure oracle, is the composition
    `occurrences (standalone) → examineFiles → examineSnaps → (error: print it | summary: print it
    when non-empty)`; `opts...` contributes `opts[0]` if present (`CleanOpts.Sort`), else `false`.
    `none` = the Go code panics (`count = 0`) or a standalone path is outside the modelled formats. -/
theorem Clean_eq (io : IOFail) (st : St) (parseFile : Text → List GoDecl × Err) (re : Text → Text → Bool × Bool)
    (runFlag : Text) (countFlag : Int × Err) (opts : List Bool) :
    Generated.FuncsIO.Clean io st parseFile re runFlag countFlag () opts =
      cleanSteps io st parseFile re runFlag countFlag.1 (opts.head?.getD false) := by
  have hfin : ∀ (c d : Prop) [Decidable c] [Decidable d] (A B C : St),
      (if c then some A else if d then some B else some C) = some (if c then A else if d then B else C) := by
    intro c d _ _ A B C
    split
    · rfl
    · split <;> rfl
  unfold Generated.FuncsIO.Clean cleanSteps cleanFinish cleanUpd
  simp only [bind, pure]
  cases opts with
  | nil =>
    have h1 : (GoSem.len ([] : List Bool) != 0) = false := by decide
    simp only [h1, Bool.false_eq_true, ↓reduceIte, List.head?_nil, Option.getD_none, hfin]
  | cons b bs =>
    have h1 : (GoSem.len (b :: bs) != 0) = true := by simp [GoSem.len]; omega
    have h2 : GoSem.index (b :: bs) 0 = some b := by simp [GoSem.index]
    simp only [h1, h2, ↓reduceIte, Option.bind_some, List.head?_cons, Option.getD_some, hfin]

/-! ## `Clean` against the model's `clean`, under `IOFail.never` -/

/-- how the state of the transliteration corresponds to the model's `World` when `Clean` is called
    (after `m.Run()`): the `RegCorr`-style correspondences the callee ties need -/
structure CleanRel (st : St) (w : World) : Prop where
  env : st.env = w.env
  fs : st.fs = w.fs
  skipped : st.skipped = w.skipped
  /-- `testsRegistry.cleanup[p]` holds the model's (test, count) pairs for every file `p` -/
  reg : ∀ p, RegCorr st.reg.cleanup w.cleanup p
  /-- the keys of `testsRegistry.cleanup` are the registered snapshot files -/
  regKeys : ∀ p, p ∈ st.reg.cleanup.map (·.1) ↔ p ∈ w.cleanup.map (·.1.1)
  /-- `standaloneTestsRegistry.cleanup` holds the model's (path pattern, count) pairs -/
  sreg : ∀ x, x ∈ st.sreg.cleanup ↔ x ∈ intImage w.scleanup
  passed : map1Get st.events evPassed = (w.events.passed : Int)
  erred : map1Get st.events evErred = (w.events.erred : Int)
  added : map1Get st.events evAdded = (w.events.added : Int)
  updated : map1Get st.events evUpdated = (w.events.updated : Int)
  eventsWF : EventsWF st.events

/-- `occurrences(standaloneTestsRegistry.cleanup, count, standaloneOccurrenceFMT)` for a Go map with
    the members of the model's list -/
theorem standaloneOcc_tied (m : Map1) (mine : List (Text × Nat)) (cnt : Nat) (hc : cnt > 0)
    (hm : ∀ x, x ∈ m ↔ x ∈ intImage mine) (r' : List Text)
    (h : GoSnaps.occurrences mine cnt standaloneOccFmt = some r') :
    ∃ r, Generated.FuncsIO.occurrences m (cnt : Int) standaloneOccurrenceFMT = some r ∧ ∀ x, x ∈ r ↔ x ∈ r' := by
  obtain ⟨r2, hr2, _, hm2⟩ := occurrences_tied_gen standaloneOccurrenceFMT standaloneOccFmt
    standaloneOccurrenceFMT_tied mine cnt hc r' h
  obtain ⟨r1, hr1, hm1⟩ := occurrences_congr_mem _ _ (cnt : Int) (by omega) _ hm r2 hr2
  exact ⟨r1, hr1, fun x => (hm1 x).trans (hm2 x)⟩

theorem CleanRel.filesCorr {st : St} {w : World} (h : CleanRel st w) (o : Oracles)
    (parseFile : Text → List GoDecl × Err) (re : Text → Text → Bool × Bool) (runOnly : Text)
    (hp : ParseSound o parseFile) (hs : OracleSound o re runOnly) (sa : GoSet) (standalone : List Text)
    (hsa : ∀ x, x ∈ sa ↔ x ∈ standalone) :
    FilesCorr o parseFile re st.reg.cleanup sa (cleanRegPaths w) standalone runOnly :=
  ⟨fun p => by rw [h.regKeys p]; unfold cleanRegPaths; exact ((dedup_spec _).2 p).symm, hsa, hp, hs⟩

/-- the model's stages 2 and 3 of a supported run, with the arguments the transliteration passes -/
theorem CleanRel.stages {st : St} {w : World} (hrel : CleanRel st w) {o : Oracles} {sortOpt : Bool} {runOnly : Text}
    {cnt : Nat} {standalone : List Text} {fr : FilesResult} {obsT : List Text} {fs' : FS} {written : List Text}
    (hrun : CleanRun o w sortOpt runOnly cnt standalone fr obsT fs' written) :
    GoSnaps.examineFiles o st.fs (cleanRegPaths w) standalone runOnly (cleanUpd st) = some fr ∧
    GoSnaps.examineSnaps o fr.fs w.cleanup st.skipped fr.used runOnly cnt (cleanUpd st)
      (sortOpt && !st.env.isCI) = .ok obsT fs' written := by
  have h2 := hrun.files
  have h3 := hrun.snaps
  unfold Generated.cleanFilesUpdate at h2
  unfold Generated.cleanSnapsUpdate Generated.cleanSnapsSort at h3
  unfold cleanUpd
  rw [hrel.env, hrel.skipped, hrel.fs]
  exact ⟨h2, h3⟩

/-- stage 4 of `Clean` when `examineSnaps` returned no error: the model's summary of the two lists -/
theorem cleanFinish_ok {st : St} {w : World} (hrel : CleanRel st w) (sortOpt : Bool) (fsg fs2 : FS) (out : Text)
    (obsF usedg obsT : List Text) :
    cleanFinish st (fsg, out, obsF, usedg) (fs2, obsT, Err.nil) =
      { st with fs := fs2, stdout := out ++ cleanStdout w sortOpt obsF obsT } := by
  have hsum := summary_tied_wf obsF obsT st.skipped.length st.events w.events (cleanUpd st) hrel.eventsWF
    hrel.passed hrel.erred hrel.added hrel.updated
  have hlen : GoSem.len st.skipped = ((st.skipped.length : Nat) : Int) := rfl
  have hupd2 : cleanUpd st = Generated.summaryUpdate w.env sortOpt := by
    unfold cleanUpd Generated.summaryUpdate; rw [hrel.env]
  unfold cleanFinish
  simp only [Err.notNil, Bool.false_eq_true, ↓reduceIte, hlen, hsum]
  unfold cleanStdout cleanAnyEvent
  rw [← hupd2, ← hrel.skipped]
  simp only
  by_cases hnil : GoSnaps.summary obsF obsT st.skipped.length w.events
      (decide (w.events.erred + w.events.added + w.events.updated + w.events.passed > 0)) (cleanUpd st) = []
  · simp [hnil]
  · have : (GoSnaps.summary obsF obsT st.skipped.length w.events
      (decide (w.events.erred + w.events.added + w.events.updated + w.events.passed > 0)) (cleanUpd st) != []) = true := by
      simpa using hnil
    simp [hnil, this, nl]

/-- under `IOFail.never`, from corresponding states, with sound
    tables and `count > 0`, whenever the model's `clean` supports the input (`out.unsupported = none`)
    the transliterated `Clean` does not panic and returns the state whose file system is the model's
    and whose `stdout` is extended by exactly what the model prints; nothing else changes.
    PARTIAL in one respect: `hdirs` — the transliteration ranges over `uniqueDirs` in the model's
    canonical order (Go leaves the order of a `range` over a map unspecified; the summary lists the
    obsolete files and tests in processing order, so for another order only a permutation of the
    item lines can be claimed, see `examineFiles_tied`).  `hdirs` holds whenever all registered
    paths live in one directory (`Clean_tied_one_dir`).  `hj` (clean mode only): `filepath.Join` is
    faithful on the visited directories (`joinFaithful_abs`: every absolute clean directory but the root). -/
theorem Clean_tied_partial (o : Oracles) (st : St) (w : World) (parseFile : Text → List GoDecl × Err)
    (re : Text → Text → Bool × Bool) (runOnly : Text) (cnt : Nat) (err : Err) (opts : List Bool)
    (hrel : CleanRel st w) (hcnt : cnt > 0) (hp : ParseSound o parseFile) (hs : OracleSound o re runOnly)
    (hdirs : ∀ sa standalone, Generated.FuncsIO.occurrences st.sreg.cleanup (cnt : Int) standaloneOccurrenceFMT = some sa →
      GoSnaps.occurrences w.scleanup cnt standaloneOccFmt = some standalone →
      goDirs st.reg.cleanup sa = sortBytes (dedup ((cleanRegPaths w ++ standalone).map fpDir)))
    (hj : cleanUpd st = true → ∀ sa, Generated.FuncsIO.occurrences st.sreg.cleanup (cnt : Int) standaloneOccurrenceFMT = some sa →
      ∀ d ∈ goDirs st.reg.cleanup sa, JoinFaithful d)
    (hsup : (GoSnaps.clean o w (opts.head?.getD false) runOnly cnt).2.unsupported = none) :
    Generated.FuncsIO.Clean IOFail.never st parseFile re runOnly ((cnt : Int), err) () opts =
      some { st with fs := (GoSnaps.clean o w (opts.head?.getD false) runOnly cnt).1.fs,
                     stdout := st.stdout ++ (GoSnaps.clean o w (opts.head?.getD false) runOnly cnt).2.stdout } := by
  obtain ⟨standalone, fr, obsTests, fs', written, hrun⟩ := clean_supported o w _ runOnly cnt hsup
  rw [Clean_eq, hrun.result]
  unfold cleanSteps
  simp only
  -- stage 1: the standalone occurrences
  obtain ⟨sa, hsa, hsam⟩ := standaloneOcc_tied st.sreg.cleanup w.scleanup cnt hcnt hrel.sreg standalone hrun.occ
  rw [hsa]
  simp only [Option.bind_some]
  -- stage 2: the files
  obtain ⟨hfilesM, hsnapsM⟩ := hrel.stages hrun
  have hfiles := examineFiles_tied_partial o parseFile re st.reg.cleanup sa (cleanRegPaths w) standalone runOnly
    (cleanUpd st) (hrel.filesCorr o parseFile re runOnly hp hs sa standalone hsam) st.fs st.stdout
    (hdirs sa standalone hsa hrun.occ) (fun hu => hj hu sa hsa) fr hfilesM
  rw [hfiles]
  simp only
  -- stage 3: the entries of the used files
  have hsnaps := examineSnaps_tied o re fr.fs st.skipped st.reg.cleanup w.cleanup fr.used runOnly cnt
    (cleanUpd st) ((opts.head?.getD false) && !st.env.isCI) hcnt hs (fun p _ => hrel.reg p) obsTests fs' written
    hsnapsM
  rw [hsnaps]
  simp only [Option.bind_some]
  rw [cleanFinish_ok hrel]

/-- when every registered snapshot file and standalone snapshot lives in the
    directory `d` (one test package), no order is involved: exact `stdout` and file system -/
theorem Clean_tied_one_dir (o : Oracles) (st : St) (w : World) (parseFile : Text → List GoDecl × Err)
    (re : Text → Text → Bool × Bool) (runOnly : Text) (cnt : Nat) (err : Err) (opts : List Bool)
    (hrel : CleanRel st w) (hcnt : cnt > 0) (hp : ParseSound o parseFile) (hs : OracleSound o re runOnly) (d : Text)
    (hone : ∀ standalone, GoSnaps.occurrences w.scleanup cnt standaloneOccFmt = some standalone →
      ∀ p ∈ cleanRegPaths w ++ standalone, fpDir p = d)
    (hj : cleanUpd st = true → JoinFaithful d)
    (hsup : (GoSnaps.clean o w (opts.head?.getD false) runOnly cnt).2.unsupported = none) :
    Generated.FuncsIO.Clean IOFail.never st parseFile re runOnly ((cnt : Int), err) () opts =
      some { st with fs := (GoSnaps.clean o w (opts.head?.getD false) runOnly cnt).1.fs,
                     stdout := st.stdout ++ (GoSnaps.clean o w (opts.head?.getD false) runOnly cnt).2.stdout } := by
  obtain ⟨standalone, _, _, _, _, hrun⟩ := clean_supported o w _ runOnly cnt hsup
  have key : ∀ sa, Generated.FuncsIO.occurrences st.sreg.cleanup (cnt : Int) standaloneOccurrenceFMT = some sa →
      goDirs st.reg.cleanup sa = sortBytes (dedup ((cleanRegPaths w ++ standalone).map fpDir)) := by
    intro sa hsa
    obtain ⟨sa', hsa', hmem⟩ := standaloneOcc_tied st.sreg.cleanup w.scleanup cnt hcnt hrel.sreg standalone hrun.occ
    rw [hsa] at hsa'; cases hsa'
    exact goDirs_one_dir o parseFile re st.reg.cleanup sa (cleanRegPaths w) standalone runOnly
      (hrel.filesCorr o parseFile re runOnly hp hs sa standalone hmem) d (hone standalone hrun.occ)
  refine Clean_tied_partial o st w parseFile re runOnly cnt err opts hrel hcnt hp hs ?_ ?_ hsup
  · intro sa standalone' hsa hst
    rw [hrun.occ] at hst; cases hst
    exact key sa hsa
  · intro hu sa hsa x hx
    rw [key sa hsa] at hx
    have := (dedup_spec _).2 x |>.mp ((sortBytes_perm _).mem_iff.mp hx)
    obtain ⟨p, hp', rfl⟩ := List.mem_map.mp this
    rw [hone standalone hrun.occ p hp']; exact hj hu

/-- without the order hypothesis of `Clean_tied_partial`.
    Go ranges over `uniqueDirs` in an unspecified order; whatever order the transliteration takes,
    under `IOFail.never` it returns a file system with the same content as the model's, and prints
    the model's summary text computed from lists `obsFiles`, `obsTests` that are PERMUTATIONS of the
    lists the model's stages return (`cleanStdout`: the counters, headers and hint line are the
    same; the item lines of each block appear in the order of processing).  Well-formedness:
    `filepath.Join` is faithful on the visited directories and no candidate path of one directory
    lies under another (`joinFaithful_abs`, `dirsIndependent_of_notUnder`). -/
theorem Clean_tied (o : Oracles) (st : St) (w : World) (parseFile : Text → List GoDecl × Err)
    (re : Text → Text → Bool × Bool) (runOnly : Text) (cnt : Nat) (err : Err) (opts : List Bool)
    (hrel : CleanRel st w) (hcnt : cnt > 0) (hp : ParseSound o parseFile) (hs : OracleSound o re runOnly)
    (hw : ∀ sa, Generated.FuncsIO.occurrences st.sreg.cleanup (cnt : Int) standaloneOccurrenceFMT = some sa →
      (∀ d ∈ goDirs st.reg.cleanup sa, JoinFaithful d) ∧ DirsIndependent (goDirs st.reg.cleanup sa))
    (hsup : (GoSnaps.clean o w (opts.head?.getD false) runOnly cnt).2.unsupported = none) :
    ∃ (fs'' : FS) (obsFiles obsTests : List Text),
      Generated.FuncsIO.Clean IOFail.never st parseFile re runOnly ((cnt : Int), err) () opts =
        some { st with fs := fs'', stdout := st.stdout ++ cleanStdout w (opts.head?.getD false) obsFiles obsTests } ∧
      (∀ p, fsRead fs'' p = fsRead (GoSnaps.clean o w (opts.head?.getD false) runOnly cnt).1.fs p) ∧
      ∃ standalone fr obsT fs' written, CleanRun o w (opts.head?.getD false) runOnly cnt standalone fr obsT fs' written ∧
        obsFiles.Perm fr.obsolete ∧ obsTests.Perm obsT := by
  obtain ⟨standalone, fr, obsT, fs', written, hrun⟩ := clean_supported o w _ runOnly cnt hsup
  rw [Clean_eq, hrun.result]
  unfold cleanSteps
  simp only
  obtain ⟨sa, hsa, hsam⟩ := standaloneOcc_tied st.sreg.cleanup w.scleanup cnt hcnt hrel.sreg standalone hrun.occ
  rw [hsa]
  simp only [Option.bind_some]
  have hcorr := hrel.filesCorr o parseFile re runOnly hp hs sa standalone hsam
  -- stage 2: the files, up to permutation
  obtain ⟨hfilesM, hsnapsM⟩ := hrel.stages hrun
  obtain ⟨fsg, obsFg, usedg, hfiles, hfsg, hobsFg, husedg⟩ := examineFiles_tied o parseFile re st.reg.cleanup sa
    (cleanRegPaths w) standalone runOnly (cleanUpd st) hcorr st.fs st.stdout (fun _ => hw sa hsa) fr hfilesM
  have hundm := examineFiles_used_nodup o parseFile re st.reg.cleanup sa (cleanRegPaths w) standalone runOnly
    (cleanUpd st) hcorr st.fs (hw sa hsa) fr hfilesM
  rw [hfiles]
  simp only
  -- stage 3: the model's `examineSnaps` on the Go-side inputs, then the tie
  obtain ⟨obs2, fs2, written2, hsn2, hobs2, hfs2⟩ := examineSnaps_perm o w.cleanup st.skipped runOnly cnt (cleanUpd st)
    ((opts.head?.getD false) && !st.env.isCI) fr.used usedg fr.fs fsg hundm husedg hfsg obsT fs' written hsnapsM
  have hsnaps := examineSnaps_tied o re fsg st.skipped st.reg.cleanup w.cleanup usedg runOnly cnt
    (cleanUpd st) ((opts.head?.getD false) && !st.env.isCI) hcnt hs (fun p _ => hrel.reg p) obs2 fs2 written2 hsn2
  rw [hsnaps]
  simp only [Option.bind_some]
  refine ⟨fs2, obsFg, obs2, ?_, hfs2, standalone, fr, obsT, fs', written, hrun, hobsFg, hobs2⟩
  rw [cleanFinish_ok hrel]

/-! ## outcome facts about the transliterated `Clean`, for EVERY failure oracle -/

/-- `fs'` differs from `fs` at most in the content of files satisfying `P`; no file appears or
    disappears -/
def FsKeeps (P : Text → Prop) (fs fs' : FS) : Prop :=
  (∀ q, ¬ P q → fsRead fs' q = fsRead fs q) ∧ (∀ q, (fsRead fs' q).isSome = (fsRead fs q).isSome)

theorem FsKeeps.refl (P : Text → Prop) (fs : FS) : FsKeeps P fs fs := ⟨fun _ _ => rfl, fun _ => rfl⟩

theorem FsKeeps.trans {P : Text → Prop} {a b c : FS} (h1 : FsKeeps P a b) (h2 : FsKeeps P b c) : FsKeeps P a c :=
  ⟨fun q hq => (h2.1 q hq).trans (h1.1 q hq), fun q => (h2.2 q).trans (h1.2 q)⟩

theorem FsKeeps.mono {P Q : Text → Prop} {a b : FS} (h : FsKeeps P a b) (hpq : ∀ q, P q → Q q) : FsKeeps Q a b :=
  ⟨fun q hq => h.1 q (fun hp => hq (hpq q hp)), h.2⟩

theorem fsWrite_keeps (fs : FS) (p c : Text) (h : (fsRead fs p).isSome = true) : FsKeeps (· = p) fs (fsWrite fs p c) := by
  refine ⟨fun q hq => C19.fsRead_fsWrite_other fs p q c hq, fun q => ?_⟩
  by_cases hq : q = p
  · subst hq; rw [C19.fsRead_fsWrite_same, h]; rfl
  · rw [C19.fsRead_fsWrite_other fs p q c hq]

theorem fileWrite_keeps (io : IOFail) (fs : FS) (f : File) (b : Text) (h : (fsRead fs f.path).isSome = true) :
    FsKeeps (· = f.path) fs (fileWrite io fs f b).1 ∧ (fileWrite io fs f b).2.1.path = f.path := by
  unfold fileWrite
  cases io .write f.path with
  | some m => exact ⟨FsKeeps.refl _ _, rfl⟩
  | none =>
    simp only
    split
    · exact ⟨fsWrite_keeps fs f.path _ h, rfl⟩
    · exact ⟨fsWrite_keeps fs f.path _ h, rfl⟩

theorem wstep_fold_keeps (io : IOFail) (tests : SMap) (p : Text) (ids : List Text) (s : FS × File)
    (hp : s.2.path = p) (h : (fsRead s.1 p).isSome = true) :
    FsKeeps (· = p) s.1 (ids.foldl (wstep io tests) s).1 := by
  induction ids generalizing s with
  | nil => exact FsKeeps.refl _ _
  | cons id ids ih =>
    rw [List.foldl_cons]
    unfold wstep
    split
    · obtain ⟨k1, k2⟩ := fileWrite_keeps io s.1 s.2 (([10, 91] : List UInt8) ++ id ++ ([93, 10] : List UInt8) ++
        smapGet tests id ++ Generated.go_endSequence ++ ([10] : List UInt8)) (by rw [hp]; exact h)
      rw [hp] at k1
      refine k1.trans (ih _ (by simp only; rw [k2, hp]) ?_)
      simp only
      rw [k1.2 p]; exact h
    · exact ih s hp h

theorem overwriteFile_keeps (io : IOFail) (fs : FS) (f : File) (b : Text) (h : (fsRead fs f.path).isSome = true) :
    FsKeeps (· = f.path) fs (overwriteFile io fs f b).1 ∧ (overwriteFile io fs f b).2.1.path = f.path := by
  rw [overwriteFile_eq]
  cases io .write f.path with
  | some m => exact ⟨fsWrite_keeps fs f.path _ h, rfl⟩
  | none => exact ⟨fsWrite_keeps fs f.path _ h, rfl⟩

/-- the loop state a step of the `range used` loop ends in -/
def osOf : ForInStep OS → OS
  | .done r => r
  | .yield r => r

def RetOK (r : OS) : Prop := ∀ x, r.1 = some x → x.1 = r.2.1

theorem fileRest_keeps (io : IOFail) (update sort : Bool) (f : File) (fs : FS) (r : ScanState × Text)
    (h : (fsRead fs f.path).isSome = true) :
    FsKeeps (· = f.path) fs (osOf (fileRest io update sort f fs r)).2.1 ∧ RetOK (osOf (fileRest io update sort f fs r)) := by
  unfold fileRest
  obtain ⟨k1, k2⟩ := overwriteFile_keeps io fs f [] h
  split
  · exact ⟨FsKeeps.refl _ _, fun x hx => by cases hx⟩
  · split
    · exact ⟨k1, fun x hx => by cases hx; rfl⟩
    · refine ⟨k1.trans (wstep_fold_keeps io r.1.tests f.path _ _ k2 (by simp only; rw [k1.2]; exact h)),
        fun x hx => by cases hx⟩

theorem fileRest_noop (io : IOFail) (f : File) (fs : FS) (r : ScanState × Text) :
    (osOf (fileRest io false false f fs r)).2.1 = fs := by
  unfold fileRest
  simp [osOf]

theorem openRDWR_ok (io : IOFail) (fs : FS) (p : Text) (h : (openRDWR io fs p).2.notNil = false) :
    (fsRead fs p).isSome = true := by
  unfold openRDWR at h
  cases hio : io .openRDWR p with
  | some m => rw [hio] at h; simp [Err.notNil] at h
  | none =>
    rw [hio] at h
    cases hr : fsRead fs p with
    | some c => rfl
    | none => rw [hr] at h; simp [Err.notNil] at h

theorem fileStep_keeps (io : IOFail) (re : Text → Text → Bool × Bool) (skipped : List Text) (registry : Map2)
    (runOnly : Text) (count : Int) (update sort : Bool) (p : Text) (fs : FS) (obs : List Text) (step : ForInStep OS)
    (h : fileStep io re skipped registry runOnly count update sort p fs obs = some step) :
    FsKeeps (· = p) fs (osOf step).2.1 ∧ RetOK (osOf step) ∧ (update = false → sort = false → (osOf step).2.1 = fs) := by
  unfold fileStep at h
  split at h
  · cases h
    exact ⟨FsKeeps.refl _ _, (fun x hx => by cases hx; rfl), fun _ _ => rfl⟩
  · rename_i hopen
    have hopen' : (openRDWR io fs p).2.notNil = false := by simpa using hopen
    cases hocc : Generated.FuncsIO.occurrences (map2Inner registry p) count (fun a b => some (snapshotOccurrenceFMT a b)) with
    | none => rw [hocc] at h; cases h
    | some reg =>
      rw [hocc] at h
      simp only [Option.bind_some, Option.some.injEq] at h
      subst h
      have hpath : (fileAtEnd fs (openRDWR io fs p).1).path = p := openRDWR_path io fs p
      obtain ⟨k1, k2⟩ := fileRest_keeps io update sort (fileAtEnd fs (openRDWR io fs p).1) fs
        (goScan (goObsolete re skipped runOnly reg) update (scan (fileContent fs (openRDWR io fs p).1)) .outer { obsolete := obs })
        (by rw [hpath]; exact openRDWR_ok io fs p hopen')
      rw [hpath] at k1
      refine ⟨k1, k2, fun hu hs => ?_⟩
      subst hu; subst hs
      exact fileRest_noop io _ fs _

theorem goFiles_keeps (io : IOFail) (re : Text → Text → Bool × Bool) (skipped : List Text) (registry : Map2)
    (runOnly : Text) (count : Int) (update sort : Bool) (used : List Text) (fs : FS) (obs : List Text) (r : OS)
    (h : goFiles (fileStep io re skipped registry runOnly count update sort) used fs obs = some r) :
    FsKeeps (· ∈ used) fs r.2.1 ∧ RetOK r ∧ (update = false → sort = false → r.2.1 = fs) := by
  induction used generalizing fs obs with
  | nil =>
    simp only [goFiles, Option.some.injEq] at h
    subst h
    exact ⟨FsKeeps.refl _ _, (fun x hx => by cases hx), fun _ _ => rfl⟩
  | cons p rest ih =>
    rw [goFiles] at h
    cases hs : fileStep io re skipped registry runOnly count update sort p fs obs with
    | none => rw [hs] at h; cases h
    | some step =>
      obtain ⟨k1, k2, k3⟩ := fileStep_keeps io re skipped registry runOnly count update sort p fs obs step hs
      rw [hs] at h
      cases step with
      | done r' =>
        simp only [Option.some.injEq] at h
        subst h
        exact ⟨k1.mono (fun q hq => by simp [hq]), k2, k3⟩
      | yield r' =>
        simp only at h
        obtain ⟨j1, j2, j3⟩ := ih _ _ h
        refine ⟨(k1.mono (fun q hq => by simp [hq])).trans (j1.mono (fun q hq => by simp [hq])), j2, fun hu hs' => ?_⟩
        rw [j3 hu hs']; exact k3 hu hs'

/-- **`examineSnaps` and the file system, for every failure oracle**: only the used files can change,
    no file appears or disappears, and without `update` and `sort` nothing changes at all -/
theorem examineSnaps_keeps (io : IOFail) (fs : FS) (re : Text → Text → Bool × Bool) (skipped : List Text)
    (registry : Map2) (used : List Text) (runOnly : Text) (count : Int) (update sort : Bool) (r : Ret)
    (h : Generated.FuncsIO.examineSnaps io fs re skipped registry used runOnly count update sort = some r) :
    FsKeeps (· ∈ used) fs r.1 ∧ (update = false → sort = false → r.1 = fs) := by
  rw [examineSnaps_eq] at h
  cases hg : goFiles (fileStep io re skipped registry runOnly count update sort) used fs [] with
  | none => rw [hg] at h; cases h
  | some os =>
    rw [hg] at h
    simp only [Option.map_some, Option.some.injEq] at h
    obtain ⟨k1, k2, k3⟩ := goFiles_keeps io re skipped registry runOnly count update sort used fs [] os hg
    have : r.1 = os.2.1 := by
      rw [← h]
      unfold finish
      cases hx : os.1 with
      | none => rfl
      | some x => exact k2 x hx
    rw [this]
    exact ⟨k1, k3⟩

/-! ### `examineFiles`, for every failure oracle -/

/-- `out'` extends `out` by the lines of failed `os.Remove` calls -/
def StdoutExt (out out' : Text) : Prop :=
  ∃ errs : List Err, out' = out ++ (errs.map (fun e => e.text ++ [10])).flatten ∧ ∀ e ∈ errs, e.notNil = true

theorem StdoutExt.refl (out : Text) : StdoutExt out out := ⟨[], by simp, fun _ h => by cases h⟩

theorem StdoutExt.trans {a b c : Text} (h1 : StdoutExt a b) (h2 : StdoutExt b c) : StdoutExt a c := by
  obtain ⟨e1, r1, g1⟩ := h1
  obtain ⟨e2, r2, g2⟩ := h2
  refine ⟨e1 ++ e2, by rw [r2, r1]; simp, fun e he => ?_⟩
  rcases List.mem_append.mp he with h | h
  · exact g1 e h
  · exact g2 e h

/-- what both loops of `examineFiles` preserve: report mode touches neither the file system nor
    `stdout`; `stdout` only grows by error lines; `used` only holds registered files -/
structure FilesInvIO (registry : Map2) (update : Bool) (s0 s : FSt) : Prop where
  noupdate : update = false → s.1 = s0.1 ∧ s.2.1 = s0.2.1
  stdout : StdoutExt s0.2.1 s.2.1
  used : (∀ p ∈ s0.2.2.2, map2Has registry p = true) → ∀ p ∈ s.2.2.2, map2Has registry p = true

theorem FilesInvIO.refl (registry : Map2) (update : Bool) (s : FSt) : FilesInvIO registry update s s :=
  ⟨fun _ => ⟨rfl, rfl⟩, StdoutExt.refl _, fun h => h⟩

theorem FilesInvIO.trans {registry : Map2} {update : Bool} {a b c : FSt} (h1 : FilesInvIO registry update a b)
    (h2 : FilesInvIO registry update b c) : FilesInvIO registry update a c :=
  ⟨fun hu => ⟨((h2.noupdate hu).1).trans (h1.noupdate hu).1, ((h2.noupdate hu).2).trans (h1.noupdate hu).2⟩,
    h1.stdout.trans h2.stdout, fun h => h2.used (h1.used h)⟩

theorem goEntry_inv (io : IOFail) (parseFile : Text → List GoDecl × Err) (re : Text → Text → Bool × Bool)
    (registry : Map2) (sa : GoSet) (runOnly : Text) (update : Bool) (dir : Text) (s : FSt) (c : DirEntry) :
    FilesInvIO registry update s (goEntry io parseFile re registry sa runOnly update dir s c) := by
  rw [goEntry]
  cases hu : isUsed registry dir (entPair c) with
  | true =>
    refine ⟨fun _ => ⟨rfl, rfl⟩, StdoutExt.refl _, fun h p hp => ?_⟩
    simp only [↓reduceIte] at hp
    rcases List.mem_append.mp hp with h' | h'
    · exact h p h'
    · simp only [List.mem_singleton] at h'; subst h'
      unfold isUsed at hu
      simp only [Bool.and_eq_true] at hu
      exact hu.2
  | false =>
    cases ho : isObs parseFile re registry sa runOnly dir (entPair c) with
    | false => exact FilesInvIO.refl _ _ _
    | true =>
      cases update with
      | false => exact ⟨fun _ => ⟨rfl, rfl⟩, StdoutExt.refl _, fun h => h⟩
      | true =>
        refine ⟨(fun h => by cases h), ?_, fun h => h⟩
        simp only [Bool.false_eq_true, ↓reduceIte]
        split
        · rename_i hn
          exact ⟨[(remove io s.1 (entryPath dir (entPair c))).2], by simp, fun e he => by
            simp only [List.mem_singleton] at he; subst he; exact hn⟩
        · exact StdoutExt.refl _

theorem foldl_inv {α : Type} (registry : Map2) (update : Bool) (f : FSt → α → FSt)
    (hf : ∀ s a, FilesInvIO registry update s (f s a)) (l : List α) (s : FSt) :
    FilesInvIO registry update s (l.foldl f s) := by
  induction l generalizing s with
  | nil => exact FilesInvIO.refl _ _ _
  | cons a l ih => rw [List.foldl_cons]; exact (hf s a).trans (ih _)

theorem examineFiles_inv (io : IOFail) (fs : FS) (out : Text) (parseFile : Text → List GoDecl × Err)
    (re : Text → Text → Bool × Bool) (registry : Map2) (sa : GoSet) (runOnly : Text) (update : Bool) :
    FilesInvIO registry update (fs, out, [], [])
      (Generated.FuncsIO.examineFiles io fs out parseFile re registry sa runOnly update) := by
  rw [examineFiles_eq]
  apply foldl_inv
  intro s d
  unfold goDir
  apply foldl_inv
  intro s' c
  exact goEntry_inv io parseFile re registry sa runOnly update d s' c


/-! ### the three outcome facts -/

theorem cleanSteps_some (io : IOFail) (st st' : St) (parseFile : Text → List GoDecl × Err) (re : Text → Text → Bool × Bool)
    (runOnly : Text) (count : Int) (sortOpt : Bool)
    (h : cleanSteps io st parseFile re runOnly count sortOpt = some st') :
    ∃ sa r, Generated.FuncsIO.occurrences st.sreg.cleanup count standaloneOccurrenceFMT = some sa ∧
      Generated.FuncsIO.examineSnaps io
        (Generated.FuncsIO.examineFiles io st.fs st.stdout parseFile re st.reg.cleanup sa runOnly (cleanUpd st)).1
        re st.skipped st.reg.cleanup
        (Generated.FuncsIO.examineFiles io st.fs st.stdout parseFile re st.reg.cleanup sa runOnly (cleanUpd st)).2.2.2
        runOnly count (cleanUpd st) (sortOpt && !st.env.isCI) = some r ∧
      st' = cleanFinish st
        (Generated.FuncsIO.examineFiles io st.fs st.stdout parseFile re st.reg.cleanup sa runOnly (cleanUpd st)) r := by
  unfold cleanSteps at h
  cases hsa : Generated.FuncsIO.occurrences st.sreg.cleanup count standaloneOccurrenceFMT with
  | none => rw [hsa] at h; cases h
  | some sa =>
    rw [hsa] at h
    simp only [Option.bind_some] at h
    cases hr : Generated.FuncsIO.examineSnaps io
        (Generated.FuncsIO.examineFiles io st.fs st.stdout parseFile re st.reg.cleanup sa runOnly (cleanUpd st)).1
        re st.skipped st.reg.cleanup
        (Generated.FuncsIO.examineFiles io st.fs st.stdout parseFile re st.reg.cleanup sa runOnly (cleanUpd st)).2.2.2
        runOnly count (cleanUpd st) (sortOpt && !st.env.isCI) with
    | none => rw [hr] at h; cases h
    | some r =>
      rw [hr] at h
      simp only [Option.bind_some, Option.some.injEq] at h
      exact ⟨sa, r, rfl, hr, h.symm⟩

theorem cleanFinish_fs (st : St) (files : FSt) (snaps : FS × List Text × Err) :
    (cleanFinish st files snaps).fs = snaps.1 := by
  unfold cleanFinish
  split
  · rfl
  · split <;> rfl

/-- on CI (`isCI = true`) `Clean` leaves the file system exactly as
    it is, whatever `UPDATE_SNAPS`, `CleanOpts.Sort` and the failure oracle are -/
theorem Clean_ci_readonly (io : IOFail) (st st' : St) (parseFile : Text → List GoDecl × Err)
    (re : Text → Text → Bool × Bool) (runFlag : Text) (countFlag : Int × Err) (opts : List Bool)
    (hci : st.env.isCI = true)
    (h : Generated.FuncsIO.Clean io st parseFile re runFlag countFlag () opts = some st') : st'.fs = st.fs := by
  rw [Clean_eq] at h
  obtain ⟨sa, r, _, hr, rfl⟩ := cleanSteps_some io st st' parseFile re runFlag countFlag.1 _ h
  have hu : cleanUpd st = false := by unfold cleanUpd; rw [hci]; simp
  have hs : (opts.head?.getD false && !st.env.isCI) = false := by rw [hci]; simp
  rw [hu, hs] at hr
  rw [cleanFinish_fs, (examineSnaps_keeps io _ re _ _ _ _ _ false false r hr).2 rfl rfl]
  exact ((examineFiles_inv io st.fs st.stdout parseFile re st.reg.cleanup sa runFlag false).noupdate rfl).1

/-- without `UPDATE_SNAPS=true|clean` no file is removed and none
    is created (the set of existing paths is the same before and after); the content of a file can
    change only if it is a registered snapshot file (`CleanOpts.Sort` rewrites files whose entries
    are out of order — and a failing write during that rewrite can leave such a file truncated);
    without `Sort` (or on CI) the file system is exactly unchanged -/
theorem Clean_no_update_no_removal (io : IOFail) (st st' : St) (parseFile : Text → List GoDecl × Err)
    (re : Text → Text → Bool × Bool) (runFlag : Text) (countFlag : Int × Err) (opts : List Bool)
    (hnc : Generated.shouldClean st.env = false)
    (h : Generated.FuncsIO.Clean io st parseFile re runFlag countFlag () opts = some st') :
    (∀ p, (fsRead st'.fs p).isSome = (fsRead st.fs p).isSome) ∧
    (∀ p, map2Has st.reg.cleanup p = false → fsRead st'.fs p = fsRead st.fs p) ∧
    ((opts.head?.getD false = false ∨ st.env.isCI = true) → st'.fs = st.fs) := by
  rw [Clean_eq] at h
  obtain ⟨sa, r, _, hr, rfl⟩ := cleanSteps_some io st st' parseFile re runFlag countFlag.1 _ h
  have hu : cleanUpd st = false := by unfold cleanUpd; rw [hnc]; rfl
  rw [hu] at hr
  have hinv := examineFiles_inv io st.fs st.stdout parseFile re st.reg.cleanup sa runFlag false
  have hfs := (hinv.noupdate rfl).1
  simp only at hfs
  obtain ⟨k1, k2⟩ := examineSnaps_keeps io _ re _ _ _ _ _ false _ r hr
  rw [hfs] at k1 k2
  rw [cleanFinish_fs]
  refine ⟨k1.2, fun p hp => k1.1 p (fun hm => ?_), fun hno => k2 rfl ?_⟩
  · have := hinv.used (fun _ hq => by cases hq) p hm
    rw [hp] at this; cases this
  · rcases hno with h1 | h1
    · rw [h1]; rfl
    · rw [h1]; simp

/-- `stdout` grows by the lines of failed `os.Remove` calls (none
    unless files are being deleted), followed by exactly one of: the error of `examineSnaps` and a
    newline; or the summary of the two lists the stages returned, the number of skipped tests and
    the events — and a newline — unless that summary is empty, in which case nothing is printed -/
theorem Clean_prints_once (io : IOFail) (st st' : St) (parseFile : Text → List GoDecl × Err)
    (re : Text → Text → Bool × Bool) (runFlag : Text) (countFlag : Int × Err) (opts : List Bool)
    (h : Generated.FuncsIO.Clean io st parseFile re runFlag countFlag () opts = some st') :
    ∃ (errs : List Err) (tail : Text),
      st'.stdout = st.stdout ++ (errs.map (fun e => e.text ++ [10])).flatten ++ tail ∧
      (∀ e ∈ errs, e.notNil = true) ∧ (cleanUpd st = false → errs = []) ∧
      ((∃ e : Err, e.notNil = true ∧ tail = e.text ++ [10]) ∨
       (∃ obsFiles obsTests : List Text,
          tail = if Generated.FuncsIO.summary obsFiles obsTests (GoSem.len st.skipped) st.events (cleanUpd st) = [] then []
            else Generated.FuncsIO.summary obsFiles obsTests (GoSem.len st.skipped) st.events (cleanUpd st) ++ [10])) := by
  rw [Clean_eq] at h
  obtain ⟨sa, r, _, hr, rfl⟩ := cleanSteps_some io st st' parseFile re runFlag countFlag.1 _ h
  have hinv := examineFiles_inv io st.fs st.stdout parseFile re st.reg.cleanup sa runFlag (cleanUpd st)
  obtain ⟨errs, he, hn⟩ := hinv.stdout
  simp only at he
  -- in report mode nothing was printed by `examineFiles`
  have herrs : cleanUpd st = false → errs = [] := by
    intro hu
    have h2 := (hinv.noupdate hu).2
    simp only at h2
    rw [h2] at he
    cases errs with
    | nil => rfl
    | cons e es =>
      have := congrArg List.length he
      simp at this
  generalize Generated.FuncsIO.examineFiles io st.fs st.stdout parseFile re st.reg.cleanup sa runFlag (cleanUpd st) = files at he hr ⊢
  unfold cleanFinish
  by_cases h1 : r.2.2.notNil = true
  · refine ⟨errs, r.2.2.text ++ [10], ?_, hn, herrs, Or.inl ⟨r.2.2, h1, rfl⟩⟩
    simp only [h1, ↓reduceIte, he, List.append_assoc]
  · simp only [h1, Bool.false_eq_true, ↓reduceIte]
    by_cases h2 : Generated.FuncsIO.summary files.2.2.1 r.2.1 (GoSem.len st.skipped) st.events (cleanUpd st) = []
    · refine ⟨errs, [], ?_, hn, herrs, Or.inr ⟨files.2.2.1, r.2.1, by rw [if_pos h2]⟩⟩
      simp [h2, he]
    · refine ⟨errs, Generated.FuncsIO.summary files.2.2.1 r.2.1 (GoSem.len st.skipped) st.events (cleanUpd st) ++ [10],
        ?_, hn, herrs, Or.inr ⟨files.2.2.1, r.2.1, by rw [if_neg h2]⟩⟩
      have : (Generated.FuncsIO.summary files.2.2.1 r.2.1 (GoSem.len st.skipped) st.events (cleanUpd st) != []) = true := by
        simpa using h2
      simp only [this, ↓reduceIte, he, List.append_assoc]

/-! ## `Clean` on a concrete world

`/s/a.snap` is the used file (registered by `TestA`, holds the entries `TestA - 1` and the obsolete
`TestB - 1`), `/s/b.snap` is an obsolete file in the same directory, `/s/c.txt` is not a snapshot;
one snapshot passed. -/

def xReport : Generated.Env := ⟨false, ""⟩
def xClean : Generated.Env := ⟨false, "clean"⟩
def xSt (env : Generated.Env) : St :=
  { env := env, fs := xFS, reg := { running := xRegistry, cleanup := xRegistry }, events := [(evPassed, 1)] }
def xW (env : Generated.Env) : World :=
  { env := env, fs := xFS, cleanup := [((xA, [84, 101, 115, 116, 65]), 1)], events := { passed := 1 } }

theorem xRel (env : Generated.Env) : CleanRel (xSt env) (xW env) where
  env := rfl
  fs := rfl
  skipped := rfl
  reg := by
    intro p x
    by_cases hp : p = xA
    · subst hp
      have : map2Inner (xSt env).reg.cleanup xA = intImage (mineOf (xW env).cleanup xA) := rfl
      rw [this]
    · have h1 : map2Inner (xSt env).reg.cleanup p = [] := by
        have : ¬ xA = p := fun e => hp e.symm
        simp [xSt, xRegistry, map2Inner, this]
      have h2 : mineOf (xW env).cleanup p = [] := by
        have : ¬ xA = p := fun e => hp e.symm
        simp [xW, mineOf, this]
      rw [h1, h2]; rfl
  regKeys := by intro p; simp [xSt, xW, xRegistry]
  sreg := fun x => Iff.rfl
  passed := rfl
  erred := rfl
  added := rfl
  updated := rfl
  eventsWF := fun p hp => by
    have : p = (evPassed, 1) := by simpa [xSt] using hp
    subst this; exact ⟨Or.inl rfl, by decide⟩

theorem xParseSound : ParseSound {} xParse := fun p key entry h => by simp at h

theorem xOneDir (env : Generated.Env) : ∀ standalone, GoSnaps.occurrences (xW env).scleanup 1 standaloneOccFmt = some standalone →
    ∀ p ∈ cleanRegPaths (xW env) ++ standalone, fpDir p = [47, 115] := by
  intro standalone h p hp
  have h0 : GoSnaps.occurrences (xW env).scleanup 1 standaloneOccFmt = some [] := rfl
  rw [h0] at h; cases h
  have h1 : cleanRegPaths (xW env) = [xA] := by
    have : (xW env).cleanup.map (·.1.1) = [xA] := rfl
    unfold cleanRegPaths; rw [this]; decide
  rw [h1] at hp
  have : p = xA := by simpa using hp
  subst this; decide

/-- report mode: nothing changes on disk; the summary lists the obsolete file and the obsolete test
    and tells how to remove them -/
example : (Generated.FuncsIO.Clean IOFail.never (xSt xReport) xParse cRe [] (1, Err.nil) () []).map (fun s => (s.fs, s.stdout)) =
    some (xFS, GoSnaps.summary [xB] [[84, 101, 115, 116, 66, 32, 45, 32, 49]] 0 { passed := 1 } true false ++ [10]) := by
  rw [← summary_tied [xB] [[84, 101, 115, 116, 66, 32, 45, 32, 49]] 0 [(evPassed, 1)] { passed := 1 } true false
    rfl rfl rfl rfl rfl]
  decide +kernel
/-- clean mode: `/s/b.snap` is removed, `TestB - 1` is dropped from `/s/a.snap`, both are listed as removed -/
example : (Generated.FuncsIO.Clean IOFail.never (xSt xClean) xParse cRe [] (1, Err.nil) () []).map (fun s => (s.fs, s.stdout)) =
    some ([(xA, cFileA), ([47, 115, 47, 99, 46, 116, 120, 116], [2])],
      GoSnaps.summary [xB] [[84, 101, 115, 116, 66, 32, 45, 32, 49]] 0 { passed := 1 } true true ++ [10]) := by
  rw [← summary_tied [xB] [[84, 101, 115, 116, 66, 32, 45, 32, 49]] 0 [(evPassed, 1)] { passed := 1 } true true
    rfl rfl rfl rfl rfl]
  decide +kernel
/-- the same two runs through `Clean_tied_one_dir` -/
example (env : Generated.Env) (h : (GoSnaps.clean {} (xW env) false [] 1).2.unsupported = none) :
    Generated.FuncsIO.Clean IOFail.never (xSt env) xParse cRe [] (((1 : Nat) : Int), Err.nil) () [] =
      some { xSt env with fs := (GoSnaps.clean {} (xW env) false [] 1).1.fs,
                          stdout := (GoSnaps.clean {} (xW env) false [] 1).2.stdout } := by
  have := Clean_tied_one_dir {} (xSt env) (xW env) xParse cRe [] 1 Err.nil [] (xRel env) (by decide) xParseSound cSound
    [47, 115] (xOneDir env) (fun _ => joinFaithful_example) h
  simpa [xSt] using this
example : (GoSnaps.clean {} (xW xReport) false [] 1).2.unsupported = none ∧
    (GoSnaps.clean {} (xW xClean) false [] 1).2.unsupported = none := by constructor <;> decide +kernel
/-- on CI with `UPDATE_SNAPS=clean` and `Sort`: read-only -/
example (st' : St)
    (h : Generated.FuncsIO.Clean IOFail.never (xSt ⟨true, "clean"⟩) xParse cRe [] (1, Err.nil) () [true] = some st') :
    st'.fs = xFS := Clean_ci_readonly _ _ _ _ _ _ _ _ rfl h
example : ∃ st', Generated.FuncsIO.Clean IOFail.never (xSt ⟨true, "clean"⟩) xParse cRe [] (1, Err.nil) () [true] = some st' ∧
    st'.fs = xFS := by
  cases h : Generated.FuncsIO.Clean IOFail.never (xSt ⟨true, "clean"⟩) xParse cRe [] (1, Err.nil) () [true] with
  | none =>
    have : (Generated.FuncsIO.Clean IOFail.never (xSt ⟨true, "clean"⟩) xParse cRe [] (1, Err.nil) () [true]).isSome = true := by
      decide +kernel
    rw [h] at this; cases this
  | some st' => exact ⟨st', rfl, Clean_ci_readonly _ _ _ _ _ _ _ _ rfl h⟩
/-- `count = 0` with a registered standalone snapshot: the Go code panics (integer divide by zero) -/
example : Generated.FuncsIO.Clean IOFail.never { xSt xReport with sreg := { cleanup := [([112], 1)] } } xParse cRe []
    (0, Err.nil) () [] = none := by
  rw [Clean_eq]; unfold cleanSteps; rw [occurrences_count_zero _ _ (by decide)]; rfl

/-! ### two directories, visited by the transliteration in another order than the model's -/

def ySt (env : Generated.Env) : St :=
  { env := env, fs := yFS, reg := { running := yRegistry, cleanup := yRegistry }, events := [(evPassed, 2)] }
def yW (env : Generated.Env) : World :=
  { env := env, fs := yFS, cleanup := [((xA, [84, 101, 115, 116, 65]), 1), ((yTA, [84, 101, 115, 116, 65]), 1)],
    events := { passed := 2 } }

theorem yRel (env : Generated.Env) : CleanRel (ySt env) (yW env) where
  env := rfl
  fs := rfl
  skipped := rfl
  reg := by
    intro p x
    by_cases hp : p = xA
    · subst hp
      have : map2Inner (ySt env).reg.cleanup xA = intImage (mineOf (yW env).cleanup xA) := rfl
      rw [this]
    · by_cases hp2 : p = yTA
      · subst hp2
        have : map2Inner (ySt env).reg.cleanup yTA = intImage (mineOf (yW env).cleanup yTA) := rfl
        rw [this]
      · have n1 : ¬ xA = p := fun e => hp e.symm
        have n2 : ¬ yTA = p := fun e => hp2 e.symm
        have h1 : map2Inner (ySt env).reg.cleanup p = [] := by simp [ySt, yRegistry, map2Inner, n1, n2]
        have h2 : mineOf (yW env).cleanup p = [] := by simp [yW, mineOf, n1, n2]
        rw [h1, h2]; rfl
  regKeys := by intro p; simp [ySt, yW, yRegistry]; exact Or.comm
  sreg := fun x => Iff.rfl
  passed := rfl
  erred := rfl
  added := rfl
  updated := rfl
  eventsWF := fun p hp => by
    have : p = (evPassed, 2) := by simpa [ySt] using hp
    subst this; exact ⟨Or.inl rfl, by decide⟩

/-- the transliteration lists `/t/b.snap` before `/s/b.snap`, the model the other way round: the two
    summaries differ in the order of two item lines, and in nothing else -/
example : (Generated.FuncsIO.Clean IOFail.never (ySt xReport) xParse cRe [] (1, Err.nil) () []).map (fun s => (s.fs, s.stdout)) =
      some (yFS, GoSnaps.summary [yTB, xB] [] 0 { passed := 2 } true false ++ [10]) ∧
    (GoSnaps.clean {} (yW xReport) false [] 1).2.stdout = GoSnaps.summary [xB, yTB] [] 0 { passed := 2 } true false ++ [10] := by
  constructor
  · rw [← summary_tied [yTB, xB] [] 0 [(evPassed, 2)] { passed := 2 } true false rfl rfl rfl rfl rfl]
    decide +kernel
  · have run : CleanRun {} (yW xReport) false [] 1 [] { obsolete := [xB, yTB], used := [xA, yTA], fs := yFS } [] yFS [] :=
      CleanRun.of_stages (by decide) (by decide +kernel) (by decide +kernel) (by decide +kernel)
    rw [run.result]
    show (if summary [xB, yTB] [] 0 { passed := 2 } true false = [] then [] else _) = _
    rw [if_neg (fun h => by cases ((C20Summary.summary_empty_iff ..).mp h).1)]
    rfl
/-- `Clean_tied` on this world -/
example (env : Generated.Env) (h : (GoSnaps.clean {} (yW env) false [] 1).2.unsupported = none) :
    ∃ fs'' obsFiles obsTests,
      Generated.FuncsIO.Clean IOFail.never (ySt env) xParse cRe [] (((1 : Nat) : Int), Err.nil) () [] =
        some { ySt env with fs := fs'', stdout := (ySt env).stdout ++ cleanStdout (yW env) false obsFiles obsTests } ∧
      (∀ p, fsRead fs'' p = fsRead (GoSnaps.clean {} (yW env) false [] 1).1.fs p) ∧
      ∃ standalone fr obsT fs' written, CleanRun {} (yW env) false [] 1 standalone fr obsT fs' written ∧
        obsFiles.Perm fr.obsolete ∧ obsTests.Perm obsT :=
  Clean_tied {} (ySt env) (yW env) xParse cRe [] 1 Err.nil [] (yRel env) (by decide) xParseSound cSound
    (fun sa hsa => by
      have : sa = [] := by
        have h0 : Generated.FuncsIO.occurrences (ySt env).sreg.cleanup ((1 : Nat) : Int) standaloneOccurrenceFMT = some [] := rfl
        rw [h0] at hsa; exact (Option.some.inj hsa).symm
      subst this
      exact ⟨yJoin, yIndep⟩) h

end GoSnaps.Tie
