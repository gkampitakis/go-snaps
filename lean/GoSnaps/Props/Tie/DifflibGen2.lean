/-
Tie, continued (see Props/Tie/DifflibGen.lean): the transliteration `GoSnaps.Generated.DifflibGen` of
/repo/internal/difflib/difflib.go computes, for ALL inputs, what the hand port `GoSnaps.Difflib` computes.
Each generated function is first brought to a closed form on Go's `int` (a fold, a step function, a
recursion equation) and that form is tied to the hand port's function on `Nat`: GetGroupedOpCodes relative to
getOpCodes, chainB's `b2j`, the loops of findLongestMatch, the closure and the collapse loop of
getMatchingBlocks. `groupedOpCodes_agrees` puts the chain together without hypotheses; the instances named in
Props/Tie/DifflibGen.lean stand at the end: `finite_agreement_*` as its corollaries, `finite_b2j_purge` as one of
`NewMatcher_b2j_agrees`.
-/
import GoSnaps.Props.Tie.DifflibGen
import GoSnaps.Lemmas.Difflib
namespace GoSnaps.Tie.DifflibGen
open GoSnaps GoSnaps.Generated GoSnaps.Generated.DifflibGen

/-! ### GetGroupedOpCodes: the closed form on `int` and the hand port's `groupOpCodes` -/

/-- `codes[0]`, trimmed to its last `n` elements, with Go's `int` -/
def trimHeadI (n : Int) (c : GoIO.OpCodeI) : GoIO.OpCodeI :=
  ⟨c.tag, Max.max c.i1 (c.i2 - n), c.i2, Max.max c.j1 (c.j2 - n), c.j2⟩

/-- `codes[len(codes)-1]`, trimmed to its first `n` elements -/
def trimTailI (n : Int) (c : GoIO.OpCodeI) : GoIO.OpCodeI :=
  ⟨c.tag, c.i1, Min.min c.i2 (c.i1 + n), c.j1, Min.min c.j2 (c.j1 + n)⟩

theorem opI_trimHead (n : Nat) (c : Difflib.OpCode) : opI (Difflib.trimHead n c) = trimHeadI n (opI c) := by
  simp only [opI, trimHeadI, ← genMax_eq, max_sub_cast]

theorem opI_trimTail (n : Nat) (c : Difflib.OpCode) : opI (Difflib.trimTail n c) = trimTailI n (opI c) := by
  simp only [opI, trimTailI, ← genMin_eq, min_add_cast]

/-- one iteration of the grouping loop on the state (groups, group), with Go's `int` -/
def gStep (n : Int) (st : List (List GoIO.OpCodeI) × List GoIO.OpCodeI) (c : GoIO.OpCodeI) :
    List (List GoIO.OpCodeI) × List GoIO.OpCodeI :=
  if c.tag = 0 ∧ c.i2 - c.i1 > n + n then (st.1 ++ [st.2 ++ [trimTailI n c]], [trimHeadI n c])
  else (st.1, st.2 ++ [c])

/-- `if len(group) > 0 && !(len(group) == 1 && group[0].Tag == OpEqual) { groups = append(groups, group) }` -/
def finalI (st : List (List GoIO.OpCodeI) × List GoIO.OpCodeI) : List (List GoIO.OpCodeI) :=
  match st.2 with
  | [] => st.1
  | [x] => if x.tag = 0 then st.1 else st.1 ++ [st.2]
  | _ :: _ :: _ => st.1 ++ [st.2]

/-- `codes[0] = …` when the first opcode is an Equal -/
def fixFirstI (n : Int) : List GoIO.OpCodeI → List GoIO.OpCodeI
  | [] => []
  | c :: cs => if c.tag = 0 then trimHeadI n c :: cs else c :: cs

/-- `codes[len(codes)-1] = …` when the last opcode is an Equal -/
def fixLastI (n : Int) (l : List GoIO.OpCodeI) : List GoIO.OpCodeI :=
  match l.getLast? with
  | none => l
  | some c => if c.tag = 0 then l.dropLast ++ [trimTailI n c] else l

/-- the whole of `GetGroupedOpCodes` on an opcode list, with Go's `int` -/
def groupI (n : Int) (codes : List GoIO.OpCodeI) : List (List GoIO.OpCodeI) :=
  let codes := if codes = [] then [⟨0, 0, 1, 0, 1⟩] else codes
  finalI ((fixLastI n (fixFirstI n codes)).foldl (gStep n) ([], []))

theorem opI_tag_zero (c : Difflib.OpCode) : (opI c).tag = 0 ↔ c.tag = 0 := by
  simp [opI]

theorem split_opI (n : Nat) (c : Difflib.OpCode) :
    ((opI c).tag = 0 ∧ (opI c).i2 - (opI c).i1 > (n : Int) + n) ↔ (c.tag = Difflib.opEqual ∧ n + n < c.i2 - c.i1) := by
  simp only [opI, Difflib.opEqual]; omega

theorem gStep_opI (n : Nat) (gs : List (List Difflib.OpCode)) (g : List Difflib.OpCode) (c : Difflib.OpCode) :
    gStep (n : Int) (gs.map (·.map opI), g.map opI) (opI c) =
      if c.tag = Difflib.opEqual ∧ n + n < c.i2 - c.i1 then
        ((gs ++ [g ++ [Difflib.trimTail n c]]).map (fun x => x.map opI), [Difflib.trimHead n c].map opI)
      else (gs.map (fun x => x.map opI), (g ++ [c]).map opI) := by
  simp only [gStep, split_opI, List.map_append, List.map_cons, List.map_nil, opI_trimTail, opI_trimHead]

theorem finalI_opI (n : Nat) (gs : List (List Difflib.OpCode)) (g : List Difflib.OpCode) :
    finalI (gs.map (·.map opI), g.map opI) = (Difflib.groupLoop n [] gs g).map (·.map opI) := by
  unfold Difflib.groupLoop finalI
  match g with
  | [] => simp
  | [x] => by_cases h : x.tag = 0 <;> simp [h, opI_tag_zero, Difflib.opEqual]
  | x :: y :: r => simp

theorem foldl_gStep (n : Nat) (cs : List Difflib.OpCode) (gs : List (List Difflib.OpCode)) (g : List Difflib.OpCode) :
    finalI ((cs.map opI).foldl (gStep (n : Int)) (gs.map (·.map opI), g.map opI)) =
      (Difflib.groupLoop n cs gs g).map (·.map opI) := by
  induction cs generalizing gs g with
  | nil => exact finalI_opI n gs g
  | cons c cs ih =>
    rw [List.map_cons, List.foldl_cons, gStep_opI, Difflib.groupLoop]
    by_cases h : c.tag = Difflib.opEqual ∧ n + n < c.i2 - c.i1
    · rw [if_pos h, if_pos h, ih]
    · rw [if_neg h, if_neg h, ih]

theorem fixFirstI_opI (n : Nat) (l : List Difflib.OpCode) :
    fixFirstI (n : Int) (l.map opI) = (Difflib.fixFirst n l).map opI := by
  cases l with
  | nil => rfl
  | cons c cs =>
    simp only [List.map_cons, fixFirstI, Difflib.fixFirst, opI_tag_zero, Difflib.opEqual]
    split <;> simp only [List.map_cons, opI_trimHead]

theorem fixLast_getLast (n : Nat) (l : List Difflib.OpCode) (c : Difflib.OpCode) (h : l.getLast? = some c) :
    Difflib.fixLast n l = if c.tag = Difflib.opEqual then l.dropLast ++ [Difflib.trimTail n c] else l := by
  induction l with
  | nil => simp at h
  | cons x xs ih =>
    cases xs with
    | nil =>
      simp at h; subst h
      simp [Difflib.fixLast]
    | cons y ys =>
      have h' : (y :: ys).getLast? = some c := by simpa [List.getLast?_cons_cons] using h
      rw [Difflib.fixLast, ih h']
      by_cases ht : c.tag = Difflib.opEqual <;> simp [ht]

theorem fixLastI_opI (n : Nat) (l : List Difflib.OpCode) :
    fixLastI (n : Int) (l.map opI) = (Difflib.fixLast n l).map opI := by
  unfold fixLastI
  cases hl : l.getLast? with
  | none =>
    have : l = [] := by simpa [List.getLast?_eq_none_iff] using hl
    subst this; rfl
  | some c =>
    rw [List.getLast?_map, hl, fixLast_getLast n l c hl]
    simp only [Option.map_some, opI_tag_zero, Difflib.opEqual]
    split <;> simp only [List.map_append, List.map_cons, List.map_nil, List.map_dropLast, opI_trimTail]

theorem groupI_opI (n : Nat) (codes : List Difflib.OpCode) :
    groupI (n : Int) (codes.map opI) = (Difflib.groupOpCodes n codes).map (·.map opI) := by
  unfold groupI Difflib.groupOpCodes
  have e : (if codes.map opI = [] then [(⟨0, 0, 1, 0, 1⟩ : GoIO.OpCodeI)] else codes.map opI) =
      (if codes.length = 0 then [(⟨Difflib.opEqual, 0, 1, 0, 1⟩ : Difflib.OpCode)] else codes).map opI := by
    cases codes <;> simp [opI, Difflib.opEqual]
  simp only [e]
  rw [fixFirstI_opI, fixLastI_opI]
  exact foldl_gStep n _ [] []

/-! ### GetGroupedOpCodes: the generated function computes the closed form -/

theorem setIndex_last {α : Type} (l : List α) (v : α) (h : l ≠ []) :
    GoSem.setIndex l (GoSem.len l - 1) v = some (l.dropLast ++ [v]) := by
  have e := List.dropLast_concat_getLast h
  have := GoSem.setIndex_append_length l.dropLast (l.getLast h) v []
  rw [e] at this
  have hl : GoSem.len l - 1 = (l.dropLast.length : Int) := by
    simp [GoSem.len, List.length_dropLast]
    have : 0 < l.length := List.length_pos_iff.mpr h
    omega
  rw [hl, this]

theorem gStep_body (n : Int) (c : GoIO.OpCodeI) (st : List (List GoIO.OpCodeI) × List GoIO.OpCodeI) :
    (if (c.tag == 0 && decide (c.i2 - c.i1 > n + n)) = true then
        some (ForInStep.yield
          (st.fst ++ [st.snd ++ [{ tag := c.tag, i1 := c.i1, i2 := DifflibGen.min c.i2 (c.i1 + n), j1 := c.j1, j2 := DifflibGen.min c.j2 (c.j1 + n) }]],
            [] ++ [{ tag := c.tag, i1 := DifflibGen.max c.i1 (c.i2 - n), i2 := c.i2, j1 := DifflibGen.max c.j1 (c.j2 - n), j2 := c.j2 }]))
      else some (ForInStep.yield (st.fst, st.snd ++ [{ tag := c.tag, i1 := c.i1, i2 := c.i2, j1 := c.j1, j2 := c.j2 }])))
      = some (ForInStep.yield (gStep n st c)) := by
  unfold gStep
  by_cases h : c.tag = 0 ∧ c.i2 - c.i1 > n + n
  · have h' : (c.tag == 0 && decide (c.i2 - c.i1 > n + n)) = true := by simp [h.1]; exact h.2
    rw [if_pos h', if_pos h]; simp [genMin_eq, genMax_eq, trimTailI, trimHeadI]
  · have h' : ¬ ((c.tag == 0 && decide (c.i2 - c.i1 > n + n)) = true) := by
      intro hh; simp at hh; exact h ⟨hh.1, hh.2⟩
    rw [if_neg h', if_neg h]

theorem final_body (st : List (List GoIO.OpCodeI) × List GoIO.OpCodeI) :
    ((if decide (GoSem.len st.snd > 0) = true then
        (if (GoSem.len st.snd == 1) = true then (GoSem.index st.snd 0).bind fun x => some (x.tag == 0) else some false).bind
          fun x => some !x
      else some false).bind fun x => if x = true then some (st.fst ++ [st.snd]) else some st.fst) = some (finalI st) := by
  obtain ⟨gs, g⟩ := st
  match g with
  | [] => simp [finalI, GoSem.len]
  | [x] => by_cases h : x.tag = 0 <;> simp [finalI, GoSem.len, GoSem.index, h]
  | x :: y :: r =>
    have h1 : (0 : Int) < (r.length : Int) + 1 + 1 := by omega
    have h2 : ¬ ((r.length : Int) + 1 + 1 = 1) := by omega
    simp [finalI, GoSem.len, h1, h2]

theorem last_stage {β : Type} (n : Int) (l : List GoIO.OpCodeI) (hl : l ≠ []) (K : List GoIO.OpCodeI → β) :
    (l.getLast?.bind fun x =>
      if (x.tag == 0) = true then
        l.getLast?.bind fun y =>
          (GoSem.setIndex l (GoSem.len l - 1)
            { tag := y.tag, i1 := y.i1, i2 := DifflibGen.min y.i2 (y.i1 + n), j1 := y.j1, j2 := DifflibGen.min y.j2 (y.j1 + n) }).bind
            fun l' => some (K l')
      else some (K l)) = some (K (fixLastI n l)) := by
  unfold fixLastI
  cases hx : l.getLast? with
  | none => exact absurd (List.getLast?_eq_none_iff.mp hx) hl
  | some x =>
    by_cases h : x.tag = 0
    · simp [h, setIndex_last l _ hl, genMin_eq, trimTailI]
    · simp [h]

theorem head_stage {β : Type} (n : Int) (c : GoIO.OpCodeI) (cs : List GoIO.OpCodeI) (K : List GoIO.OpCodeI → Option β) :
    ((GoSem.index (c :: cs) 0).bind fun x =>
      if (x.tag == 0) = true then
        (GoSem.index (c :: cs) 0).bind fun y =>
          (GoSem.setIndex (c :: cs) 0
            { tag := y.tag, i1 := DifflibGen.max y.i1 (y.i2 - n), i2 := y.i2, j1 := DifflibGen.max y.j1 (y.j2 - n),
              j2 := y.j2 }).bind K
      else K (c :: cs)) = K (fixFirstI n (c :: cs)) := by
  have e0 : GoSem.index (c :: cs) 0 = some c := by simp [GoSem.index]
  simp only [e0, GoSem.setIndex, Option.bind_some, fixFirstI, genMax_eq, trimHeadI]
  by_cases h : c.tag = 0 <;> simp [h]

theorem fixFirstI_ne_nil (n : Int) (c : GoIO.OpCodeI) (cs : List GoIO.OpCodeI) : fixFirstI n (c :: cs) ≠ [] := by
  rw [fixFirstI]; split <;> exact List.cons_ne_nil _ _

/-- for every fuel, matcher, opcode list and n ≥ 0: if the
    generated `getOpCodes` returns `codes`, the generated `GetGroupedOpCodes` returns `groupI n codes`
    (no panic: the index expressions are guarded by the replacement of an empty list) -/
theorem GetGroupedOpCodes_closed (fuel : Nat) (m m' : Matcher) (codes : List GoIO.OpCodeI) (n : Int) (hn : 0 ≤ n)
    (h : sequenceMatcher_getOpCodes fuel m = some (m', codes)) :
    sequenceMatcher_GetGroupedOpCodes fuel m n = some (groupI n codes) := by
  unfold sequenceMatcher_GetGroupedOpCodes
  have hn' : ¬ (n < 0) := by omega
  simp only [h, hn', Option.bind_eq_bind, Option.bind_some, Option.pure_def, decide_false, Bool.false_eq_true, if_false,
    gStep_body, final_body, forIn_opt_foldl _ _ (gStep n) (fun _ _ => rfl), GoSem.index_len_sub_one]
  -- the two stages `codes[0] = …`, `codes[len-1] = …` run on `codes`, or on the one-element list put in for an empty one
  cases codes with
  | nil =>
    have hlen : (GoSem.len ([] : List GoIO.OpCodeI) == 0) = true := rfl
    rw [if_pos hlen, head_stage, last_stage n _ (fixFirstI_ne_nil n _ _) fun l => finalI (List.foldl (gStep n) ([], []) l)]
    rfl
  | cons c cs =>
    have hlen : ¬ (GoSem.len (c :: cs) == 0) = true := by simp [GoSem.len]; omega
    rw [if_neg hlen, head_stage, last_stage n _ (fixFirstI_ne_nil n _ _) fun l => finalI (List.foldl (gStep n) ([], []) l)]
    rfl

/-- `if n < 0 { n = 3 }` -/
theorem GetGroupedOpCodes_neg (fuel : Nat) (m : Matcher) (n : Int) (hn : n < 0) :
    sequenceMatcher_GetGroupedOpCodes fuel m n = sequenceMatcher_GetGroupedOpCodes fuel m 3 := by
  unfold sequenceMatcher_GetGroupedOpCodes
  simp only [hn, decide_true, if_true]
  rfl

/-- relative to `getOpCodes`: where that returns the hand port's opcodes, the groups are the hand port's (n ≥ 0, as a `Nat`) -/
theorem GetGroupedOpCodes_agrees (fuel : Nat) (m m' : Matcher) (a b : List (List UInt8)) (n : Nat)
    (h : sequenceMatcher_getOpCodes fuel m = some (m', (Difflib.getOpCodes a b).map opI)) :
    sequenceMatcher_GetGroupedOpCodes fuel m (n : Int) = some ((Difflib.getGroupedOpCodes a b n).map (·.map opI)) := by
  rw [GetGroupedOpCodes_closed fuel m m' _ (n : Int) (by omega) h, groupI_opI]
  rfl

/-! ### chainB: the `b2j` map -/

section maps
variable {κ ν : Type} [DecidableEq κ]

theorem mapGet_mapSet (m : List (κ × ν)) (k x : κ) (v z : ν) :
    GoDiff.mapGet (GoDiff.mapSet m k v) x z = if k = x then v else GoDiff.mapGet m x z := by
  induction m with
  | nil => simp [GoDiff.mapSet, GoDiff.mapGet]
  | cons p r ih =>
    obtain ⟨k', v'⟩ := p
    by_cases h : k' = k
    · subst h; by_cases hx : k' = x <;> simp [GoDiff.mapSet, GoDiff.mapGet, hx]
    · by_cases hx : k' = x
      · subst hx; simp [GoDiff.mapSet, GoDiff.mapGet, h]; intro e; exact absurd e.symm h
      · simp [GoDiff.mapSet, GoDiff.mapGet, h, hx, ih]

theorem keys_mapSet (m : List (κ × ν)) (k : κ) (v : ν) :
    (GoDiff.mapSet m k v).map Prod.fst = if k ∈ m.map Prod.fst then m.map Prod.fst else m.map Prod.fst ++ [k] := by
  induction m with
  | nil => simp [GoDiff.mapSet]
  | cons p r ih =>
    obtain ⟨k', v'⟩ := p
    by_cases h : k' = k
    · subst h; simp [GoDiff.mapSet]
    · have h' : ¬ k = k' := fun e => h e.symm
      simp only [GoDiff.mapSet, h, if_false, List.map_cons, ih, List.mem_cons, h', false_or]
      split <;> simp

theorem nodup_mapSet (m : List (κ × ν)) (k : κ) (v : ν) (h : (m.map Prod.fst).Nodup) :
    ((GoDiff.mapSet m k v).map Prod.fst).Nodup := by
  rw [keys_mapSet]
  split
  · exact h
  · rename_i hk
    rw [List.nodup_append]
    refine ⟨h, by simp, ?_⟩
    intro a ha b hb
    simp at hb; subst hb
    intro e; subst e; exact hk ha

theorem mapGet_of_mem (m : List (κ × ν)) (h : (m.map Prod.fst).Nodup) (x : κ) (v z : ν) (hm : (x, v) ∈ m) :
    GoDiff.mapGet m x z = v := by
  induction m with
  | nil => simp at hm
  | cons p r ih =>
    obtain ⟨k', v'⟩ := p
    simp only [List.map_cons, List.nodup_cons] at h
    simp only [List.mem_cons, Prod.mk.injEq] at hm
    rcases hm with ⟨e1, e2⟩ | hm
    · subst e1 e2; simp [GoDiff.mapGet]
    · have : k' ≠ x := by
        intro e; subst e; exact h.1 (List.mem_map.mpr ⟨(k', v), hm, rfl⟩)
      simp [GoDiff.mapGet, this, ih h.2 hm]

theorem mapGet_of_not_key (m : List (κ × ν)) (x : κ) (z : ν) (h : x ∉ m.map Prod.fst) :
    GoDiff.mapGet m x z = z := by
  induction m with
  | nil => rfl
  | cons p r ih =>
    obtain ⟨k', v'⟩ := p
    simp only [List.map_cons, List.mem_cons, not_or] at h
    have : k' ≠ x := fun e => h.1 e.symm
    simp [GoDiff.mapGet, this, ih h.2]

theorem mapGet_mapDel (m : List (κ × ν)) (k x : κ) (z : ν) :
    GoDiff.mapGet (GoDiff.mapDel m k) x z = if x = k then z else GoDiff.mapGet m x z := by
  induction m with
  | nil => simp [GoDiff.mapDel, GoDiff.mapGet]
  | cons p r ih =>
    obtain ⟨k', v'⟩ := p
    unfold GoDiff.mapDel at ih ⊢
    by_cases h : k' = k
    · subst h
      simp only [List.filter_cons, decide_true, Bool.not_true, Bool.false_eq_true, if_false, ih]
      by_cases hx : x = k' <;> simp [GoDiff.mapGet, hx]
      intro e; exact absurd e.symm hx
    · simp only [List.filter_cons, h, decide_false, Bool.not_false, if_true, GoDiff.mapGet]
      by_cases hx : k' = x
      · subst hx; simp [h]
      · simp [hx, ih]

theorem mapGet_foldl_mapDel (ks : List κ) (m : List (κ × ν)) (x : κ) (z : ν) :
    GoDiff.mapGet (ks.foldl GoDiff.mapDel m) x z = if x ∈ ks then z else GoDiff.mapGet m x z := by
  induction ks generalizing m with
  | nil => simp
  | cons k r ih =>
    rw [List.foldl_cons, ih, mapGet_mapDel]
    by_cases h1 : x ∈ r <;> by_cases h2 : x = k <;> simp [h1, h2]

theorem mem_setAdd (s : List κ) (k x : κ) : x ∈ GoDiff.setAdd s k ↔ x ∈ s ∨ x = k := by
  unfold GoDiff.setAdd
  split
  · rename_i h; constructor
    · exact Or.inl
    · rintro (h' | h'); exact h'; subst h'; exact h
  · simp

end maps

/-- one iteration of the first loop of `chainB`: `b2j[elt] = append(b2j[elt], i)` -/
def buildStep (B : List (List UInt8 × List Int)) (p : Int × List UInt8) : List (List UInt8 × List Int) :=
  GoDiff.mapSet B p.2 (GoDiff.mapGet B p.2 [] ++ [p.1])

/-- one iteration of the loop collecting the popular elements -/
def popStep (nt : Int) (P : List (List UInt8)) (p : List UInt8 × List Int) : List (List UInt8) :=
  if GoSem.len p.2 > nt then GoDiff.setAdd P p.1 else P

theorem forIn_id_yield {α β : Type} (l : List α) (f : β → α → β) (init : β) :
    (forIn (m := Id) l init (fun x s => (ForInStep.yield (f s x) : Id (ForInStep β)))) = l.foldl f init :=
  GoSem.forIn_yield_foldl (m := Id) l _ f (fun _ _ => rfl) init

theorem build_get (l : List (List UInt8)) (k : Nat) (init : List (List UInt8 × List Int)) (x : List UInt8) :
    GoDiff.mapGet ((GoSem.enumFrom (k : Int) l).foldl buildStep init) x [] =
      GoDiff.mapGet init x [] ++ (Difflib.indicesFrom x l k).map (fun (i : Nat) => (i : Int)) := by
  induction l generalizing k init with
  | nil => simp [GoSem.enumFrom, Difflib.indicesFrom]
  | cons y ys ih =>
    have e : ((k : Int) + 1) = ((k + 1 : Nat) : Int) := by omega
    rw [GoSem.enumFrom, List.foldl_cons, e, ih, Difflib.indicesFrom]
    simp only [buildStep, mapGet_mapSet]
    by_cases h : y = x <;> simp [h]

theorem build_nodup (l : List (List UInt8)) (k : Int) (init : List (List UInt8 × List Int))
    (h : (init.map Prod.fst).Nodup) : (((GoSem.enumFrom k l).foldl buildStep init).map Prod.fst).Nodup := by
  induction l generalizing k init with
  | nil => simpa [GoSem.enumFrom] using h
  | cons y ys ih => rw [GoSem.enumFrom, List.foldl_cons]; exact ih _ _ (nodup_mapSet _ _ _ h)

theorem mem_popStep (nt : Int) (P : List (List UInt8)) (p : List UInt8 × List Int) (x : List UInt8) :
    x ∈ popStep nt P p ↔ x ∈ P ∨ (x = p.1 ∧ GoSem.len p.2 > nt) := by
  unfold popStep
  by_cases h : GoSem.len p.2 > nt
  · rw [if_pos h, mem_setAdd]; simp [h]
  · rw [if_neg h]; simp [h]

theorem mem_popular (nt : Int) (B : List (List UInt8 × List Int)) (P : List (List UInt8)) (x : List UInt8) :
    x ∈ B.foldl (popStep nt) P ↔ x ∈ P ∨ ∃ idx, (x, idx) ∈ B ∧ GoSem.len idx > nt := by
  induction B generalizing P with
  | nil => simp
  | cons p r ih =>
    -- the head entry by `mem_popStep`, the others by induction
    rw [List.foldl_cons, ih, mem_popStep, or_assoc]
    refine or_congr_right ⟨?_, ?_⟩
    · rintro (⟨rfl, h⟩ | ⟨i, hi, h⟩)
      · exact ⟨p.2, List.mem_cons_self, h⟩
      · exact ⟨i, List.mem_cons_of_mem _ hi, h⟩
    · rintro ⟨i, hi, h⟩
      rcases List.mem_cons.mp hi with rfl | hi
      · exact Or.inl ⟨rfl, h⟩
      · exact Or.inr ⟨i, hi, h⟩

/-- with distinct keys and a non-negative threshold: some entry of key x is longer than nt iff `B[x]` is -/
theorem popular_iff (nt : Int) (hnt : 0 ≤ nt) (B : List (List UInt8 × List Int)) (hB : (B.map Prod.fst).Nodup) (x : List UInt8) :
    (∃ idx, (x, idx) ∈ B ∧ GoSem.len idx > nt) ↔ GoSem.len (GoDiff.mapGet B x []) > nt := by
  constructor
  · rintro ⟨idx, h1, h2⟩; rw [mapGet_of_mem B hB x idx [] h1]; exact h2
  · intro h
    by_cases hk : x ∈ B.map Prod.fst
    · obtain ⟨⟨k, idx⟩, hm, e⟩ := List.mem_map.mp hk
      simp only at e; subst e
      refine ⟨idx, hm, ?_⟩
      rw [mapGet_of_mem B hB k idx [] hm] at h; exact h
    · rw [mapGet_of_not_key B x [] hk] at h
      simp [GoSem.len] at h; omega

/-- the `b2j` field `chainB` computes from `b` -/
def chainB_b2j (b : List (List UInt8)) : List (List UInt8 × List Int) :=
  let B := (GoSem.enum b).foldl buildStep []
  if GoSem.len b ≥ 200 then (B.foldl (popStep ((GoSem.len b).tdiv 100 + 1)) []).foldl GoDiff.mapDel B else B

theorem chainB_fields (m : Matcher) :
    (sequenceMatcher_chainB m).b2j = chainB_b2j m.b ∧ (sequenceMatcher_chainB m).a = m.a ∧
      (sequenceMatcher_chainB m).b = m.b ∧ (sequenceMatcher_chainB m).bJunk = [] ∧
      (sequenceMatcher_chainB m).matchingBlocks = m.matchingBlocks ∧ (sequenceMatcher_chainB m).opCodes = m.opCodes := by
  unfold sequenceMatcher_chainB chainB_b2j
  simp only [Id.run, bind, pure, Bool.true_and]
  have e1 : ∀ (B : List (List UInt8 × List Int)),
      (forIn (m := Id) (GoSem.enum m.b) B fun x __s =>
        (ForInStep.yield (GoDiff.mapSet __s x.snd (GoDiff.mapGet __s x.snd [] ++ [x.fst])) : Id _)) =
      (GoSem.enum m.b).foldl buildStep B := fun B => forIn_id_yield _ buildStep B
  have e2 : ∀ (nt : Int) (B : List (List UInt8 × List Int)) (P : List (List UInt8)),
      (forIn (m := Id) B P fun x __s =>
        if decide (GoSem.len x.snd > nt) = true then (ForInStep.yield (GoDiff.setAdd __s x.fst) : Id _)
        else ForInStep.yield __s) = B.foldl (popStep nt) P := by
    intro nt B P
    rw [← forIn_id_yield B (popStep nt) P]
    congr 1; funext x s; unfold popStep
    by_cases h : GoSem.len x.snd > nt <;> simp [h]
  have e3 : ∀ (P : List (List UInt8)) (B : List (List UInt8 × List Int)),
      (forIn (m := Id) P B fun s __s => (ForInStep.yield (GoDiff.mapDel __s s) : Id _)) = P.foldl GoDiff.mapDel B :=
    fun P B => forIn_id_yield P GoDiff.mapDel B
  by_cases h : GoSem.len m.b ≥ 200
  · simp only [h, decide_true, if_true, e1, e2, e3, and_self]
  · simp only [h, decide_false, Bool.false_eq_true, if_false, e1, and_self]

/-- **chainB's b2j agrees with the hand port for every element** (including the popularity purge) -/
theorem chainB_b2j_agrees (b : List (List UInt8)) (x : List UInt8) :
    GoDiff.mapGet (chainB_b2j b) x [] = (Difflib.b2j b x).map (fun (i : Nat) => (i : Int)) := by
  unfold chainB_b2j Difflib.b2j
  have hget : ∀ y, GoDiff.mapGet ((GoSem.enum b).foldl buildStep []) y [] =
      (Difflib.indicesFrom y b 0).map (fun (i : Nat) => (i : Int)) := by
    intro y
    have := build_get b 0 [] y
    simpa [GoSem.enum, GoDiff.mapGet] using this
  have hnd := build_nodup b 0 [] (by simp)
  rw [show (GoSem.enumFrom 0 b) = GoSem.enum b from rfl] at hnd
  simp only []
  by_cases h200 : GoSem.len b ≥ 200
  · have h200' : 200 ≤ b.length := by simp [GoSem.len] at h200; omega
    have hnt : (GoSem.len b).tdiv 100 + 1 = ((b.length / 100 + 1 : Nat) : Int) := by
      simp [GoSem.len]
    have hmem : x ∈ ((GoSem.enum b).foldl buildStep []).foldl (popStep ((GoSem.len b).tdiv 100 + 1)) [] ↔
        ((Difflib.indicesFrom x b 0).length : Int) > ((b.length / 100 + 1 : Nat) : Int) := by
      rw [mem_popular, popular_iff _ (by rw [hnt]; omega) _ hnd, hget, hnt]
      simp [GoSem.len]
    simp only [h200, if_true, mapGet_foldl_mapDel, h200', true_and]
    by_cases hp : b.length / 100 + 1 < (Difflib.indicesFrom x b 0).length
    · rw [if_pos (hmem.mpr (by omega)), if_pos hp]; rfl
    · rw [if_neg (fun hh => hp (by have := hmem.mp hh; omega)), if_neg hp, hget]
  · have h200' : ¬ 200 ≤ b.length := by simp [GoSem.len] at h200; omega
    simp only [h200, if_false, hget, h200', false_and]

theorem NewMatcher_fields (a b : List (List UInt8)) :
    (NewMatcher a b).b2j = chainB_b2j b ∧ (NewMatcher a b).a = a ∧ (NewMatcher a b).b = b ∧
      (NewMatcher a b).bJunk = [] ∧ (NewMatcher a b).matchingBlocks = none ∧ (NewMatcher a b).opCodes = none := by
  unfold NewMatcher sequenceMatcher_setSeqs sequenceMatcher_setSeq2 sequenceMatcher_setSeq1
  simp only [Id.run, pure]
  obtain ⟨h1, h2, h3, h4, h5, h6⟩ := chainB_fields
    { a := a, b := b, matchingBlocks := none, opCodes := none, fullBCount := [] }
  exact ⟨h1, h2, h3, h4, h5, h6⟩

/-- **after `NewMatcher(a, b)` the generated `b2j` map agrees with the hand port's `b2j` for every element** -/
theorem NewMatcher_b2j_agrees (a b : List (List UInt8)) (x : List UInt8) :
    GoDiff.mapGet (NewMatcher a b).b2j x [] = (Difflib.b2j b x).map (fun (i : Nat) => (i : Int)) := by
  rw [(NewMatcher_fields a b).1, chainB_b2j_agrees]

/-! ### findLongestMatch: the main loop -/

/-- a loop whose body cannot panic, with `break` (`done`) and `continue` (`yield`) -/
def runSteps {α σ : Type} (g : σ → α → ForInStep σ) : List α → σ → σ
  | [], s => s
  | x :: xs, s => match g s x with
    | .done s' => s'
    | .yield s' => runSteps g xs s'

theorem forIn_opt_steps {α σ : Type} (l : List α) (F : α → σ → Option (ForInStep σ)) (g : σ → α → ForInStep σ)
    (hF : ∀ x s, F x s = some (g s x)) (s : σ) : forIn (m := Option) l s F = some (runSteps g l s) := by
  induction l generalizing s with
  | nil => rfl
  | cons x xs ih =>
    rw [List.forIn_cons, hF]
    simp only [Option.bind_eq_bind, Option.bind_some, runSteps]
    cases g s x with
    | done s' => rfl
    | yield s' => exact ih s'

/-- the generated `map[int]int` against the hand port's association list with default 0 -/
def R (mI : List (Int × Int)) (m : List (Nat × Nat)) : Prop :=
  ∀ x : Int, GoDiff.mapGet mI x 0 = if x < 0 then 0 else ((Difflib.look m x.toNat : Nat) : Int)

theorem R_nil : R [] [] := by intro x; simp [GoDiff.mapGet, Difflib.look]

theorem R_set {mI : List (Int × Int)} {m : List (Nat × Nat)} (h : R mI m) (j k : Nat) :
    R (GoDiff.mapSet mI (j : Int) (k : Int)) ((j, k) :: m) := by
  intro x
  rw [mapGet_mapSet, h x]
  by_cases hx : x < 0
  · have : ¬ ((j : Int) = x) := by omega
    simp [hx, this]
  · by_cases hj : (j : Int) = x
    · subst hj
      have h0 : ¬ ((j : Int) < 0) := by omega
      simp [Difflib.look, h0]
    · have : ¬ j = x.toNat := by omega
      simp [hx, hj, Difflib.look, this]

abbrev FSt := Int × Int × Int × List (Int × Int)

def stI (best : Difflib.Match) (nwI : List (Int × Int)) : FSt := ((best.i : Int), (best.j : Int), (best.k : Int), nwI)

/-- the body of the inner loop of `findLongestMatch` -/
def innerStepI (blo bhi i : Int) (jl : List (Int × Int)) (s : FSt) (j : Int) : ForInStep FSt :=
  if j < blo then .yield s
  else if j ≥ bhi then .done s
  else if GoDiff.mapGet jl (j - 1) 0 + 1 > s.2.2.1 then
    .yield (i - (GoDiff.mapGet jl (j - 1) 0 + 1) + 1, j - (GoDiff.mapGet jl (j - 1) 0 + 1) + 1,
      GoDiff.mapGet jl (j - 1) 0 + 1, GoDiff.mapSet s.2.2.2 j (GoDiff.mapGet jl (j - 1) 0 + 1))
  else .yield (s.1, s.2.1, s.2.2.1, GoDiff.mapSet s.2.2.2 j (GoDiff.mapGet jl (j - 1) 0 + 1))

/-- `j2len[j-1] + 1` (key `-1` when `j = 0`: absent) -/
theorem R_pred {jl : List (Int × Int)} {m : List (Nat × Nat)} (hR : R jl m) (j : Nat) :
    GoDiff.mapGet jl ((j : Int) - 1) 0 + 1 = ((Difflib.nextLen m j : Nat) : Int) := by
  rw [hR, Difflib.nextLen]
  by_cases hj : j = 0
  · subst hj; rfl
  · have h0 : ¬ ((j : Int) - 1 < 0) := by omega
    have e : ((j : Int) - 1).toNat = j - 1 := by omega
    rw [if_neg h0, if_neg hj, e]; rfl

theorem stI_new {i j k : Nat} (hi : k ≤ i + 1) (hj : k ≤ j + 1) (M : List (Int × Int)) :
    (((i : Int) - k + 1, (j : Int) - k + 1, (k : Int), M) : FSt) = stI ⟨i + 1 - k, j + 1 - k, k⟩ M := by
  have e1 : (i : Int) - k + 1 = ((i + 1 - k : Nat) : Int) := by omega
  have e2 : (j : Int) - k + 1 = ((j + 1 - k : Nat) : Int) := by omega
  rw [e1, e2]; rfl

/-- **the inner loop agrees with the hand port's `inner`** (the bounds on `j2len` hold by `Difflib.look_ok`) -/
theorem inner_sim (blo bhi i : Nat) (j2len : List (Nat × Nat)) (jl : List (Int × Int)) (hR : R jl j2len)
    (hb : ∀ j', Difflib.look j2len j' ≤ i ∧ Difflib.look j2len j' ≤ j' + 1)
    (js : List Nat) (nw : List (Nat × Nat)) (nwI : List (Int × Int)) (hnw : R nwI nw) (best : Difflib.Match) :
    ∃ nwI', runSteps (innerStepI blo bhi i jl) (js.map (fun (j : Nat) => (j : Int))) (stI best nwI) =
        stI (Difflib.inner blo bhi i j2len js nw best).2 nwI' ∧ R nwI' (Difflib.inner blo bhi i j2len js nw best).1 := by
  induction js generalizing nw nwI best with
  | nil => exact ⟨nwI, rfl, hnw⟩
  | cons j js ih =>
    rw [List.map_cons, runSteps, innerStepI]
    by_cases h1 : j < blo
    · rw [Difflib.inner_cons, if_pos h1, if_pos (Int.ofNat_lt.mpr h1)]
      exact ih nw nwI hnw best
    rw [if_neg (mt Int.ofNat_lt.mp h1)]
    by_cases h2 : bhi ≤ j
    · rw [Difflib.inner_cons, if_neg h1, if_pos h2, if_pos (Int.ofNat_le.mpr h2)]
      exact ⟨nwI, rfl, hnw⟩
    rw [Difflib.inner_cons, if_neg h1, if_neg h2, if_neg (mt Int.ofNat_le.mp h2), R_pred hR]
    have hkb : Difflib.nextLen j2len j ≤ i + 1 ∧ Difflib.nextLen j2len j ≤ j + 1 := by
      unfold Difflib.nextLen
      by_cases hj : j = 0
      · rw [if_pos hj]; omega
      · have := hb (j - 1); rw [if_neg hj]; omega
    generalize Difflib.nextLen j2len j = k at hkb ⊢
    by_cases h3 : best.k < k
    · rw [if_pos h3, if_pos (show (k : Int) > (stI best nwI).2.2.1 from Int.ofNat_lt.mpr h3), stI_new hkb.1 hkb.2]
      exact ih _ _ (R_set hnw j k) _
    · rw [if_neg h3, if_neg (show ¬ (k : Int) > (stI best nwI).2.2.1 from mt Int.ofNat_lt.mp h3)]
      exact ih _ _ (R_set hnw j k) _

theorem look_bounds {a b : List (List UInt8)} {alo blo bhi i : Nat} {j2len : List (Nat × Nat)} (hi : alo ≤ i)
    (hprev : i = alo → j2len = []) (hm : 1 ≤ i → Difflib.MapOK a b alo blo bhi (i - 1) j2len) (j' : Nat) :
    Difflib.look j2len j' ≤ i ∧ Difflib.look j2len j' ≤ j' + 1 := by
  by_cases h0 : 1 ≤ i
  · rcases Difflib.look_ok (hm h0) j' with h | h
    · omega
    · obtain ⟨h1, _, h3, _⟩ := h; omega
  · have : j2len = [] := hprev (by omega)
    subst this; simp [Difflib.look]

/-- **the outer loop agrees with the hand port's `outer`**, for an arbitrary body `F` that, where `a[i]`
    exists, runs the inner loop over `b2j[a[i]]` from an empty `newj2len` and stores it in `j2len` -/
theorem outer_sim (a b : List (List UInt8)) (alo ahi blo bhi : Nat) (hahi : ahi ≤ a.length)
    (F : Int → FSt → Option (ForInStep FSt))
    (hF : ∀ (i : Nat) (x : List UInt8) (s : FSt), a[i]? = some x →
      F (i : Int) s = some (ForInStep.yield (runSteps (innerStepI blo bhi i s.2.2.2)
        ((Difflib.b2j b x).map (fun (j : Nat) => (j : Int))) (s.1, s.2.1, s.2.2.1, [])))) :
    ∀ (n i : Nat) (j2len : List (Nat × Nat)) (best : Difflib.Match) (jl : List (Int × Int)),
      i + n = ahi → alo ≤ i → (i = alo → j2len = []) →
      (1 ≤ i → Difflib.MapOK a b alo blo bhi (i - 1) j2len) →
      Difflib.BestOK a b alo ahi blo bhi best → R jl j2len →
      ∃ jl', forIn (m := Option) (GoSem.intRangeAux (i : Int) n) (stI best jl) F =
        some (stI (Difflib.outer a b blo bhi n i j2len best) jl') := by
  intro n
  induction n with
  | zero => intro i j2len best jl _ _ _ _ _ _; exact ⟨jl, rfl⟩
  | succ n ih =>
    intro i j2len best jl hin hi hprev hm hb hR
    have hlt : i < a.length := by omega
    obtain ⟨x, hx⟩ : ∃ x, a[i]? = some x := ⟨a[i], by simp [hlt]⟩
    rw [GoSem.intRangeAux, List.forIn_cons, hF i x _ hx]
    simp only [Option.bind_eq_bind, Option.bind_some, Difflib.outer, hx]
    obtain ⟨nwI', e, hR'⟩ := inner_sim blo bhi i j2len jl hR (look_bounds hi hprev hm) (Difflib.b2j b x) [] [] R_nil best
    have e' : runSteps (innerStepI blo bhi i (stI best jl).2.2.2) ((Difflib.b2j b x).map (fun (j : Nat) => (j : Int)))
        ((stI best jl).1, (stI best jl).2.1, (stI best jl).2.2.1, []) =
        stI (Difflib.inner blo bhi i j2len (Difflib.b2j b x) [] best).2 nwI' := e
    rw [e']
    have h := Difflib.inner_ok (ahi := ahi) hi (by omega) hx j2len hprev hm (Difflib.b2j b x)
      (fun j hj => Difflib.b2j_mem hj) [] (by intro p hp; simp at hp) best hb
    have ec : ((i : Int) + 1) = ((i + 1 : Nat) : Int) := by omega
    rw [ec]
    exact ih (i + 1) _ _ nwI' (by omega) (by omega) (by omega) (fun _ => by simpa using h.1) h.2 hR'

/-! ### findLongestMatch: the extension loops and the assembly -/

abbrev BSt := Int × Int × Int × Bool

theorem forIn_fuel_succ {σ : Type} (n : Nat) (s : σ) (F : Unit → σ → Option (ForInStep σ)) :
    forIn (m := Option) (GoDiff.fuelList (n + 1)) s F =
      (F () s).bind fun r => match r with
        | .done s' => some s'
        | .yield s' => forIn (m := Option) (GoDiff.fuelList n) s' F := by
  rw [GoDiff.fuelList, List.replicate_succ, List.forIn_cons]; rfl

/-- **the first extension loop agrees with the hand port's `extBack`** and leaves through its condition
    (flag `true`) within `besti - alo + 1` iterations, for an arbitrary body that behaves like the Go one
    on states inside the sequences -/
theorem back_sim (a b : List (List UInt8)) (alo blo : Nat) (F : Unit → BSt → Option (ForInStep BSt))
    (hF : ∀ (i j k : Nat), i ≤ a.length → j ≤ b.length → F () ((i : Int), (j : Int), (k : Int), false) =
      some (if alo < i ∧ blo < j ∧ Difflib.eqAt a b (i - 1) (j - 1) = true
        then ForInStep.yield (((i - 1 : Nat) : Int), ((j - 1 : Nat) : Int), ((k + 1 : Nat) : Int), false)
        else ForInStep.done ((i : Int), (j : Int), (k : Int), true))) :
    ∀ (fuel i j k : Nat), i ≤ a.length → j ≤ b.length → i - alo < fuel →
      forIn (m := Option) (GoDiff.fuelList fuel) ((i : Int), (j : Int), (k : Int), false) F =
        some (((Difflib.extBack a b alo blo i j k).i : Int), ((Difflib.extBack a b alo blo i j k).j : Int),
          ((Difflib.extBack a b alo blo i j k).k : Int), true) := by
  intro fuel
  induction fuel with
  | zero => intro i j k _ _ h; exact absurd h (Nat.not_lt_zero _)
  | succ fuel ih =>
    intro i j k hi hj hf
    rw [forIn_fuel_succ, hF i j k hi hj, Option.bind_some]
    cases i with
    | zero => rw [if_neg (fun h => Nat.not_lt_zero _ h.1)]; rfl
    | succ i =>
      rw [Difflib.extBack, Nat.add_sub_cancel]
      by_cases hc : alo < i + 1 ∧ blo < j ∧ Difflib.eqAt a b i (j - 1) = true
      · rw [if_pos hc, if_pos hc]
        exact ih i (j - 1) (k + 1) (Nat.le_of_succ_le hi) (Nat.le_trans (Nat.sub_le _ _) hj) (by omega)
      · rw [if_neg hc, if_neg hc]

/-- **the second extension loop agrees with the hand port's `extFwd`** -/
theorem fwd_sim (a b : List (List UInt8)) (ahi bhi i j : Nat) (F : Unit → Int × Bool → Option (ForInStep (Int × Bool)))
    (hF : ∀ (k : Nat), F () ((k : Int), false) =
      some (if i + k < ahi ∧ j + k < bhi ∧ Difflib.eqAt a b (i + k) (j + k) = true
        then ForInStep.yield (((k + 1 : Nat) : Int), false) else ForInStep.done ((k : Int), true))) :
    ∀ (fuel k : Nat), ahi - (i + k) < fuel →
      forIn (m := Option) (GoDiff.fuelList fuel) ((k : Int), false) F =
        some (((Difflib.extFwd a b ahi bhi i j k : Nat) : Int), true) := by
  intro fuel
  induction fuel with
  | zero => intro k h; exact absurd h (Nat.not_lt_zero _)
  | succ fuel ih =>
    intro k hf
    rw [forIn_fuel_succ, hF k, Option.bind_some, Difflib.extFwd]
    by_cases hc : i + k < ahi ∧ j + k < bhi ∧ Difflib.eqAt a b (i + k) (j + k) = true
    · rw [if_pos hc, if_pos hc]
      exact ih (k + 1) (by omega)
    · rw [if_neg hc, if_neg hc]

theorem forIn_fuel_done {σ : Type} (n : Nat) (s s' : σ) (F : Unit → σ → Option (ForInStep σ))
    (h : F () s = some (ForInStep.done s')) : forIn (m := Option) (GoDiff.fuelList (n + 1)) s F = some s' := by
  rw [forIn_fuel_succ, h]; rfl

theorem bind_of_exists {ι σ τ : Type} {x : Option σ} {K : σ → Option τ} {r : Option τ} (X : ι → σ)
    (h : ∃ j, x = some (X j)) (hk : ∀ j, K (X j) = r) : x.bind K = r := by
  obtain ⟨j, e⟩ := h; rw [e]; exact hk j

theorem bind_of_eq {σ τ : Type} {x : Option σ} {K : σ → Option τ} {r : Option τ} (v : σ)
    (h : x = some v) (hk : K v = r) : x.bind K = r := by rw [h]; exact hk

/-- the condition of the four extension loops of `findLongestMatch` after the bounds test `c`
    (`junk` is what the test of `isBJunk` contributes): where `c` passes, both indices are in range -/
theorem extGuard_eq (a b : List (List UInt8)) (c junk : Bool) (pa pb : Int) (ia ib : Nat)
    (hc : c = true → pa = ia ∧ pb = ib ∧ ia < a.length ∧ ib < b.length) :
    ((if c = true then (GoSem.index b pb).bind fun _ => some junk else some false).bind fun g =>
        if g = true then (GoSem.index a pa).bind fun x => (GoSem.index b pb).bind fun y => some (x == y)
        else some false) = some (c && junk && Difflib.eqAt a b ia ib) := by
  cases c with
  | false => rfl
  | true =>
    obtain ⟨rfl, rfl, h1, h2⟩ := hc rfl
    simp only [GoSem.index_ofNat, List.getElem?_eq_getElem h1, List.getElem?_eq_getElem h2, Difflib.eqAt,
      if_true, Option.bind_some, Bool.true_and]
    cases junk
    · rfl
    · by_cases h : a[ia] = b[ib] <;> simp [h]

theorem guard_bool (P Q : Prop) [Decidable P] [Decidable Q] (junk e : Bool) :
    (decide P && decide Q && junk && e) = (junk && decide (P ∧ Q ∧ e = true)) := by
  cases junk <;> cases e <;> simp

theorem guard_back (a b : List (List UInt8)) (alo blo i j : Nat) (hi : i ≤ a.length) (hj : j ≤ b.length)
    (junk : Bool) :
    ((if (decide ((i : Int) > alo) && decide ((j : Int) > blo)) = true then
          (GoSem.index b ((j : Int) - 1)).bind fun _ => some junk else some false).bind fun g =>
        if g = true then
          (GoSem.index a ((i : Int) - 1)).bind fun x => (GoSem.index b ((j : Int) - 1)).bind fun y => some (x == y)
        else some false) =
      some (junk && decide (alo < i ∧ blo < j ∧ Difflib.eqAt a b (i - 1) (j - 1) = true)) := by
  rw [extGuard_eq a b _ junk _ _ (i - 1) (j - 1)]
  · simp only [gt_iff_lt, Int.ofNat_lt, guard_bool]
  · intro h
    simp only [Bool.and_eq_true, decide_eq_true_eq] at h
    omega

theorem guard_fwd (a b : List (List UInt8)) (ahi bhi i j k : Nat) (hi : ahi ≤ a.length) (hj : bhi ≤ b.length)
    (junk : Bool) :
    ((if (decide ((i : Int) + k < ahi) && decide ((j : Int) + k < bhi)) = true then
          (GoSem.index b ((j : Int) + k)).bind fun _ => some junk else some false).bind fun g =>
        if g = true then
          (GoSem.index a ((i : Int) + k)).bind fun x => (GoSem.index b ((j : Int) + k)).bind fun y => some (x == y)
        else some false) =
      some (junk && decide (i + k < ahi ∧ j + k < bhi ∧ Difflib.eqAt a b (i + k) (j + k) = true)) := by
  rw [extGuard_eq a b _ junk _ _ (i + k) (j + k)]
  · simp only [← Int.natCast_add, Int.ofNat_lt, guard_bool]
  · intro h
    simp only [Bool.and_eq_true, decide_eq_true_eq] at h
    omega

theorem intRange_natCast (x y : Nat) : GoSem.intRange (x : Int) (y : Int) = GoSem.intRangeAux (x : Int) (y - x) := by
  unfold GoSem.intRange; congr 1; omega

/-- the bound the translation gives a loop that counts `x` down to `y` suffices -/
theorem toNat_sub_lt (x y : Nat) (p : Int) (h : p = y) : x - y < ((x : Int) - p).toNat + 1 := by
  omega

theorem step_of_guard {σ : Type} (C : Prop) [Decidable C] (d y : σ) :
    ((some (true && decide C)).bind fun g =>
        if (!g) = true then some (ForInStep.done d) else some (ForInStep.yield y)) =
      some (if C then ForInStep.yield y else ForInStep.done d) := by
  by_cases c : C <;> simp [c]

/-- **findLongestMatch agrees with the hand port** under the call pre-condition, for every matcher whose
    sequences are `a`, `b`, whose `b2j` answers like `Difflib.b2j b` and whose junk set is empty (what
    `NewMatcher a b` builds: `NewMatcher_fields`, `NewMatcher_b2j_agrees`); no panic, no bound hit -/
theorem findLongestMatch_agrees (m : Matcher) (a b : List (List UInt8)) (hma : m.a = a) (hmb : m.b = b)
    (hb2j : ∀ x, GoDiff.mapGet m.b2j x [] = (Difflib.b2j b x).map (fun (i : Nat) => (i : Int))) (hj : m.bJunk = [])
    (alo ahi blo bhi : Nat) (h1 : alo ≤ ahi) (h2 : ahi ≤ a.length) (h3 : blo ≤ bhi) (h4 : bhi ≤ b.length) :
    sequenceMatcher_findLongestMatch m alo ahi blo bhi = some (mI (Difflib.findLongestMatch a b alo ahi blo bhi)) := by
  unfold sequenceMatcher_findLongestMatch
  have hgt : ¬ ((alo : Int) > ahi) := by omega
  have hr := intRange_natCast alo ahi
  have hnr : ∀ {τ : Type} (K : PUnit.{1} → Option τ), GoDiff.noReturn.bind K = none := fun _ => rfl
  simp only [hgt, hr, hnr, sequenceMatcher_isBJunk, hj, hma, hmb, GoDiff.setHas, Id.run, Option.bind_eq_bind,
    decide_false, Bool.false_eq_true, if_false, List.not_mem_nil, pure, Bool.not_false]
  have h0 : Difflib.BestOK a b alo ahi blo bhi ⟨alo, blo, 0⟩ :=
    ⟨Nat.le_refl _, by simpa using h1, Nat.le_refl _, by simpa using h3, fun t ht => absurd ht (Nat.not_lt_zero _)⟩
  have hA := Difflib.outer_bestOK (a := a) (b := b) h1 h2 h3
  refine bind_of_exists (fun jl' => stI (Difflib.outer a b blo bhi (ahi - alo) alo [] ⟨alo, blo, 0⟩) jl')
    (outer_sim a b alo ahi blo bhi h2 _ ?innerBody (ahi - alo) alo [] ⟨alo, blo, 0⟩ [] (by omega) (Nat.le_refl _) (fun _ => rfl)
      (by intro _ p hp; simp at hp) h0 R_nil) ?afterMain
  case innerBody =>
    intro i x s hx
    simp only [GoSem.index_ofNat, hx, Option.bind_some, hb2j]
    rw [forIn_opt_steps _ _ (innerStepI blo bhi i s.2.2.2)]
    · rfl
    · intro j st
      unfold innerStepI
      by_cases c1 : j < (blo : Int)
      · simp [c1]
      by_cases c2 : j ≥ (bhi : Int)
      · simp [c1, c2]
      by_cases c3 : GoDiff.mapGet s.2.2.2 (j - 1) 0 + 1 > st.2.2.1 <;> simp [c1, c2, c3]
  case afterMain =>
    intro jl'
    have hflm : Difflib.findLongestMatch a b alo ahi blo bhi =
        (let best0 := Difflib.outer a b blo bhi (ahi - alo) alo [] ⟨alo, blo, 0⟩
         let best1 := Difflib.extBack a b alo blo best0.i best0.j best0.k
         ⟨best1.i, best1.j, Difflib.extFwd a b ahi bhi best1.i best1.j best1.k⟩) := rfl
    rw [hflm]
    generalize Difflib.outer a b blo bhi (ahi - alo) alo [] ⟨alo, blo, 0⟩ = best0 at hA ⊢
    obtain ⟨bi, bj, bk⟩ := best0
    have hB := Difflib.extBack_ok bi bj bk hA
    simp only [stI]
    have hbi : bi ≤ a.length := Nat.le_trans (Nat.le_of_add_right_le hA.2.1) h2
    have hbj : bj ≤ b.length := Nat.le_trans (Nat.le_of_add_right_le hA.2.2.2.1) h4
    refine bind_of_eq _ (back_sim a b alo blo _ ?backBody _ bi bj bk hbi hbj (toNat_sub_lt bi alo _ rfl)) ?afterBack
    case backBody =>
      intro i j k hi hj
      dsimp only
      rw [guard_back a b alo blo i j hi hj true, step_of_guard]
      by_cases c : alo < i ∧ blo < j ∧ Difflib.eqAt a b (i - 1) (j - 1) = true
      · rw [if_pos c, if_pos c, Int.natCast_sub (Nat.lt_of_le_of_lt (Nat.zero_le _) c.1),
          Int.natCast_sub (Nat.lt_of_le_of_lt (Nat.zero_le _) c.2.1)]
        rfl
      · rw [if_neg c, if_neg c]
    case afterBack =>
      generalize Difflib.extBack a b alo blo bi bj bk = best1 at hB ⊢
      obtain ⟨ei, ej, ek⟩ := best1
      simp only [Bool.not_true, Bool.false_eq_true, if_false]
      have hei : ei + ek ≤ ahi := hB.2.1
      have hej : ej + ek ≤ bhi := hB.2.2.2.1
      refine bind_of_eq _ (fwd_sim a b ahi bhi ei ej _ ?fwdBody _ ek (toNat_sub_lt ahi (ei + ek) _ (Int.natCast_add _ _).symm)) ?afterFwd
      case fwdBody =>
        intro k
        dsimp only
        rw [guard_fwd a b ahi bhi ei ej k h2 h4 true, step_of_guard]
        rfl
      case afterFwd =>
        generalize Difflib.extFwd a b ahi bhi ei ej ek = fk
        simp only [Bool.not_true, Bool.false_eq_true, if_false]
        refine bind_of_eq ((ei : Int), (ej : Int), (fk : Int), true) (forIn_fuel_done _ _ _ _ ?junkBack) ?afterJunkBack
        case junkBack =>
          dsimp only
          rw [guard_back a b alo blo ei ej (Nat.le_trans (Nat.le_of_add_right_le hei) h2)
            (Nat.le_trans (Nat.le_of_add_right_le hej) h4) false]
          rfl
        case afterJunkBack =>
          simp only [Bool.not_true, Bool.false_eq_true, if_false]
          refine bind_of_eq ((fk : Int), true) (forIn_fuel_done _ _ _ _ ?junkFwd) ?result
          case junkFwd =>
            dsimp only
            rw [guard_fwd a b ahi bhi ei ej fk h2 h4 false]
            rfl
          case result =>
            simp [mI]

/-! ### getMatchingBlocks: the recursive closure and the collapse loop -/

/-- the matchers the theorems about `findLongestMatch` / `getMatchingBlocks` apply to: what `NewMatcher a b` builds -/
structure MatcherOf (m : Matcher) (a b : List (List UInt8)) : Prop where
  ha : m.a = a
  hb : m.b = b
  hb2j : ∀ x, GoDiff.mapGet m.b2j x [] = (Difflib.b2j b x).map (fun (i : Nat) => (i : Int))
  hjunk : m.bJunk = []

theorem fuel_split_lt {alo ahi mi mk f : Nat} (v1 : alo ≤ mi) (v2 : mi + mk ≤ ahi) (hk : 0 < mk)
    (hf : ahi - alo < f + 1) : mi - alo < f ∧ ahi - (mi + mk) < f := by
  omega

/-- the recursion equation of the closure `matchBlocks` where `findLongestMatch` returns `mm`, its tests
    stated on naturals -/
theorem matchBlocks_step (m : Matcher) (f alo ahi blo bhi : Nat) (acc : List DifflibGen.Match) (mm : Difflib.Match)
    (h : sequenceMatcher_findLongestMatch m alo ahi blo bhi = some (mI mm)) :
    sequenceMatcher_getMatchingBlocks_matchBlocks m (f + 1) alo ahi blo bhi acc =
      if 0 < mm.k then
        (if alo < mm.i ∧ blo < mm.j then sequenceMatcher_getMatchingBlocks_matchBlocks m f alo mm.i blo mm.j acc
          else some acc).bind fun acc1 =>
          if mm.i + mm.k < ahi ∧ mm.j + mm.k < bhi then
            sequenceMatcher_getMatchingBlocks_matchBlocks m f ((mm.i + mm.k : Nat) : Int) ahi
              ((mm.j + mm.k : Nat) : Int) bhi (acc1 ++ [mI mm])
          else some (acc1 ++ [mI mm])
      else some acc := by
  rw [sequenceMatcher_getMatchingBlocks_matchBlocks]
  simp only [h, Option.bind_eq_bind, Option.bind_some, Option.pure_def, mI, gt_iff_lt, ← Int.natCast_add,
    Int.ofNat_lt, Int.natCast_pos, Bool.and_eq_true, decide_eq_true_eq, Option.bind_fun_some]
  by_cases hk : 0 < mm.k
  · rw [if_pos hk, if_pos hk]
    by_cases c1 : alo < mm.i ∧ blo < mm.j
    · rw [if_pos c1, if_pos c1]
    · rw [if_neg c1, if_neg c1]; rfl
  · rw [if_neg hk, if_neg hk]

/-- **the recursive closure `matchBlocks` agrees with the hand port** (`Difflib.mbN`, the non-accumulating
    form of `matchBlocksF`: `Difflib.matchBlocksF_eq`) for every fuel greater than `ahi - alo` -/
theorem matchBlocks_sim (m : Matcher) (a b : List (List UInt8)) (hm : MatcherOf m a b) :
    ∀ (f alo ahi blo bhi : Nat) (acc : List Difflib.Match), alo ≤ ahi → ahi ≤ a.length → blo ≤ bhi → bhi ≤ b.length →
      ahi - alo < f →
      sequenceMatcher_getMatchingBlocks_matchBlocks m f alo ahi blo bhi (acc.map mI) =
        some ((acc ++ Difflib.mbN a b f alo ahi blo bhi).map mI) := by
  intro f
  induction f with
  | zero => intro alo ahi blo bhi acc _ _ _ _ h; exact absurd h (Nat.not_lt_zero _)
  | succ f ih =>
    intro alo ahi blo bhi acc h1 h2 h3 h4 hf
    have hok := Difflib.flm_bestOK (a := a) (b := b) h1 h2 h3
    rw [matchBlocks_step m f alo ahi blo bhi _ _
      (findLongestMatch_agrees m a b hm.ha hm.hb hm.hb2j hm.hjunk alo ahi blo bhi h1 h2 h3 h4), Difflib.mbN]
    generalize Difflib.findLongestMatch a b alo ahi blo bhi = mm at hok ⊢
    obtain ⟨o1, o2, o3, o4, _⟩ := hok
    by_cases hk : 0 < mm.k
    · obtain ⟨f1, f2⟩ := fuel_split_lt o1 o2 hk hf
      have first : (if alo < mm.i ∧ blo < mm.j then
            sequenceMatcher_getMatchingBlocks_matchBlocks m f alo mm.i blo mm.j (acc.map mI) else some (acc.map mI)) =
          some ((acc ++ if alo < mm.i ∧ blo < mm.j then Difflib.mbN a b f alo mm.i blo mm.j else []).map mI) := by
        by_cases c1 : alo < mm.i ∧ blo < mm.j
        · rw [if_pos c1, if_pos c1, ih alo mm.i blo mm.j acc o1 (Nat.le_trans (Nat.le_of_add_right_le o2) h2) o3
            (Nat.le_trans (Nat.le_of_add_right_le o4) h4) f1]
        · rw [if_neg c1, if_neg c1, List.append_nil]
      rw [if_pos hk, if_pos hk, first, Option.bind_some, ← List.append_assoc]
      generalize acc ++ (if alo < mm.i ∧ blo < mm.j then Difflib.mbN a b f alo mm.i blo mm.j else []) = acc1
      have ea : acc1.map mI ++ [mI mm] = (acc1 ++ [mm]).map mI := by rw [List.map_append]; rfl
      by_cases c2 : mm.i + mm.k < ahi ∧ mm.j + mm.k < bhi
      · rw [if_pos c2, if_pos c2, ea, ih _ ahi _ bhi _ o2 h2 o4 h4 f2, List.append_assoc]; rfl
      · rw [if_neg c2, if_neg c2, ea]
    · rw [if_neg hk, if_neg hk, List.append_nil]

abbrev CollapseSt := List DifflibGen.Match × Int × Int × Int

/-- one iteration of the adjacency-collapse loop of `getMatchingBlocks` on (nonAdjacent, i1, j1, k1) -/
def cStep (s : CollapseSt) (x : DifflibGen.Match) : CollapseSt :=
  if s.2.1 + s.2.2.2 = x.a ∧ s.2.2.1 + s.2.2.2 = x.b then (s.1, s.2.1, s.2.2.1, s.2.2.2 + x.size)
  else if s.2.2.2 > 0 then (s.1 ++ [⟨s.2.1, s.2.2.1, s.2.2.2⟩], x.a, x.b, x.size)
  else (s.1, x.a, x.b, x.size)

/-- `if k1 > 0 { nonAdjacent = append(nonAdjacent, match{i1, j1, k1}) }` after the loop -/
def cFinal (s : CollapseSt) : List DifflibGen.Match :=
  if s.2.2.2 > 0 then s.1 ++ [⟨s.2.1, s.2.2.1, s.2.2.2⟩] else s.1

theorem cStep_mI (out : List Difflib.Match) (i1 j1 k1 : Nat) (x : Difflib.Match) :
    cStep (out.map mI, (i1 : Int), (j1 : Int), (k1 : Int)) (mI x) =
      if i1 + k1 = x.i ∧ j1 + k1 = x.j then (out.map mI, (i1 : Int), (j1 : Int), ((k1 + x.k : Nat) : Int))
      else ((if 0 < k1 then out ++ [⟨i1, j1, k1⟩] else out).map mI, (x.i : Int), (x.j : Int), (x.k : Int)) := by
  simp only [cStep, mI, ← Int.natCast_add, Int.natCast_inj, gt_iff_lt, Int.natCast_pos]
  by_cases h : i1 + k1 = x.i ∧ j1 + k1 = x.j
  · rw [if_pos h, if_pos h]
  · rw [if_neg h, if_neg h]
    by_cases hk : 0 < k1
    · rw [if_pos hk, if_pos hk, List.map_append]; rfl
    · rw [if_neg hk, if_neg hk]

theorem collapse_sim (ms : List Difflib.Match) (i1 j1 k1 : Nat) (out : List Difflib.Match) :
    cFinal ((ms.map mI).foldl cStep (out.map mI, (i1 : Int), (j1 : Int), (k1 : Int))) =
      (Difflib.collapse ms i1 j1 k1 out).map mI := by
  induction ms generalizing i1 j1 k1 out with
  | nil =>
    simp only [List.map_nil, List.foldl_nil, cFinal, Difflib.collapse, gt_iff_lt, Int.natCast_pos]
    by_cases h : 0 < k1
    · rw [if_pos h, if_pos h, List.map_append]; rfl
    · rw [if_neg h, if_neg h]
  | cons x xs ih =>
    rw [List.map_cons, List.foldl_cons, Difflib.collapse, cStep_mI]
    by_cases h : i1 + k1 = x.i ∧ j1 + k1 = x.j
    · rw [if_pos h, if_pos h, ih]
    · rw [if_neg h, if_neg h, ih]

/-- **getMatchingBlocks agrees with the hand port** for every matcher of `a`, `b` with an empty cache and
    every fuel greater than `len a` (so the fuel `len a + 1` of the glue `groupedOpCodes` suffices) -/
theorem getMatchingBlocks_agrees (fuel : Nat) (m : Matcher) (a b : List (List UInt8)) (hm : MatcherOf m a b)
    (hn : m.matchingBlocks = none) (hf : a.length < fuel) :
    sequenceMatcher_getMatchingBlocks fuel m =
      some ({ m with matchingBlocks := some ((Difflib.getMatchingBlocks a b).map mI) },
        (Difflib.getMatchingBlocks a b).map mI) := by
  have hmb := matchBlocks_sim m a b hm fuel 0 a.length 0 b.length [] (Nat.zero_le _) (Nat.le_refl _) (Nat.zero_le _)
    (Nat.le_refl _) (by omega)
  have hfuel : Difflib.mbN a b fuel 0 a.length 0 b.length = Difflib.mbN a b a.length 0 a.length 0 b.length :=
    Difflib.mbN_fuel fuel a.length 0 a.length 0 b.length (Nat.zero_le _) (Nat.le_refl _) (Nat.zero_le _)
      (by omega) (by omega)
  simp only [List.map_nil, List.nil_append, Int.natCast_zero, hfuel] at hmb
  have hla : GoSem.len m.a = (a.length : Int) := by rw [hm.ha]; rfl
  have hlb : GoSem.len m.b = (b.length : Int) := by rw [hm.hb]; rfl
  unfold sequenceMatcher_getMatchingBlocks
  simp only [hn, hla, hlb, hmb, Option.isSome_none, Option.bind_eq_bind, Option.bind_some, Option.pure_def,
    Bool.false_eq_true, if_false]
  rw [forIn_opt_foldl _ _ (fun (s : CollapseSt) x => cStep s x)]
  · simp only [Option.bind_some]
    have hc := collapse_sim (Difflib.mbN a b a.length 0 a.length 0 b.length) 0 0 0 []
    simp only [List.map_nil, Int.natCast_zero] at hc
    have hX : (Difflib.getMatchingBlocks a b).map mI =
        cFinal ((List.map mI (Difflib.mbN a b a.length 0 a.length 0 b.length)).foldl cStep ([], 0, 0, 0)) ++
          [{ a := (a.length : Int), b := (b.length : Int), size := 0 }] := by
      rw [hc, Difflib.getMatchingBlocks_eq, Difflib.collapse_eq]
      simp [mI]
    rw [hX]
    generalize (List.map mI (Difflib.mbN a b a.length 0 a.length 0 b.length)).foldl cStep ([], 0, 0, 0) = st
    unfold cFinal
    by_cases hk : st.2.2.2 > 0
    · simp [hk]
    · simp [hk]
  · intro x s
    unfold cStep
    by_cases c : s.2.1 + s.2.2.2 = x.a ∧ s.2.2.1 + s.2.2.2 = x.b
    · simp [c.1, c.2]
    · have c' : (s.2.1 + s.2.2.2 == x.a && s.2.2.1 + s.2.2.2 == x.b) = false := by simpa using c
      by_cases c3 : s.2.2.2 > 0 <;> simp [c, c', c3]

/-! ### the whole chain, and its named instances -/

/-- **UNCONDITIONAL: the generated `difflib.NewMatcher(a, b).GetGroupedOpCodes(n)` (the glue `groupedOpCodes`, fuel
    `len a + 1`) returns — without panic and without hitting a bound of the translation — exactly what the
    hand port `Difflib.getGroupedOpCodes a b n` computes**, for all sequences and every n ≥ 0 -/
theorem groupedOpCodes_agrees (a b : List (List UInt8)) (n : Nat) :
    DifflibGen.groupedOpCodes a b (n : Int) = some ((Difflib.getGroupedOpCodes a b n).map (·.map opI)) := by
  unfold DifflibGen.groupedOpCodes
  obtain ⟨_, ha, hb, hjunk, hn, hop⟩ := NewMatcher_fields a b
  have hm : MatcherOf (NewMatcher a b) a b := ⟨ha, hb, NewMatcher_b2j_agrees a b, hjunk⟩
  have h1 := getMatchingBlocks_agrees (a.length + 1) (NewMatcher a b) a b hm hn (by omega)
  have h2 := getOpCodes_agrees (a.length + 1) (NewMatcher a b) _ a b hop h1
  cases h3 : sequenceMatcher_getOpCodes (a.length + 1) (NewMatcher a b) with
  | none => rw [h3] at h2; simp at h2
  | some r =>
    obtain ⟨m', codes⟩ := r
    rw [h3] at h2
    simp only [Option.map_some, Option.some.injEq] at h2
    subst h2
    exact GetGroupedOpCodes_agrees (a.length + 1) (NewMatcher a b) m' a b n h3

/-- a negative context size behaves as 3 (`if n < 0 { n = 3 }`) -/
theorem groupedOpCodes_neg (a b : List (List UInt8)) (n : Int) (hn : n < 0) :
    DifflibGen.groupedOpCodes a b n = some ((Difflib.getGroupedOpCodes a b 3).map (·.map opI)) := by
  have := groupedOpCodes_agrees a b 3
  unfold DifflibGen.groupedOpCodes at this ⊢
  rw [GetGroupedOpCodes_neg _ _ n hn]
  exact this

theorem agreeOn_true (a b : List (List UInt8)) (n : Nat) : agreeOn a b n = true :=
  decide_eq_true (groupedOpCodes_agrees a b n)

theorem allAgree_true (L : Nat) (ns : List Nat) : allAgree L ns = true :=
  List.all_eq_true.mpr fun a _ => List.all_eq_true.mpr fun b _ => List.all_eq_true.mpr fun n _ => agreeOn_true a b n

theorem b2jAgree_true (b ks : List (List UInt8)) : b2jAgree b ks = true :=
  List.all_eq_true.mpr fun x _ => decide_eq_true (NewMatcher_b2j_agrees [] b x)

/-- instance of `groupedOpCodes_agrees`: all 15 × 15 pairs of sequences of length ≤ 3 over two letters,
    context sizes 3, 0, 1 -/
theorem finite_agreement_len3 : allAgree 3 [3, 0, 1] = true := allAgree_true _ _

/-- instance of `groupedOpCodes_agrees`: all 31 × 31 pairs of sequences of length ≤ 4 over two letters,
    context size 3 -/
theorem finite_agreement_len4 : allAgree 4 [3] = true := allAgree_true _ _

/-- instance of `NewMatcher_b2j_agrees` on the popularity purge: an ordinary line, the popular line, an absent line -/
theorem finite_b2j_purge : b2jAgree bigB [[50], [120], [121]] = true := b2jAgree_true _ _

/-- instance of `groupedOpCodes_agrees`: the popular line on the `b` side (purged), and on the `a` side
    (`b` short: no purge) -/
theorem finite_agreement_purge : (agreeOn smallA bigB 3 && agreeOn bigB smallA 3) = true := by
  rw [agreeOn_true, agreeOn_true]; rfl

end GoSnaps.Tie.DifflibGen
