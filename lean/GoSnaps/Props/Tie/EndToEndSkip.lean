/-
Tie by proof: processes in which some tests call `snaps.Skip` / `Skipf` / `SkipNow`, THEN `Clean` —
property C08 end to end, about the TRANSLITERATED code (`Generated.FuncsIO.Skip/Skipf/SkipNow`, the Match*
flows and test cleanups of `goStep`, `Generated.FuncsIO.Clean`).

`Tie/EndToEndClean.lean` and `Tie/EndToEndClean2.lean` are about `goRun`, whose histories have no skip step
(`Reached.noSkip`): they say nothing about skip-protected entries.  The histories here are lists of
`SkipHist.SStep`: a step of `C01World.Step`, or a call of one of the three exported skip wrappers; `Step`,
`goStep` and `goRun` are those of the two files.

Skip steps are executed by the transliterated wrappers, all other steps by `goStep` (`goRunS`; conservative over
`goRun`: `goRunS_noSkip`).  A skip step changes only `st.skipped` and the test's event log (`goSkip_eq`), so `StRel`
and `CleanInv` go through against the model's `runS` (`ReachedS`), and the world the model reaches is the world of
the history WITHOUT the skip steps with the skip list set (`SkipHist.runS_world`): `FileAfter` and
`goRun_fileAfter` are used as they are, for `strip h`.  On that: **C08.1** `go_skipped_survive_clean`, **C08.2**
`go_skip_exact` / `go_sibling_reported`, **C08.3** `go_summary_counts_skips`, and under a `-run` filter
`go_survive_clean_run_filter_partial`, `go_exact_run_filter` with what is false of the property's wording (D7, D8);
closed histories, and finding D6 as a closed evaluation.
-/
import GoSnaps.Props.Tie.EndToEndClean2
import GoSnaps.Lemmas.EndToEndSkip
namespace GoSnaps.Tie
open GoSnaps GoSnaps.GoIO
open GoSnaps.Generated.FuncsIO
open GoSnaps.C06Refine GoSnaps.Wld GoSnaps.CleanWorld GoSnaps.SkipHist
open GoSnaps.C01World (Step Scoped calledNames texts entriesFrom entriesOf headers Inv)
open GoSnaps.C03 (testID)
open GoSnaps.Generated (Env shouldCreate shouldUpdate)

/-- a skip step on the transliteration side: the exported wrapper the test calls, on its `testing.T` -/
def goSkip (io : IOFail) (st : St) (t : T) : SkipKind → St
  | .skip args => Generated.FuncsIO.Skip io st t args
  | .skipf format args => Generated.FuncsIO.Skipf io st t format args
  | .skipNow => Generated.FuncsIO.SkipNow io st t

/-- **one step of an extended history** (`none` = panic): a skip step is the transliterated
    `Skip` / `Skipf` / `SkipNow`, every other step is `goStep` -/
def goStepS (io : IOFail) (c : Cfg) (caller : Text) (st : St) : SStep → Option St
  | .run s => goStep io c caller st s
  | .skip t x k => some (goSkip io st ⟨t, x⟩ k)

def goRunS (io : IOFail) (c : Cfg) (caller : Text) : St → List SStep → Option St
  | st, [] => some st
  | st, s :: h => (goStepS io c caller st s).bind fun st' => goRunS io c caller st' h

/-- **what a skip wrapper does**, whichever it is and whatever the failure oracle: the name is appended to
    `skippedTests.values`, the log line and `testing`'s skip are reported to the test; NOTHING else changes -/
theorem goSkip_eq (io : IOFail) (st : St) (t : T) (k : SkipKind) :
    goSkip io st t k = { st with skipped := st.skipped ++ [t.name], tev := st.tev ++ skipEvents k } := by
  cases k with
  | skip args => simp only [goSkip, Skip_tied, skipEvents]
  | skipf format args => simp only [goSkip, Skipf_tied, skipEvents]
  | skipNow => simp only [goSkip, SkipNow_tied, skipEvents]

/-- **conservative over `goRun`, 1**: a history of `Step`s, injected, runs as `goRun` runs it -/
theorem goRunS_map_run (io : IOFail) (c : Cfg) (caller : Text) (h : List Step) : ∀ st : St,
    goRunS io c caller st (h.map SStep.run) = goRun io c caller st h := by
  induction h with
  | nil => intro st; rfl
  | cons s h ih =>
    intro st
    simp only [List.map_cons, goRunS, goStepS, goRun]
    cases goStep io c caller st s with
    | none => rfl
    | some st' => simp only [Option.bind_some]; exact ih st'

/-- **conservative over `goRun`, 2**: an extended history WITHOUT skip steps gives the state `goRun` gives
    for its steps — for every failure oracle, from every state -/
theorem goRunS_noSkip (io : IOFail) (c : Cfg) (caller : Text) (h : List SStep) (hno : skipNames h = []) :
    ∀ st : St, goRunS io c caller st h = goRun io c caller st (strip h) := by
  induction h with
  | nil => intro st; rfl
  | cons s h ih =>
    intro st
    cases s with
    | run s =>
      simp only [goRunS, goStepS, strip, goRun]
      cases goStep io c caller st s with
      | none => rfl
      | some st' => simp only [Option.bind_some]; exact ih (by simpa [skipNames] using hno) st'
    | skip t x k => simp [skipNames] at hno

theorem goRunS_append (io : IOFail) (c : Cfg) (caller : Text) (h1 h2 : List SStep) : ∀ st : St,
    goRunS io c caller st (h1 ++ h2) =
      (goRunS io c caller st h1).bind fun st' => goRunS io c caller st' h2 := by
  induction h1 with
  | nil => intro st; rfl
  | cons s h1 ih =>
    intro st
    simp only [List.cons_append, goRunS]
    cases goStepS io c caller st s with
    | none => rfl
    | some st' => simp only [Option.bind_some]; exact ih st'

theorem goStepS_frame (io : IOFail) (c : Cfg) (caller : Text) (st st' : St) (s : SStep)
    (e : goStepS io c caller st s = some st') :
    st'.env = st.env ∧ st'.stdout = st.stdout ∧ st'.skipped = st.skipped ++ skipNames [s] := by
  cases s with
  | run s =>
    obtain ⟨a, b, d⟩ := goStep_frame io c caller st st' s e
    exact ⟨a, d, by simp [skipNames, b]⟩
  | skip t x k =>
    simp only [goStepS, Option.some.injEq] at e
    subst e
    rw [goSkip_eq]
    exact ⟨rfl, rfl, rfl⟩

/-- **the skip list after ANY run, every failure oracle**: the names of the skip steps, in the order of the
    calls, with repetitions, appended to what was there — no Match* flow and no test cleanup touches it -/
theorem goRunS_frame (io : IOFail) (c : Cfg) (caller : Text) (h : List SStep) : ∀ (st st' : St),
    goRunS io c caller st h = some st' →
    st'.env = st.env ∧ st'.stdout = st.stdout ∧ st'.skipped = st.skipped ++ skipNames h := by
  induction h with
  | nil => intro st st' e; cases e; exact ⟨rfl, rfl, by simp [skipNames]⟩
  | cons s h ih =>
    intro st st' e
    cases h1 : goStepS io c caller st s with
    | none => rw [goRunS, h1] at e; cases e
    | some s1 =>
      rw [goRunS, h1] at e
      obtain ⟨a1, a2, a3⟩ := goStepS_frame io c caller st s1 s h1
      obtain ⟨b1, b2, b3⟩ := ih s1 st' e
      refine ⟨b1.trans a1, b2.trans a2, ?_⟩
      rw [b3, a3, List.append_assoc, ← skipNames_append]
      rfl

/-- a skip step keeps the simulation relation: the model's step is `trackSkip` -/
theorem StRel.skip {st : St} {w : World} (h : StRel st w) (io : IOFail) (t : T) (k : SkipKind) :
    StRel (goSkip io st t k) (trackSkip w t.name) := by
  rw [goSkip_eq]
  exact ⟨h.env, h.fs, h.reg, h.sreg, h.erred, h.added, h.updated, h.passed,
    by show st.skipped ++ [t.name] = w.skipped ++ [t.name]; rw [h.skipped], h.pending, h.resetOK⟩

theorem CleanInv.skip {st : St} {w : World} (hi : CleanInv st w) (io : IOFail) (t : T) (k : SkipKind) :
    CleanInv (goSkip io st t k) (trackSkip w t.name) := by
  rw [goSkip_eq]
  exact hi.frame rfl rfl rfl rfl rfl

theorem goStepS_cleanInv {st : St} {w : World} (h : StRel st w) (hi : CleanInv st w) (c : Cfg) (caller : Text)
    (s : SStep) (hok : HistOK (strip [s]))
    (hs : ∀ o ∈ (stepS c caller w s).2, o.unsupported = none) :
    ∃ st', goStepS IOFail.never c caller st s = some st' ∧ StRel st' (stepS c caller w s).1 ∧
      CleanInv st' (stepS c caller w s).1 ∧
      st'.tev = st.tev ++ ((stepS c caller w s).2.map (·.events)).flatten := by
  cases s with
  | run s => exact goStep_cleanInv h hi c caller s (hok s (by simp [strip])) hs
  | skip t x k =>
    refine ⟨goSkip IOFail.never st ⟨t, x⟩ k, rfl, h.skip _ _ _, hi.skip _ _ _, ?_⟩
    rw [goSkip_eq]
    simp [stepS]

/-- **extended histories**: under `IOFail.never`, from related states, whenever the model covers every call,
    `goRunS` does not panic, ends in a state related (`StRel`, `CleanInv`) to the world the model's `runS` ends
    in, and has reported to the `testing.T`s exactly the events of the model's outputs, in order — the skip
    wrappers' log line and skip included -/
theorem goRunS_cleanInv (c : Cfg) (caller : Text) (h : List SStep) : ∀ {st : St} {w : World}, StRel st w →
    CleanInv st w → HistOK (strip h) → (∀ o ∈ (runS c caller w h).2, o.unsupported = none) →
    ∃ st', goRunS IOFail.never c caller st h = some st' ∧ StRel st' (runS c caller w h).1 ∧
      CleanInv st' (runS c caller w h).1 ∧
      st'.tev = st.tev ++ ((runS c caller w h).2.map (·.events)).flatten := by
  induction h with
  | nil => intro st w hr hi _ _; exact ⟨st, rfl, hr, hi, by simp [runS]⟩
  | cons s h ih =>
    intro st w hr hi hok hs
    simp only [runS] at hs ⊢
    have hok1 : HistOK (strip [s]) := fun s' hs' => hok s' (by
      rw [show s :: h = [s] ++ h from rfl, strip_append]; exact List.mem_append_left _ hs')
    have hok2 : HistOK (strip h) := fun s' hs' => hok s' (by
      rw [show s :: h = [s] ++ h from rfl, strip_append]; exact List.mem_append_right _ hs')
    obtain ⟨s1, e1, r1, i1, t1⟩ := goStepS_cleanInv hr hi c caller s hok1
      (fun o ho => hs o (List.mem_append.mpr (Or.inl ho)))
    obtain ⟨s2, e2, r2, i2, t2⟩ := ih r1 i1 hok2 (fun o ho => hs o (List.mem_append.mpr (Or.inr ho)))
    refine ⟨s2, ?_, r2, i2, ?_⟩
    · simp only [goRunS, e1, Option.bind_some]; exact e2
    · rw [t2, t1]; simp

theorem runS_supported (c : Cfg) (caller p rel : Text)
    (hsp : ∀ t, snapshotPath c caller t false = (p, some rel)) (h : List SStep) :
    ∀ w : World, ∀ o ∈ (runS c caller w h).2, o.unsupported = none := by
  induction h with
  | nil => intro w o ho; simp [runS] at ho
  | cons s h ih =>
    intro w o ho
    simp only [runS] at ho
    rcases List.mem_append.mp ho with ho | ho
    · cases s with
      | run s =>
        exact run_supported c caller p rel hsp [s] w o (by simpa [C01World.run, stepS] using ho)
      | skip t x k =>
        simp only [stepS, List.mem_singleton] at ho
        subst ho; rfl
    · exact ih _ o ho

/-- the world the model reaches from a fresh process: the world of the history WITHOUT its skip steps, with
    the names of the skip steps as skip list (`SkipHist.runS_world`) -/
abbrev worldS (env : Env) (fs₀ : FS) (c : Cfg) (caller : Text) (h : List SStep) : World :=
  { (C01World.run c caller { env := env, fs := fs₀ } (strip h)).1 with skipped := skipNames h }

theorem runS_fresh (env : Env) (fs₀ : FS) (c : Cfg) (caller : Text) (h : List SStep) :
    (runS c caller { env := env, fs := fs₀ } h).1 = worldS env fs₀ c caller h := by
  rw [runS_world]
  simp

/-- **the states `goRunS` reaches** from a fresh process whose Match* calls all address the snapshot file `p`
    (`Reached` of `Tie/EndToEndClean.lean`, with skip steps): the run does not panic; the state is in `StRel`
    and `CleanRel` with `worldS`; the registry is that of the history without the skip steps (`RegInv`,
    `RegExact`); the skip list is `skipNames h` -/
structure ReachedS (env : Env) (fs₀ : FS) (c : Cfg) (caller p : Text) (h : List SStep) (st1 : St) : Prop where
  run : goRunS IOFail.never c caller (freshSt env fs₀) h = some st1
  rel : StRel st1 (worldS env fs₀ c caller h)
  crel : CleanRel st1 (worldS env fs₀ c caller h)
  reg : RegInv p (C01World.run c caller { env := env, fs := fs₀ } (strip h)).1 (calledNames (strip h)).reverse
  regExact : RegExact (C01World.run c caller { env := env, fs := fs₀ } (strip h)).1
    (calledNames (strip h)).reverse
  tev : st1.tev = ((runS c caller { env := env, fs := fs₀ } h).2.map (·.events)).flatten
  skipped : st1.skipped = skipNames h
  stdout : st1.stdout = []
  env : st1.env = env

theorem goRunS_reached (env : Env) (fs₀ : FS) (c : Cfg) (caller p rel : Text) (h : List SStep)
    (hsp : ∀ t, snapshotPath c caller t false = (p, some rel)) (hok : HistOK (strip h)) :
    ∃ st1, ReachedS env fs₀ c caller p h st1 := by
  obtain ⟨st1, e, r, i, t⟩ := goRunS_cleanInv c caller h (StRel_init env fs₀) (CleanInv_init env fs₀) hok
    (runS_supported c caller p rel hsp h _)
  rw [runS_fresh] at r i
  have hreg := run_regInv c caller p (fun t => by rw [hsp t]) (strip h) _ [] (RegInv.fresh p env fs₀)
  rw [List.append_nil] at hreg
  obtain ⟨f1, f2, f3⟩ := goRunS_frame _ _ _ _ _ _ e
  exact ⟨st1, e, r, CleanRel_of r i, hreg, regExact_fresh env fs₀ c caller (strip h), by simpa using t,
    by simpa using f3, f2, f1⟩

theorem ReachedS.fs_eq {env : Env} {fs₀ : FS} {c : Cfg} {caller p : Text} {h : List SStep} {st1 st0 : St}
    (hr : ReachedS env fs₀ c caller p h st1) (h0 : Reached env fs₀ c caller p (strip h) st0) :
    st1.fs = st0.fs := by
  rw [hr.rel.fs, h0.rel.fs]

theorem ReachedS.wenv {env : Env} {fs₀ : FS} {c : Cfg} {caller p : Text} {h : List SStep} {st1 : St}
    (hr : ReachedS env fs₀ c caller p h st1) : (worldS env fs₀ c caller h).env = env := by
  rw [← hr.rel.env, hr.env]

/-- **the composition**: the transliterated `Clean`, called in a state reached by `goRunS`, is the model's
    `clean` of `worldS` (hypotheses as in `Clean_reached`) -/
theorem Clean_reachedS {env : Env} {fs₀ : FS} {c : Cfg} {caller p : Text} {h : List SStep} {st1 : St}
    (hr : ReachedS env fs₀ c caller p h st1)
    (parseFile : Text → List GoDecl × Err) (re : Text → Text → Bool × Bool) (cnt : Nat) (err : Err)
    (opts : List Bool) (hcnt : cnt > 0) (hre : ∀ s, (re [] s).1 = true)
    (hj : (Generated.shouldClean env && !env.isCI) = true → JoinFaithful (fpDir p))
    (hsup : (GoSnaps.clean {} (worldS env fs₀ c caller h) (opts.head?.getD false) [] cnt).2.unsupported = none) :
    Generated.FuncsIO.Clean IOFail.never st1 parseFile re [] ((cnt : Int), err) () opts =
      some { st1 with
        fs := (GoSnaps.clean {} (worldS env fs₀ c caller h) (opts.head?.getD false) [] cnt).1.fs,
        stdout := st1.stdout ++
          (GoSnaps.clean {} (worldS env fs₀ c caller h) (opts.head?.getD false) [] cnt).2.stdout } :=
  Clean_oneFile hr.crel p hr.reg.keys hr.reg.sclean parseFile re cnt err opts hcnt hre
    (fun hu => hj (by unfold cleanUpd at hu; rw [hr.env] at hu; exact hu)) hsup

theorem ReachedS.file_exists {env : Env} {fs₀ : FS} {c : Cfg} {caller p : Text} {h : List SStep} {st1 : St}
    (hr : ReachedS env fs₀ c caller p h st1) {sortOpt : Bool} {es : List Entry}
    (hfa : FileAfter st1.fs p es (strip h) sortOpt) (hne : (worldS env fs₀ c caller h).cleanup ≠ []) :
    fsRead (worldS env fs₀ c caller h).fs p ≠ none := by
  rw [← hr.rel.fs]
  apply hfa.exist
  intro hn
  exact hne (run_cleanup_of_no_calls c caller (strip h) hn _)

theorem ReachedS.examined {env : Env} {fs₀ : FS} {c : Cfg} {caller p : Text} {h : List SStep} {st1 : St}
    (hr : ReachedS env fs₀ c caller p h st1) {sortOpt : Bool} {es : List Entry}
    (hfa : FileAfter st1.fs p es (strip h) sortOpt) (hcalls : calledNames (strip h) ≠ []) :
    (worldS env fs₀ c caller h).cleanup ≠ [] ∧ fsRead (worldS env fs₀ c caller h).fs p = some (render es) := by
  have hne : (worldS env fs₀ c caller h).cleanup ≠ [] := by
    obtain ⟨t, ht⟩ := List.exists_mem_of_ne_nil _ hcalls
    intro h0
    have := hr.reg.mem t (List.mem_reverse.mpr ht)
    rw [show (C01World.run c caller { env := env, fs := fs₀ } (strip h)).1.cleanup = [] from h0] at this
    cases this
  exact ⟨hne, hr.rel.fs ▸ hfa.read hcalls⟩

/-- **the model covers `Clean`** (the `hsup` of `Clean_reachedS`) as in `Reached.supported`: whatever the skip list is -/
theorem ReachedS.supported {env : Env} {fs₀ : FS} {c : Cfg} {caller p : Text} {h : List SStep} {st1 : St}
    (hr : ReachedS env fs₀ c caller p h st1) (sortOpt : Bool) (cnt : Nat) (hcnt : cnt > 0) (es : List Entry)
    (hfa : FileAfter st1.fs p es (strip h) sortOpt) :
    (GoSnaps.clean {} (worldS env fs₀ c caller h) sortOpt [] cnt).2.unsupported = none :=
  clean_supported_noRun {} _ sortOpt cnt p es hcnt hr.reg.keys hr.reg.sclean hfa.clean
    (hr.rel.fs ▸ hfa.holds) (hr.file_exists hfa) hfa.total

/-- **`Clean` in a state `goRunS` reached, with a well-formed snapshot file** (`Reached.clean_run`, whatever
    the skip list is) -/
theorem ReachedS.clean_run {env : Env} {fs₀ : FS} {c : Cfg} {caller p : Text} {h : List SStep} {st1 : St}
    (hr : ReachedS env fs₀ c caller p h st1)
    (parseFile : Text → List GoDecl × Err) (re : Text → Text → Bool × Bool) (cnt : Nat) (err : Err)
    (opts : List Bool) (hcnt : cnt > 0) (hre : ∀ s, (re [] s).1 = true)
    (hj : (Generated.shouldClean env && !env.isCI) = true → JoinFaithful (fpDir p))
    {es : List Entry} (hfa : FileAfter st1.fs p es (strip h) (opts.head?.getD false)) :
    ∃ (fr : FilesResult) (obsT : List Text) (fs2 : FS) (wr : List Text),
      CleanRun {} (worldS env fs₀ c caller h) (opts.head?.getD false) [] cnt [] fr obsT fs2 wr ∧
      Generated.FuncsIO.Clean IOFail.never st1 parseFile re [] ((cnt : Int), err) () opts =
        some { st1 with fs := fs2, stdout := st1.stdout ++ summaryLine (Generated.FuncsIO.summary fr.obsolete
          obsT (GoSem.len st1.skipped) st1.events (cleanUpd st1)) } :=
  Clean_oneFile_run hr.crel p hr.reg.keys hr.reg.sclean parseFile re cnt err opts hcnt hre
    (fun hu => hj (by unfold cleanUpd at hu; rw [hr.env] at hu; exact hu)) (hr.supported _ cnt hcnt es hfa)

/-- **the file after ANY extended run** (`goRun_fileAfter`, for `strip h`: the skip wrappers do not touch the
    file system) -/
theorem goRunS_fileAfter (env : Env) (fs₀ : FS) (c : Cfg) (caller p rel : Text) (es₀ : List Entry)
    (h : List SStep)
    (hsp : ∀ t, snapshotPath c caller t false = (p, some rel))
    (hfile : Holds fs₀ p es₀) (hgood : Good es₀)
    (hns : NoShadowAll es₀ (calledNames (strip h)) (texts (strip h)))
    (hrec₀ : ∀ e ∈ es₀, Recognised e)
    (htest : ∀ t ∈ calledNames (strip h), (32 : Byte) ∉ t)
    (hce : fsRead fs₀ p ≠ none ∨ shouldCreate env c.update = true) :
    ∃ st1 es, goRunS IOFail.never c caller (freshSt env fs₀) h = some st1 ∧
      FileInv es₀ (calledNames (strip h)) (texts (strip h)) es ∧
      ∀ sortOpt, (sortOpt = true → TotalOn (es.map tidOf)) → FileAfter st1.fs p es (strip h) sortOpt := by
  obtain ⟨st0, es, e0, hinv, hfa⟩ := goRun_fileAfter env fs₀ c caller p rel es₀ (strip h) hsp hfile hgood hns
    hrec₀ htest hce
  have hok := HistOK_of_bodies (strip h) hns.bodies
  obtain ⟨st1, hr⟩ := goRunS_reached env fs₀ c caller p rel h hsp hok
  obtain ⟨st0', h0⟩ := goRun_reached env fs₀ c caller p rel (strip h) hsp hok
  have : st0' = st0 := by
    have := h0.run; rw [e0] at this; exact (Option.some.inj this).symm
  subst this
  exact ⟨st1, es, hr.run, hinv, fun sortOpt hto => by rw [hr.fs_eq h0]; exact hfa sortOpt hto⟩

/-! ## C08 without a `-run` filter: skip-protected entries survive `Clean`, exactly the rest is reported, the skips are counted

Setting of every theorem below (as for `go_matched_survive_clean` in `Tie/EndToEndClean.lean`): a fresh test process over ANY file
system `fs₀`, in ANY environment `env`; all Match* calls of the extended history `h` are made under one Config
from one test file, hence address one snapshot file `p` (`hsp`); `IOFail.never`; `Clean` without a `-run`
filter (with one: `go_survive_clean_run_filter_partial`, `go_exact_run_filter`).  Some tests call `snaps.Skip` / `Skipf` / `SkipNow` — at any point, any number of times,
before or after Match* calls of the same test, parents and children alike.

The file that is protected is `p`.  A snapshot file `q ≠ p` that NO step addresses is outside every theorem
here, and rightly so — finding D6: a skipped test does not register its file, so when another file of the same
directory is registered, `q` is an obsolete FILE and is deleted with every entry in it, skip-protected or not
(`E2ES.d6_unaddressed_file_deleted`: a closed run).  When no Match* call is made at all, `Clean` knows no
directory and touches nothing: the theorems hold for such histories too (`E2ES.skip_only`). -/

/-- **C08.1, end to end: skip-protected entries — and matched ones — survive `Clean`.**

Run the extended history `h` with the transliterated flows and skip wrappers, then the transliterated `Clean`
with `-count = cnt`, any sort option, in whatever mode `env` says (report, clean, CI).  Neither panics.  The
skip list `Clean` reads is `skipNames h`.  Let the snapshot file hold, after the run, the well-formed entry
list `es` (`FileAfter`, for the Match* steps `strip h`), and let `must` be entries of it each of which is
* matched: `[t - k]` with `1 ≤ k ≤ (calls of t) / cnt` (C07), or
* skip-protected: `C08.Protected (skipNames h) (tidOf e)` — the test-name part of its id is the name `N` of a
  skip step or starts with `N/` (`protected_self`, `protected_descendant`: every `[N - k]` and every
  `[N/sub… - k]`, names without a space).
Then after `Clean` no id of `must` is in the printed obsolete list, and the file `p` holds a well-formed entry
list `es'` made of entries of `es` that contains every entry of `must` — same header, same body. -/
theorem go_skipped_survive_clean (env : Env) (fs₀ : FS) (c : Cfg) (caller p rel : Text) (h : List SStep)
    (parseFile : Text → List GoDecl × Err) (re : Text → Text → Bool × Bool) (cnt : Nat) (err : Err)
    (opts : List Bool)
    (hsp : ∀ t, snapshotPath c caller t false = (p, some rel)) (hok : HistOK (strip h)) (hcnt : cnt > 0)
    (hre : ∀ s, (re [] s).1 = true)
    (hj : (Generated.shouldClean env && !env.isCI) = true → JoinFaithful (fpDir p)) :
    ∃ st1, goRunS IOFail.never c caller (freshSt env fs₀) h = some st1 ∧ st1.skipped = skipNames h ∧
    ∀ es, FileAfter st1.fs p es (strip h) (opts.head?.getD false) →
    ∃ (fs2 : FS) (obsFiles obsTests : List Text),
      Generated.FuncsIO.Clean IOFail.never st1 parseFile re [] ((cnt : Int), err) () opts =
        some { st1 with fs := fs2, stdout := st1.stdout ++ summaryLine (Generated.FuncsIO.summary obsFiles
          obsTests (GoSem.len st1.skipped) st1.events (cleanUpd st1)) } ∧
      ∀ must : List Entry, (∀ e ∈ must, e ∈ es) →
        (∀ e ∈ must,
          (∃ t k, e.id = testID t k ∧ 1 ≤ k ∧ k ≤ (calledNames (strip h)).count t / cnt) ∨
          C08.Protected (skipNames h) (tidOf e)) →
        (∀ e ∈ must, tidOf e ∉ obsTests) ∧
        ∃ es', Holds fs2 p es' ∧ CleanFile es' ∧ (∀ e ∈ must, e ∈ es') ∧ (∀ e ∈ es', e ∈ es) := by
  obtain ⟨st1, hr⟩ := goRunS_reached env fs₀ c caller p rel h hsp hok
  refine ⟨st1, hr.run, hr.skipped, fun es hfa => ?_⟩
  obtain ⟨fr, obsT, fs, wr, crun, hclean⟩ := hr.clean_run parseFile re cnt err opts hcnt hre hj hfa
  refine ⟨fs, fr.obsolete, obsT, hclean, ?_⟩
  · intro must hall hcov
    obtain ⟨_, k2, ⟨es', e1, e2, e3, e4⟩, _⟩ := clean_keeps_kept {} (worldS env fs₀ c caller h) _ cnt p es must hr.reg.keys
      hr.reg.sclean (fun e he => (hcov e he).imp hr.reg.covered id) hfa.clean (hr.rel.fs ▸ hfa.holds) hall [] fr
      obsT fs wr crun
    exact ⟨k2, es', e2, e1, e3, e4⟩

/-- **C08.1 in the words of the property.**  Setting of `go_skipped_survive_clean`.  If test `N` (no space in
    the name) called a skip wrapper somewhere in the history, then EVERY entry `[N - k]` and EVERY entry
    `[N/sub - k]` of a descendant (`sub` may itself contain `/`: any depth) that is in the snapshot file
    before `Clean` is not listed obsolete and is in the file afterwards — header and body — in every mode, sort
    on or off, any `-count`.  One `es'` serves all of them; it is well-formed and made of entries of `es`. -/
theorem go_skipped_survive_clean_words (env : Env) (fs₀ : FS) (c : Cfg) (caller p rel : Text) (h : List SStep)
    (parseFile : Text → List GoDecl × Err) (re : Text → Text → Bool × Bool) (cnt : Nat) (err : Err)
    (opts : List Bool)
    (hsp : ∀ t, snapshotPath c caller t false = (p, some rel)) (hok : HistOK (strip h)) (hcnt : cnt > 0)
    (hre : ∀ s, (re [] s).1 = true)
    (hj : (Generated.shouldClean env && !env.isCI) = true → JoinFaithful (fpDir p)) :
    ∃ st1, goRunS IOFail.never c caller (freshSt env fs₀) h = some st1 ∧
    ∀ es, FileAfter st1.fs p es (strip h) (opts.head?.getD false) →
    ∃ (fs2 : FS) (obsFiles obsTests : List Text) (es' : List Entry),
      Generated.FuncsIO.Clean IOFail.never st1 parseFile re [] ((cnt : Int), err) () opts =
        some { st1 with fs := fs2, stdout := st1.stdout ++ summaryLine (Generated.FuncsIO.summary obsFiles
          obsTests (GoSem.len st1.skipped) st1.events (cleanUpd st1)) } ∧
      Holds fs2 p es' ∧ CleanFile es' ∧ (∀ e ∈ es', e ∈ es) ∧
      ∀ N ∈ skipNames h, (32 : Byte) ∉ N → ∀ e ∈ es, ∀ k,
        (e.id = testID N k ∨ ∃ sub, (32 : Byte) ∉ sub ∧ e.id = testID (N ++ slash :: sub) k) →
        tidOf e ∉ obsTests ∧ e ∈ es' := by
  obtain ⟨st1, e1, _, hmain⟩ := go_skipped_survive_clean env fs₀ c caller p rel h parseFile re cnt err opts hsp
    hok hcnt hre hj
  refine ⟨st1, e1, fun es hfa => ?_⟩
  obtain ⟨fs2, oF, oT, hc, hk⟩ := hmain es hfa
  obtain ⟨k1, es', k2, k3, k4, k5⟩ := hk (es.filter (fun e => skipListed (skipNames h) (tidOf e)))
    (fun e he => (List.mem_filter.mp he).1)
    (fun e he => Or.inr ((C08.skipListed_iff _ _).mp (List.mem_filter.mp he).2))
  refine ⟨fs2, oF, oT, es', hc, k2, k3, k5, fun N hN hsp' e he k hid => ?_⟩
  have hp : C08.Protected (skipNames h) (tidOf e) := by
    rcases hid with hid | ⟨sub, hs, hid⟩
    · exact protected_self _ hN hid hsp'
    · exact protected_descendant _ hN hid hsp' hs
  have hm : e ∈ es.filter (fun e => skipListed (skipNames h) (tidOf e)) :=
    List.mem_filter.mpr ⟨he, (C08.skipListed_iff _ _).mpr hp⟩
  exact ⟨k1 e hm, k4 e hm⟩

/-- **C08.1, ANY mix of modes in the run** (`FileAfter` discharged from hypotheses on the INPUTS as in
    `goRun_fileAfter`: `Good` initial file with recognised headers, NoShadow, names of the CALLED tests without
    a space, the file exists or creation is allowed).  The skipped tests need not make any call. -/
theorem go_skipped_survive_clean_any_mode (env : Env) (fs₀ : FS) (c : Cfg) (caller p rel : Text)
    (es₀ : List Entry) (h : List SStep)
    (parseFile : Text → List GoDecl × Err) (re : Text → Text → Bool × Bool) (cnt : Nat) (err : Err)
    (opts : List Bool)
    (hsp : ∀ t, snapshotPath c caller t false = (p, some rel))
    (hfile : Holds fs₀ p es₀) (hgood : Good es₀)
    (hns : NoShadowAll es₀ (calledNames (strip h)) (texts (strip h)))
    (hrec₀ : ∀ e ∈ es₀, Recognised e)
    (htest : ∀ t ∈ calledNames (strip h), (32 : Byte) ∉ t)
    (hce : fsRead fs₀ p ≠ none ∨ shouldCreate env c.update = true)
    (hcnt : cnt > 0) (hre : ∀ s, (re [] s).1 = true)
    (hj : (Generated.shouldClean env && !env.isCI) = true → JoinFaithful (fpDir p)) :
    ∃ st1 es, goRunS IOFail.never c caller (freshSt env fs₀) h = some st1 ∧
      Holds st1.fs p es ∧ CleanFile es ∧ FileInv es₀ (calledNames (strip h)) (texts (strip h)) es ∧
      ((opts.head?.getD false = true → TotalOn (es.map tidOf)) →
      ∃ (fs2 : FS) (obsFiles obsTests : List Text) (es' : List Entry),
        Generated.FuncsIO.Clean IOFail.never st1 parseFile re [] ((cnt : Int), err) () opts =
          some { st1 with fs := fs2, stdout := st1.stdout ++ summaryLine (Generated.FuncsIO.summary obsFiles
            obsTests (GoSem.len st1.skipped) st1.events (cleanUpd st1)) } ∧
        Holds fs2 p es' ∧ CleanFile es' ∧ (∀ e ∈ es', e ∈ es) ∧
        ∀ N ∈ skipNames h, (32 : Byte) ∉ N → ∀ e ∈ es, ∀ k,
          (e.id = testID N k ∨ ∃ sub, (32 : Byte) ∉ sub ∧ e.id = testID (N ++ slash :: sub) k) →
          tidOf e ∉ obsTests ∧ e ∈ es') := by
  exact of_fileAfter (goRunS_fileAfter env fs₀ c caller p rel es₀ h hsp hfile hgood hns hrec₀ htest hce)
    (go_skipped_survive_clean_words env fs₀ c caller p rel h parseFile re cnt err opts
      hsp (HistOK_of_bodies _ hns.bodies) hcnt hre hj)

/-- **C08.2 / C09 with skips, end to end: `Clean` reports EXACTLY what is neither registered nor protected.**

Setting of `go_stale_reported`, for an extended history: at least one Match* call (otherwise `Clean` knows no
directory and examines nothing), `JoinFaithful`, `InDir p`, `NotDir fs₀ p`.  With `registered` the ids
`occurrences` computes — exactly the slots of the called tests — and `skipListed (skipNames h)` the Boolean
form of `C08.Protected (skipNames h)` (`C08.skipListed_iff`):
* `obsTests` is EXACTLY the list of ids of the entries of the file that are neither registered nor
  skip-protected, in file order;
* afterwards the file holds a well-formed PERMUTATION of the registered-or-protected entries when deleting, and
  of ALL its entries in every other mode;
* `obsFiles`, and what happens to those files, as in `go_stale_reported`: every OTHER `.snap` file of the
  directory is reported whether or not it holds entries of skipped tests (D6). -/
theorem go_skip_exact (env : Env) (fs₀ : FS) (c : Cfg) (caller p rel : Text) (h : List SStep)
    (parseFile : Text → List GoDecl × Err) (re : Text → Text → Bool × Bool) (cnt : Nat) (err : Err)
    (opts : List Bool)
    (hsp : ∀ t, snapshotPath c caller t false = (p, some rel)) (hok : HistOK (strip h)) (hcnt : cnt > 0)
    (hre : ∀ s, (re [] s).1 = true)
    (hjf : JoinFaithful (fpDir p)) (hin : InDir p) (hnd : NotDir fs₀ p)
    (hcalls : calledNames (strip h) ≠ []) :
    ∃ st1, goRunS IOFail.never c caller (freshSt env fs₀) h = some st1 ∧ st1.skipped = skipNames h ∧
    ∀ es, FileAfter st1.fs p es (strip h) (opts.head?.getD false) →
    ∃ (fs2 : FS) (obsFiles obsTests registered : List Text),
      Generated.FuncsIO.Clean IOFail.never st1 parseFile re [] ((cnt : Int), err) () opts =
        some { st1 with fs := fs2, stdout := st1.stdout ++ summaryLine (Generated.FuncsIO.summary obsFiles
          obsTests (GoSem.len st1.skipped) st1.events (cleanUpd st1)) } ∧
      (∀ tid, tid ∈ registered ↔ SlotId (calledNames (strip h)) cnt tid) ∧
      obsTests = (es.filter (fun e =>
        !(registered.contains (tidOf e) || skipListed (skipNames h) (tidOf e)))).map tidOf ∧
      (∃ es', fsRead fs2 p = some (render es') ∧ CleanFile es' ∧
        es'.Perm (es.filter (fun e =>
          (registered.contains (tidOf e) || skipListed (skipNames h) (tidOf e)) || !deleting env))) ∧
      (∀ q, q ∈ obsFiles ↔ ∃ name, SimpleName name ∧ (name, false) ∈ GoSnaps.readDir st1.fs (fpDir p) ∧
        q = dirPrefix (fpDir p) ++ name ∧ q ≠ p) ∧
      (∀ q ∈ obsFiles, fsRead fs2 q = if deleting env then none else fsRead st1.fs q) ∧
      (∀ q, q ≠ p → q ∉ obsFiles → fsRead fs2 q = fsRead st1.fs q) := by
  obtain ⟨st1, hr⟩ := goRunS_reached env fs₀ c caller p rel h hsp hok
  refine ⟨st1, hr.run, hr.skipped, fun es hfa => ?_⟩
  obtain ⟨fr, obsT, fs2, wr, crun, hclean⟩ := hr.clean_run parseFile re cnt err opts hcnt hre (fun _ => hjf) hfa
  obtain ⟨hne, hread1⟩ := hr.examined hfa hcalls
  obtain ⟨registered, k1, k2, k3, k4, k5, k6⟩ := clean_exact_skip (worldS env fs₀ c caller h) p
    (opts.head?.getD false) cnt es (calledNames (strip h)).reverse
    ⟨hr.reg.get, hr.reg.mem, hr.reg.keys, hr.reg.sclean⟩ ⟨hr.regExact.nodup, hr.regExact.called⟩ hne hjf hin
    (run_notDir c caller p rel hsp (strip h) { env := env, fs := fs₀ } hnd) hfa.clean hread1 fr obsT fs2 wr crun
  have hwenv := hr.wenv
  refine ⟨fs2, fr.obsolete, obsT, registered, hclean, fun tid => ?_, k2, ?_, ?_, ?_, ?_⟩
  · rw [k1, slotId_reverse]
  · rw [hwenv] at k3; exact k3
  · intro q; rw [k4, hr.rel.fs]
  · intro q hq; rw [k5 q hq, hwenv, hr.rel.fs]
  · intro q hqp hq; rw [k6 q hqp hq, hr.rel.fs]

/-- **C08.2 in the words of the property: a test that merely shares a name prefix is NOT protected.**

Setting of `go_skip_exact`.  After `Clean`, for every entry `e = [t - k]` of the snapshot file (`t` without a
space):
* if its slot was not addressed (as in `go_stale_reported_words`) and `t` is neither the name `N` of a skip
  step nor starts with `N/`, for EVERY skip step — `TestAB` when only `TestA` was skipped, `TestA/x#01` when
  only `TestA/x` was: `sibling_not_covered` — then its id IS in the printed obsolete list; when deleting no entry
  with that header is left in the file; in every other mode `e` itself still is;
* if it is skip-protected its id is NOT in the list and `e` is still in the file (C08.1 again, now with the
  exact content of the file). -/
theorem go_sibling_reported (env : Env) (fs₀ : FS) (c : Cfg) (caller p rel : Text) (h : List SStep)
    (parseFile : Text → List GoDecl × Err) (re : Text → Text → Bool × Bool) (cnt : Nat) (err : Err)
    (opts : List Bool)
    (hsp : ∀ t, snapshotPath c caller t false = (p, some rel)) (hok : HistOK (strip h)) (hcnt : cnt > 0)
    (hre : ∀ s, (re [] s).1 = true)
    (hjf : JoinFaithful (fpDir p)) (hin : InDir p) (hnd : NotDir fs₀ p)
    (hcalls : calledNames (strip h) ≠ []) :
    ∃ st1, goRunS IOFail.never c caller (freshSt env fs₀) h = some st1 ∧
    ∀ es, FileAfter st1.fs p es (strip h) (opts.head?.getD false) →
    ∃ (fs2 : FS) (obsFiles obsTests : List Text) (es' : List Entry),
      Generated.FuncsIO.Clean IOFail.never st1 parseFile re [] ((cnt : Int), err) () opts =
        some { st1 with fs := fs2, stdout := st1.stdout ++ summaryLine (Generated.FuncsIO.summary obsFiles
          obsTests (GoSem.len st1.skipped) st1.events (cleanUpd st1)) } ∧
      fsRead fs2 p = some (render es') ∧ CleanFile es' ∧
      (∀ e ∈ es, ∀ t k, e.id = testID t k → (32 : Byte) ∉ t →
        (∀ t' ∈ calledNames (strip h), ∀ k', e.id = testID t' k' →
          ¬ (k' = (calledNames (strip h)).count t' / cnt ∨
            (1 ≤ k' ∧ k' ≤ (calledNames (strip h)).count t' / cnt))) →
        (∀ N ∈ skipNames h, ¬ (t = N ∨ hasPrefix t (N ++ [slash]) = true)) →
        tidOf e ∈ obsTests ∧
        (deleting env = true → ∀ e' ∈ es', e'.id ≠ e.id) ∧ (deleting env = false → e ∈ es')) ∧
      (∀ e ∈ es, C08.Protected (skipNames h) (tidOf e) → tidOf e ∉ obsTests ∧ e ∈ es') := by
  obtain ⟨st1, e1, _, hmain⟩ := go_skip_exact env fs₀ c caller p rel h parseFile re cnt err opts hsp hok hcnt
    hre hjf hin hnd hcalls
  refine ⟨st1, e1, fun es hfa => ?_⟩
  obtain ⟨fs2, obsF, obsT, registered, hclean, hslots, hobs, ⟨es', hr2, hf', hperm⟩, _, _, _⟩ := hmain es hfa
  refine ⟨fs2, obsF, obsT, es', hclean, hr2, hf', ?_, ?_⟩
  · intro e he t k hid hsp' hstale hsib
    have hnp : skipListed (skipNames h) (tidOf e) = false := by
      rw [skipListed_false_iff, protected_header_iff _ hid hsp']
      rintro ⟨N, hN, hcov⟩
      exact hsib N hN hcov
    exact reported_of_not_kept (K := fun tid => registered.contains tid || skipListed (skipNames h) tid) hobs hperm
      he (by rw [not_registered_of_stale hslots (hfa.clean.recognised e he) hstale, hnp]; rfl)
  · intro e he hp
    have hl : skipListed (skipNames h) (tidOf e) = true := (C08.skipListed_iff _ _).mpr hp
    refine ⟨?_, hperm.mem_iff.mpr (List.mem_filter.mpr ⟨he, by simp [hl]⟩)⟩
    rw [hobs]
    intro hm
    obtain ⟨x, hx, hxe⟩ := List.mem_map.mp hm
    have := (List.mem_filter.mp hx).2
    rw [hxe, hl] at this
    simp at this

/-- **C08.3, end to end: the number printed as "N snapshot(s) skipped" is the number of skip steps.**

After ANY extended history the skip list of the state has one element per skip step — whatever the names:
the same test twice, a parent and then its child — so `GoSem.len st1.skipped` (the expression
`len(skippedTests.values)` of `Clean`) is `skipCount h`; the text `Clean` prints is the transliterated `summary`
of that number; and when it is positive that text is not empty and contains the line
`printEvent "⟳ " "skipped" (skipCount h)` — `⟳ N snapshot(s) skipped` (`SkipHist.printEvent_skipped`) —
whatever else there is to report.  (The FIRST claim holds for every failure oracle: `goRunS_frame`.) -/
theorem go_summary_counts_skips (env : Env) (fs₀ : FS) (c : Cfg) (caller p rel : Text) (h : List SStep)
    (parseFile : Text → List GoDecl × Err) (re : Text → Text → Bool × Bool) (cnt : Nat) (err : Err)
    (opts : List Bool)
    (hsp : ∀ t, snapshotPath c caller t false = (p, some rel)) (hok : HistOK (strip h)) (hcnt : cnt > 0)
    (hre : ∀ s, (re [] s).1 = true)
    (hj : (Generated.shouldClean env && !env.isCI) = true → JoinFaithful (fpDir p)) :
    ∃ st1, goRunS IOFail.never c caller (freshSt env fs₀) h = some st1 ∧
      GoSem.len st1.skipped = ((skipCount h : Nat) : Int) ∧
    ∀ es, FileAfter st1.fs p es (strip h) (opts.head?.getD false) →
    ∃ (fs2 : FS) (obsFiles obsTests : List Text),
      Generated.FuncsIO.Clean IOFail.never st1 parseFile re [] ((cnt : Int), err) () opts =
        some { st1 with fs := fs2, stdout := st1.stdout ++ summaryLine (Generated.FuncsIO.summary obsFiles
          obsTests ((skipCount h : Nat) : Int) st1.events (cleanUpd st1)) } ∧
      (skipCount h > 0 → ∃ pre post,
        Generated.FuncsIO.summary obsFiles obsTests ((skipCount h : Nat) : Int) st1.events (cleanUpd st1) =
          pre ++ printEvent Generated.go_skipSymbol (ofString "skipped") (skipCount h) ++ post) := by
  obtain ⟨st1, hr⟩ := goRunS_reached env fs₀ c caller p rel h hsp hok
  have hlen : GoSem.len st1.skipped = ((skipCount h : Nat) : Int) := by
    unfold GoSem.len skipCount; rw [hr.skipped]
  refine ⟨st1, hr.run, hlen, fun es hfa => ?_⟩
  obtain ⟨fr, obsT, fs, wr, crun, hclean⟩ := hr.clean_run parseFile re cnt err opts hcnt hre hj hfa
  refine ⟨fs, fr.obsolete, obsT, ?_, fun hpos => ?_⟩
  · rw [hclean, hlen]
  · rw [summary_tied_wf fr.obsolete obsT (skipCount h) st1.events (worldS env fs₀ c caller h).events
      (cleanUpd st1) hr.crel.eventsWF hr.crel.passed hr.crel.erred hr.crel.added hr.crel.updated]
    exact summary_skipped_line _ _ _ _ _ _ hpos

/-! ## with a `-run` filter

`go test -run r` hands the pattern to `Clean` (`runOnly`).  `testSkipped` consults the skip list FIRST, so skip
protection is independent of the pattern; beyond it, its second clause keeps an entry iff the pattern does not
match — the WHOLE id `name - k`, with `regexp.MatchString`, not the way `go test` matches the `/`-separated
elements of a test name.  That is what holds of the code, and it is all that holds (findings D7, D8):
* D7: an unregistered, unprotected entry whose id the pattern matches is reported although `go test` did not
  select its test (`E2ES.d7_filtered_out_entry_deleted`: "[TestB/A_case - 1]" under `-run A`);
* D8: for the OTHER files of the directory `isFileSkipped` parses `../<file>.go`; custom names, extensions and
  standalone files of filtered-out tests are reported.  The theorems below say nothing about other files. -/

/-- **the composition under a `-run` filter**: with the tables `cleanOracles` the model covers the call
    (`clean_supported_run`) and the transliterated `Clean`, for ARBITRARY `re` / `parseFile`, is the model's
    `clean` of `worldS` (`Clean_tied_one_dir`; the tables are sound by construction) -/
theorem Clean_reachedS_run {env : Env} {fs₀ : FS} {c : Cfg} {caller p : Text} {h : List SStep} {st1 : St}
    (hr : ReachedS env fs₀ c caller p h st1)
    (parseFile : Text → List GoDecl × Err) (re : Text → Text → Bool × Bool) (runOnly : Text) (cnt : Nat)
    (err : Err) (opts : List Bool) (hcnt : cnt > 0) (hrun : runOnly ≠ [])
    (hj : (Generated.shouldClean env && !env.isCI) = true → JoinFaithful (fpDir p))
    (es : List Entry) (hfa : FileAfter st1.fs p es (strip h) (opts.head?.getD false)) :
    ∃ (fr : FilesResult) (obsT : List Text) (fs2 : FS) (wr : List Text),
      CleanRun (cleanOracles parseFile re runOnly (worldS env fs₀ c caller h).fs (fpDir p) es)
        (worldS env fs₀ c caller h) (opts.head?.getD false) runOnly cnt [] fr obsT fs2 wr ∧
      Generated.FuncsIO.Clean IOFail.never st1 parseFile re runOnly ((cnt : Int), err) () opts =
        some { st1 with fs := fs2, stdout := st1.stdout ++ summaryLine (Generated.FuncsIO.summary fr.obsolete
          obsT (GoSem.len st1.skipped) st1.events (cleanUpd st1)) } := by
  have hsup := clean_supported_run parseFile re runOnly hrun (worldS env fs₀ c caller h)
    (opts.head?.getD false) cnt p es hcnt hr.reg.keys hr.reg.sclean hfa.clean (hr.rel.fs ▸ hfa.holds)
    (hr.file_exists hfa) hfa.total
  obtain ⟨sa, fr, obsT, fs2, wr, crun⟩ := clean_supported _ _ _ runOnly cnt hsup
  have hsa := standalone_nil crun hr.reg.sclean
  subst hsa
  refine ⟨fr, obsT, fs2, wr, crun, ?_⟩
  rw [Clean_tied_one_dir
    (cleanOracles parseFile re runOnly (worldS env fs₀ c caller h).fs (fpDir p) es) st1
    (worldS env fs₀ c caller h) parseFile re runOnly cnt err opts hr.crel
    hcnt (runOracles_parseSound parseFile re runOnly _ _) (runOracles_oracleSound parseFile re runOnly _ _ hrun)
    (fpDir p) (oneDir_of_keys (worldS env fs₀ c caller h) p hr.reg.keys hr.reg.sclean cnt)
    (fun hu => hj (by unfold cleanUpd at hu; rw [hr.env] at hu; exact hu)) hsup, crun.result,
    cleanStdout_go hr.crel]

/-- **C08 under a `-run` filter, end to end — PARTIAL** (see below for what is missing).

Setting of `go_skipped_survive_clean`, but `Clean` is called with a pattern `runOnly ≠ ""`; `re` (standing for
`regexp.MatchString`) and `parseFile` (standing for `go/parser`) are ARBITRARY functions — no hypothesis on
either.  Neither the run nor `Clean` panics, and every entry of the snapshot file that is
* matched (`[t - k]`, `1 ≤ k ≤ (calls of t)/cnt`), or
* skip-protected (`C08.Protected (skipNames h)`: the skip wrappers protect whatever the pattern is), or
* has an id the pattern does not match (`(re runOnly (tidOf e)).1 = false`: `testSkipped`'s second clause)
is not listed obsolete and is in the file afterwards with its body.

PARTIAL — what is missing, and why:
* the CONVERSE (an entry that is none of the three IS reported) needs the file to be examined: it is
  `go_exact_run_filter` below, under the hypotheses of `go_skip_exact`.
* "the `-run` pattern did not select the test" (the property's words) is NOT the third condition: the code
  matches the whole id (D7).  For a pattern without `/` and metacharacters, `re` = substring search, an id
  `name - k` that the pattern does not match belongs to a test whose name the pattern does not match either,
  so the third clause covers every filtered-out top-level test; it does not cover `TestB/A_case` under `-run A`.
* nothing is said about the other files of the snapshot directory (D8). -/
theorem go_survive_clean_run_filter_partial (env : Env) (fs₀ : FS) (c : Cfg) (caller p rel : Text)
    (h : List SStep)
    (parseFile : Text → List GoDecl × Err) (re : Text → Text → Bool × Bool) (runOnly : Text) (cnt : Nat)
    (err : Err) (opts : List Bool)
    (hsp : ∀ t, snapshotPath c caller t false = (p, some rel)) (hok : HistOK (strip h)) (hcnt : cnt > 0)
    (hrun : runOnly ≠ [])
    (hj : (Generated.shouldClean env && !env.isCI) = true → JoinFaithful (fpDir p)) :
    ∃ st1, goRunS IOFail.never c caller (freshSt env fs₀) h = some st1 ∧ st1.skipped = skipNames h ∧
    ∀ es, FileAfter st1.fs p es (strip h) (opts.head?.getD false) →
    ∃ (fs2 : FS) (obsFiles obsTests : List Text),
      Generated.FuncsIO.Clean IOFail.never st1 parseFile re runOnly ((cnt : Int), err) () opts =
        some { st1 with fs := fs2, stdout := st1.stdout ++ summaryLine (Generated.FuncsIO.summary obsFiles
          obsTests (GoSem.len st1.skipped) st1.events (cleanUpd st1)) } ∧
      ∀ must : List Entry, (∀ e ∈ must, e ∈ es) →
        (∀ e ∈ must,
          (∃ t k, e.id = testID t k ∧ 1 ≤ k ∧ k ≤ (calledNames (strip h)).count t / cnt) ∨
          C08.Protected (skipNames h) (tidOf e) ∨ (re runOnly (tidOf e)).1 = false) →
        (∀ e ∈ must, tidOf e ∉ obsTests) ∧
        ∃ es', Holds fs2 p es' ∧ CleanFile es' ∧ (∀ e ∈ must, e ∈ es') ∧ (∀ e ∈ es', e ∈ es) := by
  obtain ⟨st1, hr⟩ := goRunS_reached env fs₀ c caller p rel h hsp hok
  refine ⟨st1, hr.run, hr.skipped, fun es hfa => ?_⟩
  obtain ⟨fr, obsT, fs, wr, crun, hclean⟩ := Clean_reachedS_run hr parseFile re runOnly cnt err opts hcnt hrun hj es
    hfa
  refine ⟨fs, fr.obsolete, obsT, hclean, ?_⟩
  · intro must hall hcov
    obtain ⟨_, k2, ⟨es', e1, e2, e3, e4⟩, _⟩ := clean_keeps_kept_run parseFile re runOnly hrun
      (worldS env fs₀ c caller h) _ cnt p es must hr.reg.keys hr.reg.sclean
      (fun e he => (hcov e he).imp hr.reg.covered id) hfa.clean
      (hr.rel.fs ▸ hfa.holds) hall [] fr obsT fs wr crun
    exact ⟨k2, es', e2, e1, e3, e4⟩

/-- the model's `clean` on one examined snapshot file under a pattern, with the tables `cleanOracles`
    (`clean_exact_skip` for `runOnly ≠ ""`, entries only): it reports EXACTLY the entries that are neither
    registered, nor skip-listed, nor have an id the pattern fails to match -/
theorem clean_exact_run (parseFile : Text → List GoDecl × Err) (re : Text → Text → Bool × Bool)
    (r : Text) (hr : r ≠ []) (w1 : World) (p : Text) (sortOpt : Bool) (cnt : Nat) (es : List Entry)
    (seen : List Text) (hri : RegInv p w1 seen) (hrx : RegExact w1 seen) (hne : w1.cleanup ≠ [])
    (hjf : JoinFaithful (fpDir p)) (hin : InDir p) (hnotdir : NotDir w1.fs p)
    (hf : CleanFile es) (hread1 : fsRead w1.fs p = some (render es))
    (fr : FilesResult) (obsT : List Text) (fs2 : FS) (wr : List Text)
    (crun : CleanRun (cleanOracles parseFile re r w1.fs (fpDir p) es) w1 sortOpt r cnt [] fr obsT fs2 wr) :
    ∃ registered : List Text,
      (∀ tid, tid ∈ registered ↔ SlotId seen cnt tid) ∧
      obsT = (es.filter (fun e => !(registered.contains (tidOf e) || skipListed w1.skipped (tidOf e) ||
        !(re r (tidOf e)).1))).map tidOf ∧
      ∃ es', fsRead fs2 p = some (render es') ∧ CleanFile es' ∧
        es'.Perm (es.filter (fun e => (registered.contains (tidOf e) || skipListed w1.skipped (tidOf e) ||
          !(re r (tidOf e)).1) || !deleting w1.env)) := by
  have hkeys := hri.keys
  obtain ⟨registered, hreg⟩ : ∃ r, registeredFor w1.cleanup p cnt = some r :=
    occurrences_snapshot_total _ cnt
  have hslots := registered_iff_slot w1 p seen cnt registered hri hrx hreg
  have hnrem : p ∉ fr.removed := regPath_not_removed _ w1 p hkeys r _ fr crun.files
  have hframe := (C09.examineFiles_untouched _ _ _ _ _ _ _ crun.files).2.2.2
  have hfiles := crun.files
  rw [cleanRegPaths_single w1 p hne hkeys] at hfiles
  obtain ⟨name, hs, hp⟩ := hin
  have hex : fsRead w1.fs p ≠ none := by rw [hread1]; simp
  have hlist : (name, false) ∈ GoSnaps.readDir w1.fs (fpDir p) :=
    readDir_lists_file w1.fs (fpDir p) name hs.1 hs.2.1 (hp ▸ hex) (hp ▸ hnotdir)
  have hused : fr.used = [p] := by
    rw [examineFiles_run_used _ _ _ _ _ _ hfiles]
    exact filesUsed_eq_single w1.fs p name hjf hs hp hlist
  have hread : fsRead fr.fs p = some (render es) := by rw [hframe p hnrem]; exact hread1
  have hK : ∀ e ∈ es, keptId (cleanOracles parseFile re r w1.fs (fpDir p) es) registered w1.skipped r (tidOf e) =
      (registered.contains (tidOf e) || skipListed w1.skipped (tidOf e) || !(re r (tidOf e)).1) :=
    fun e he => keptId_run _ registered w1.skipped r _ _ (cleanOracles_entry parseFile re r w1.fs (fpDir p) es hr e he)
  obtain ⟨hobs, es', hfs2p, hf', hperm, _⟩ := snaps_single_holds crun p es registered hreg hf
    (fun e he => classified_of_reMatch _ registered w1.skipped r _ _
      (cleanOracles_entry parseFile re r w1.fs (fpDir p) es hr e he)) hused hread
  refine ⟨registered, hslots, ?_, es', hfs2p, hf', ?_⟩
  · rw [hobs]
    congr 1
    exact List.filter_congr (fun e he => by rw [hK e he])
  · rw [show es.filter (fun e => (registered.contains (tidOf e) || skipListed w1.skipped (tidOf e) ||
        !(re r (tidOf e)).1) || !deleting w1.env) =
      es.filter (fun e => keptId (cleanOracles parseFile re r w1.fs (fpDir p) es) registered w1.skipped r
        (tidOf e) || !deleting w1.env) from List.filter_congr (fun e he => by rw [hK e he])]
    exact hperm

/-- **C08 under a `-run` filter, exactly what the code does to the entries of the examined snapshot file.**

Setting of `go_skip_exact` (at least one call, `JoinFaithful`, `InDir p`, `NotDir fs₀ p`), `Clean` called with
a pattern `runOnly ≠ ""`, `re` and `parseFile` ARBITRARY.  `obsTests` is EXACTLY the list of ids of the entries
that are not registered, not skip-protected, and whose WHOLE id the pattern matches; afterwards the file holds
a permutation of the others when deleting, of all entries otherwise.  This is what is true of the code; the
property's "did not select it" is weaker than "the pattern does not match the id" in one direction (D7:
`E2ES.d7_filtered_out_entry_deleted`) and this theorem is the precise replacement.  Nothing is said about the
other files of the directory (D8). -/
theorem go_exact_run_filter (env : Env) (fs₀ : FS) (c : Cfg) (caller p rel : Text) (h : List SStep)
    (parseFile : Text → List GoDecl × Err) (re : Text → Text → Bool × Bool) (runOnly : Text) (cnt : Nat)
    (err : Err) (opts : List Bool)
    (hsp : ∀ t, snapshotPath c caller t false = (p, some rel)) (hok : HistOK (strip h)) (hcnt : cnt > 0)
    (hrun : runOnly ≠ [])
    (hjf : JoinFaithful (fpDir p)) (hin : InDir p) (hnd : NotDir fs₀ p)
    (hcalls : calledNames (strip h) ≠ []) :
    ∃ st1, goRunS IOFail.never c caller (freshSt env fs₀) h = some st1 ∧ st1.skipped = skipNames h ∧
    ∀ es, FileAfter st1.fs p es (strip h) (opts.head?.getD false) →
    ∃ (fs2 : FS) (obsFiles obsTests registered : List Text),
      Generated.FuncsIO.Clean IOFail.never st1 parseFile re runOnly ((cnt : Int), err) () opts =
        some { st1 with fs := fs2, stdout := st1.stdout ++ summaryLine (Generated.FuncsIO.summary obsFiles
          obsTests (GoSem.len st1.skipped) st1.events (cleanUpd st1)) } ∧
      (∀ tid, tid ∈ registered ↔ SlotId (calledNames (strip h)) cnt tid) ∧
      obsTests = (es.filter (fun e => !(registered.contains (tidOf e) ||
        skipListed (skipNames h) (tidOf e) || !(re runOnly (tidOf e)).1))).map tidOf ∧
      ∃ es', fsRead fs2 p = some (render es') ∧ CleanFile es' ∧
        es'.Perm (es.filter (fun e => (registered.contains (tidOf e) ||
          skipListed (skipNames h) (tidOf e) || !(re runOnly (tidOf e)).1) || !deleting env)) := by
  obtain ⟨st1, hr⟩ := goRunS_reached env fs₀ c caller p rel h hsp hok
  refine ⟨st1, hr.run, hr.skipped, fun es hfa => ?_⟩
  obtain ⟨fr, obsT, fs2, wr, crun, hclean⟩ := Clean_reachedS_run hr parseFile re runOnly cnt err opts hcnt hrun
    (fun _ => hjf) es hfa
  obtain ⟨hne, hread1⟩ := hr.examined hfa hcalls
  obtain ⟨registered, k1, k2, es', k3, k4, k5⟩ := clean_exact_run parseFile re runOnly hrun
    (worldS env fs₀ c caller h) p (opts.head?.getD false) cnt es (calledNames (strip h)).reverse
    ⟨hr.reg.get, hr.reg.mem, hr.reg.keys, hr.reg.sclean⟩ ⟨hr.regExact.nodup, hr.regExact.called⟩ hne hjf hin
    (run_notDir c caller p rel hsp (strip h) { env := env, fs := fs₀ } hnd) hfa.clean hread1 fr obsT fs2 wr crun
  refine ⟨fs2, fr.obsolete, obsT, registered, hclean, fun tid => ?_, k2, es', k3, k4, ?_⟩
  · rw [k1, slotId_reverse]
  · rw [hr.wenv] at k5; exact k5

/-! ## concrete histories (non-vacuity)

As in the closed histories of `Tie/EndToEndClean.lean` (`E2E`): test file "/t/a_test.go", snapshot file `xp` =
"/t/__snapshots__/a_test.snap", `envClean` (off CI, `UPDATE_SNAPS=clean`), `xParse` (go/parser always fails),
`cRe` (regexp always matches).  Tests "TestA", "TestB", "TestAB" (shares the prefix "TestA"), "TestA/x" (a
sub-test of "TestA"), "TestA/x#01" (shares the prefix "TestA/x"), "TestZ" (stale). -/

namespace E2ES
open GoSnaps.C07World.Ex (tA tB tZ envClean)
open E2E (xp xc exJoin envReport)
open E2E2 (xp_inDir)

/-- "TestAB" -/
def tAB : Text := tA ++ [66]
/-- "TestA/x" -/
def tAx : Text := tA ++ [47, 120]
/-- "TestA/x#01" -/
def tAx01 : Text := tAx ++ [35, 48, 49]

def eA1 : Entry := ⟨testID tA 1, [120]⟩
def eA2 : Entry := ⟨testID tA 2, [121]⟩
def eB1 : Entry := ⟨testID tB 1, [122]⟩
def eAx : Entry := ⟨testID tAx 1, [119]⟩
def eAx01 : Entry := ⟨testID tAx01 1, [117]⟩
def eAB : Entry := ⟨testID tAB 1, [118]⟩
def eZ : Entry := ⟨testID tZ 1, [113]⟩

/-! ### run 1 records two entries of "TestA"; in run 2 "TestA" calls `snaps.Skip` and "TestB" runs; `Clean` in
clean mode -/

def run1 : List Step := [.call tA [120] .raw 1, .call tA [121] .raw 1, .done 1]
def fs1 : FS := [(xp, render [eA1, eA2])]
/-- run 2: "TestA" calls `snaps.Skip(t)` and ends; "TestB" makes one call and ends -/
def run2 : List SStep :=
  [.skip tA 1 (.skip []), .run (.done 1), .run (.call tB [122] .raw 2), .run (.done 2)]
def es2 : List Entry := [eA1, eA2, eB1]

theorem run1_fs : (goRun IOFail.never {} xc (freshSt envClean []) run1).map (fun s => s.fs) = some fs1 := by
  decide +kernel

/-- run 2, through the transliterated `Skip` and flows: the file gains "[TestB - 1]", the skip list is
    ["TestA"], and the tests were told: the skip log line, `t.Skip()`, "added" -/
theorem run2_state : (goRunS IOFail.never {} xc (freshSt envClean fs1) run2).map
      (fun s => (s.fs, s.skipped, s.tev)) =
    some ([(xp, render es2)], [tA],
      [.log Generated.go_skippedMsg, .skip [], .log Generated.go_addedMsg]) := by decide +kernel

theorem run2_fileAfter (st1 : St) (e1 : goRunS IOFail.never {} xc (freshSt envClean fs1) run2 = some st1) :
    FileAfter st1.fs xp es2 (strip run2) false := by
  have hfs : st1.fs = [(xp, render es2)] := by
    have := run2_state
    rw [e1] at this
    exact congrArg Prod.fst (Option.some.inj this)
  rw [hfs]
  exact fileAfter_single xp es2 _
    ⟨by decide +kernel, by decide +kernel, by decide +kernel, by decide +kernel, by decide +kernel⟩

/-- **C08.1 applies** (all hypotheses by evaluation): "[TestA - 1]" and "[TestA - 2]" — entries of a test that
    made NO call in this process and called `snaps.Skip` — are not listed obsolete and are still in the file
    after `Clean` in clean mode -/
example : ∃ st1, goRunS IOFail.never {} xc (freshSt envClean fs1) run2 = some st1 ∧
    ∃ (fs2 : FS) (obsFiles obsTests : List Text) (es' : List Entry),
      Generated.FuncsIO.Clean IOFail.never st1 xParse cRe [] (((1 : Nat) : Int), Err.nil) () [] =
        some { st1 with fs := fs2, stdout := st1.stdout ++ summaryLine (Generated.FuncsIO.summary obsFiles
          obsTests (GoSem.len st1.skipped) st1.events (cleanUpd st1)) } ∧
      Holds fs2 xp es' ∧ tidOf eA1 ∉ obsTests ∧ tidOf eA2 ∉ obsTests ∧ eA1 ∈ es' ∧ eA2 ∈ es' := by
  obtain ⟨st1, e1, hmain⟩ := go_skipped_survive_clean_words envClean fs1 {} xc xp C01World.exRel run2 xParse cRe 1
    Err.nil [] C01World.exPath_spec (by decide) (by decide) (fun _ => rfl) (fun _ => exJoin)
  obtain ⟨fs2, oF, oT, es', hc, k2, _, _, hk⟩ := hmain es2 (run2_fileAfter st1 e1)
  obtain ⟨a1, a2⟩ := hk tA (by decide) (by decide) eA1 (by decide +kernel) 1 (Or.inl rfl)
  obtain ⟨b1, b2⟩ := hk tA (by decide) (by decide) eA2 (by decide +kernel) 2 (Or.inl rfl)
  exact ⟨st1, e1, fs2, oF, oT, es', hc, k2, a1, b1, a2, b2⟩

/-- … and this is what the transliterated code does, by evaluation: nothing is obsolete, the file keeps the
    three entries, the summary is that of ONE skip and contains the line "⟳ 1 snapshot skipped" -/
example :
    ((goRunS IOFail.never {} xc (freshSt envClean fs1) run2).bind fun st1 =>
      (Generated.FuncsIO.Clean IOFail.never st1 xParse cRe [] (1, Err.nil) () []).map fun st2 =>
        (st2.fs, decide (st2.stdout = st1.stdout ++ summaryLine (Generated.FuncsIO.summary [] [] 1 st1.events
          (cleanUpd st1))),
         containsSub st2.stdout (printEvent Generated.go_skipSymbol (ofString "skipped") 1))) =
      some ([(xp, render es2)], true, true) := by decide +kernel

/-- WITHOUT the `Skip` call the same process loses both entries of "TestA" (`goRunS` on a history without skip
    steps is `goRun`: `goRunS_noSkip`) -/
example :
    ((goRunS IOFail.never {} xc (freshSt envClean fs1) (run2.drop 1)).bind fun st1 =>
      (Generated.FuncsIO.Clean IOFail.never st1 xParse cRe [] (1, Err.nil) () []).map fun st2 => st2.fs) =
      some [(xp, render [eB1])] := by decide +kernel

/-! ### exactness: a descendant, a sibling, a stale entry; three skip calls (a repeated name, parent then child) -/

def esK : List Entry := [eA1, eAx, eAB, eZ]
def fsK : FS := [(xp, render esK)]
/-- "TestA" calls `SkipNow`; "TestB" makes a call; "TestA/x" calls `Skipf`; "TestA" calls `Skip` (again) -/
def histK : List SStep :=
  [.skip tA 1 .skipNow, .run (.call tB [122] .raw 2), .skip tAx 3 (.skipf [37, 115] [[97]]),
   .skip tA 1 (.skip []), .run (.done 2)]
def esK' : List Entry := esK ++ [eB1]

theorem histK_fileAfter (st1 : St) (e1 : goRunS IOFail.never {} xc (freshSt envClean fsK) histK = some st1) :
    FileAfter st1.fs xp esK' (strip histK) false := by
  have hfs : st1.fs = [(xp, render esK')] := by
    have := congrArg (Option.map (fun s : St => s.fs)) e1
    rw [show (goRunS IOFail.never {} xc (freshSt envClean fsK) histK).map (fun s => s.fs) =
      some [(xp, render esK')] from by decide +kernel] at this
    exact (Option.some.inj this).symm
  rw [hfs]
  exact fileAfter_single xp esK' _
    ⟨by decide +kernel, by decide +kernel, by decide +kernel, by decide +kernel, by decide +kernel⟩

theorem fsK_notDir : NotDir fsK xp := notDir_of_paths _ _ (by decide +kernel)

/-- **C08.2 applies** (all hypotheses by evaluation): the sibling "[TestAB - 1]" IS in the printed list and no
    entry with that header is left; the descendant "[TestA/x - 1]" and "[TestA - 1]" are not in the list and
    are still in the file -/
example : ∃ st1, goRunS IOFail.never {} xc (freshSt envClean fsK) histK = some st1 ∧
    ∃ (fs2 : FS) (obsFiles obsTests : List Text) (es' : List Entry),
      Generated.FuncsIO.Clean IOFail.never st1 xParse cRe [] (((1 : Nat) : Int), Err.nil) () [] =
        some { st1 with fs := fs2, stdout := st1.stdout ++ summaryLine (Generated.FuncsIO.summary obsFiles
          obsTests (GoSem.len st1.skipped) st1.events (cleanUpd st1)) } ∧
      fsRead fs2 xp = some (render es') ∧ tidOf eAB ∈ obsTests ∧ (∀ e' ∈ es', e'.id ≠ eAB.id) ∧
      tidOf eAx ∉ obsTests ∧ eAx ∈ es' ∧ tidOf eA1 ∉ obsTests ∧ eA1 ∈ es' := by
  obtain ⟨st1, e1, hmain⟩ := go_sibling_reported envClean fsK {} xc xp C01World.exRel histK xParse cRe 1
    Err.nil [] C01World.exPath_spec (by decide) (by decide) (fun _ => rfl) exJoin xp_inDir fsK_notDir (by decide)
  obtain ⟨fs2, oF, oT, es', hc, hr2, _, hsib, hprot⟩ := hmain esK' (histK_fileAfter st1 e1)
  obtain ⟨s1, s2, _⟩ := hsib eAB (by decide +kernel) tAB 1 rfl (by decide)
    (by
      intro t' ht' k' hid
      -- the header names its test (`C03.header_injective`), and "TestAB" made no call
      have hz : tAB = t' := (C03.header_injective tAB t' 1 k' hid).1
      exact absurd (hz ▸ ht') (by decide +kernel))
    (by decide +kernel)
  obtain ⟨p1, p2⟩ := hprot eAx (by decide +kernel)
    (protected_descendant (N := tA) (sub := [120]) _ (by decide +kernel) rfl (by decide) (by decide))
  obtain ⟨q1, q2⟩ := hprot eA1 (by decide +kernel)
    (protected_self (N := tA) _ (by decide +kernel) rfl (by decide))
  exact ⟨st1, e1, fs2, oF, oT, es', hc, hr2, s1, s2 rfl, p1, p2, q1, q2⟩

/-- **C08.3 applies**: three skip steps (the same name twice, a parent and then its child) — the number handed
    to `summary` is 3 -/
example : ∃ st1, goRunS IOFail.never {} xc (freshSt envClean fsK) histK = some st1 ∧
    GoSem.len st1.skipped = 3 ∧
    ∃ (fs2 : FS) (obsFiles obsTests : List Text) (pre post : Text),
      Generated.FuncsIO.Clean IOFail.never st1 xParse cRe [] (((1 : Nat) : Int), Err.nil) () [] =
        some { st1 with fs := fs2, stdout := st1.stdout ++ summaryLine (Generated.FuncsIO.summary obsFiles
          obsTests 3 st1.events (cleanUpd st1)) } ∧
      Generated.FuncsIO.summary obsFiles obsTests 3 st1.events (cleanUpd st1) =
        pre ++ printEvent Generated.go_skipSymbol (ofString "skipped") 3 ++ post := by
  obtain ⟨st1, e1, hlen, hmain⟩ := go_summary_counts_skips envClean fsK {} xc xp C01World.exRel histK xParse cRe 1
    Err.nil [] C01World.exPath_spec (by decide) (by decide) (fun _ => rfl) (fun _ => exJoin)
  obtain ⟨fs2, oF, oT, hc, hline⟩ := hmain esK' (histK_fileAfter st1 e1)
  have h3 : skipCount histK = 3 := by decide +kernel
  rw [h3] at hlen hc hline
  obtain ⟨pre, post, hpp⟩ := hline (by decide)
  exact ⟨st1, e1, hlen, fs2, oF, oT, pre, post, hc, hpp⟩

/-- … by evaluation: `Clean` prints the summary of `obsTests = [TestAB - 1, TestZ - 1]` and THREE skips (it
    contains "⟳ 3 snapshots skipped"), prunes exactly those two entries and keeps "[TestA - 1]",
    "[TestA/x - 1]" and the new "[TestB - 1]" -/
example :
    ((goRunS IOFail.never {} xc (freshSt envClean fsK) histK).bind fun st1 =>
      (Generated.FuncsIO.Clean IOFail.never st1 xParse cRe [] (1, Err.nil) () []).map fun st2 =>
        (st2.fs, st1.skipped, decide (st2.stdout = st1.stdout ++ summaryLine (Generated.FuncsIO.summary []
          [tidOf eAB, tidOf eZ] 3 st1.events (cleanUpd st1))),
         containsSub st2.stdout (printEvent Generated.go_skipSymbol (ofString "skipped") 3))) =
      some ([(xp, render [eA1, eAx, eB1])], [tA, tAx, tA], true, true) := by decide +kernel

/-- the same process in REPORT mode: the two stale ids are printed, nothing is removed -/
example :
    ((goRunS IOFail.never {} xc (freshSt envReport fsK) histK).bind fun st1 =>
      (Generated.FuncsIO.Clean IOFail.never st1 xParse cRe [] (1, Err.nil) () []).map fun st2 =>
        (decide (st2.fs = st1.fs), decide (st2.stdout = st1.stdout ++ summaryLine (Generated.FuncsIO.summary []
          [tidOf eAB, tidOf eZ] 3 st1.events (cleanUpd st1))))) = some (true, true) := by decide +kernel

/-- "TestA/x#01" against the skipped "TestA/x" (only the sub-test is skipped): "[TestA/x - 1]" is kept,
    "[TestA/x#01 - 1]" and "[TestA - 1]" (the parent is not protected by its child) are reported and pruned -/
example :
    ((goRunS IOFail.never {} xc (freshSt envClean [(xp, render [eA1, eAx, eAx01])])
        [.skip tAx 3 (.skip []), .run (.call tB [122] .raw 2), .run (.done 2)]).bind fun st1 =>
      (Generated.FuncsIO.Clean IOFail.never st1 xParse cRe [] (1, Err.nil) () []).map fun st2 =>
        (st2.fs, decide (st2.stdout = st1.stdout ++ summaryLine (Generated.FuncsIO.summary []
          [tidOf eA1, tidOf eAx01] 1 st1.events (cleanUpd st1))))) =
      some ([(xp, render [eAx, eB1])], true) := by decide +kernel

example : ¬ (tAx01 = tAx ∨ hasPrefix tAx01 (tAx ++ [slash]) = true) :=
  sibling_not_covered tAx [48, 49] 35 (by decide)

/-- a function standing for `regexp.MatchString` on plain patterns: substring search -/
def subRe : Text → Text → Bool × Bool := fun pat s => (containsSub s pat, false)

/-- "TestB/A_case" -/
def tBA : Text := tB ++ [47, 65, 95, 99, 97, 115, 101]
def eBA : Entry := ⟨testID tBA 1, [116]⟩
/-- the file before the run: entries of "TestB", "TestB/A_case" and "TestZ" -/
def fsR : FS := [(xp, render [eB1, eBA, eZ])]
/-- `go test -run A`: "TestA" runs (one call); "TestB" and its sub-test "TestB/A_case" are not selected; a
    test "TestZ" called `snaps.Skip` -/
def histR : List SStep := [.skip tZ 3 (.skip []), .run (.call tA [120] .raw 1), .run (.done 1)]
def esR : List Entry := [eB1, eBA, eZ, eA1]

theorem histR_fileAfter (st1 : St) (e1 : goRunS IOFail.never {} xc (freshSt envClean fsR) histR = some st1) :
    FileAfter st1.fs xp esR (strip histR) false := by
  have hfs : st1.fs = [(xp, render esR)] := by
    have := congrArg (Option.map (fun s : St => s.fs)) e1
    rw [show (goRunS IOFail.never {} xc (freshSt envClean fsR) histR).map (fun s => s.fs) =
      some [(xp, render esR)] from by decide +kernel] at this
    exact (Option.some.inj this).symm
  rw [hfs]
  exact fileAfter_single xp esR _
    ⟨by decide +kernel, by decide +kernel, by decide +kernel, by decide +kernel, by decide +kernel⟩

/-- **the `-run` theorem applies** (pattern "A", substring search, hypotheses by evaluation): "[TestB - 1]"
    (filtered out: its id does not contain "A"), "[TestZ - 1]" (skip-protected) and "[TestA - 1]" (matched)
    are not listed and are still in the file -/
example : ∃ st1, goRunS IOFail.never {} xc (freshSt envClean fsR) histR = some st1 ∧
    ∃ (fs2 : FS) (obsFiles obsTests : List Text) (es' : List Entry),
      Generated.FuncsIO.Clean IOFail.never st1 xParse subRe [65] (((1 : Nat) : Int), Err.nil) () [] =
        some { st1 with fs := fs2, stdout := st1.stdout ++ summaryLine (Generated.FuncsIO.summary obsFiles
          obsTests (GoSem.len st1.skipped) st1.events (cleanUpd st1)) } ∧
      Holds fs2 xp es' ∧ (∀ e ∈ [eB1, eZ, eA1], tidOf e ∉ obsTests ∧ e ∈ es') := by
  obtain ⟨st1, e1, _, hmain⟩ := go_survive_clean_run_filter_partial envClean fsR {} xc xp C01World.exRel histR
    xParse subRe [65] 1 Err.nil [] C01World.exPath_spec (by decide) (by decide) (by decide) (fun _ => exJoin)
  obtain ⟨fs2, oF, oT, hc, hk⟩ := hmain esR (histR_fileAfter st1 e1)
  obtain ⟨k1, es', k2, _, k4, _⟩ := hk [eB1, eZ, eA1] (by decide +kernel) (by
    intro e he
    simp only [List.mem_cons, List.not_mem_nil, or_false] at he
    rcases he with rfl | rfl | rfl
    · exact Or.inr (Or.inr (by decide +kernel))
    · exact Or.inr (Or.inl (protected_self (N := tZ) _ (by decide +kernel) rfl (by decide)))
    · exact Or.inl ⟨tA, 1, rfl, by decide, by decide +kernel⟩)
  exact ⟨st1, e1, fs2, oF, oT, es', hc, k2, fun e he => ⟨k1 e he, k4 e he⟩⟩

theorem fsR_notDir : NotDir fsR xp := notDir_of_paths _ _ (by decide +kernel)

/-- **exactness under `-run` applies** (hypotheses by evaluation): "[TestB/A_case - 1]" — not registered, not
    skip-protected, and its id contains "A" — IS in the printed list, and the entry is not in the file afterwards -/
example : ∃ st1, goRunS IOFail.never {} xc (freshSt envClean fsR) histR = some st1 ∧
    ∃ (fs2 : FS) (obsFiles obsTests : List Text) (es' : List Entry),
      Generated.FuncsIO.Clean IOFail.never st1 xParse subRe [65] (((1 : Nat) : Int), Err.nil) () [] =
        some { st1 with fs := fs2, stdout := st1.stdout ++ summaryLine (Generated.FuncsIO.summary obsFiles
          obsTests (GoSem.len st1.skipped) st1.events (cleanUpd st1)) } ∧
      fsRead fs2 xp = some (render es') ∧ tidOf eBA ∈ obsTests ∧ eBA ∉ es' := by
  obtain ⟨st1, e1, _, hmain⟩ := go_exact_run_filter envClean fsR {} xc xp C01World.exRel histR xParse subRe [65] 1
    Err.nil [] C01World.exPath_spec (by decide) (by decide) (by decide) exJoin xp_inDir fsR_notDir (by decide)
  obtain ⟨fs2, oF, oT, reg, hc, hslots, hobs, es', r2, _, hperm⟩ := hmain esR (histR_fileAfter st1 e1)
  have hnreg : reg.contains (tidOf eBA) = false := by
    have hn : tidOf eBA ∉ reg := by
      intro hm
      obtain ⟨t, ht, k, hk, _⟩ := (hslots _).mp hm
      -- a registered id is the id of a called test (`C03.header_injective`), and "TestB/A_case" made no call
      have hz : tBA = t := (C03.header_injective tBA t 1 k
        (id_eq_testID_of_tid (C07World.recognised_testID tBA [116] 1 (by decide)) hk)).1
      exact absurd (hz ▸ ht) (by decide +kernel)
    simpa using hn
  have hpred : (!(reg.contains (tidOf eBA) || skipListed (skipNames histR) (tidOf eBA) ||
      !(subRe [65] (tidOf eBA)).1)) = true := by
    rw [hnreg]; decide +kernel
  refine ⟨st1, e1, fs2, oF, oT, es', hc, r2, ?_, ?_⟩
  · rw [hobs]
    exact List.mem_map.mpr ⟨eBA, List.mem_filter.mpr ⟨by decide +kernel, hpred⟩, rfl⟩
  · intro hm
    have := (List.mem_filter.mp (hperm.mem_iff.mp hm)).2
    have hd : deleting envClean = true := by decide
    rw [hd] at this
    simp only [Bool.not_true, Bool.or_false] at this
    rw [this] at hpred
    cases hpred

/-- **finding D7, by evaluation**: in that process "[TestB/A_case - 1]" — an entry of a sub-test `go test -run A`
    did not select — is reported and pruned: the pattern is matched against the whole id -/
theorem d7_filtered_out_entry_deleted :
    ((goRunS IOFail.never {} xc (freshSt envClean fsR) histR).bind fun st1 =>
      (Generated.FuncsIO.Clean IOFail.never st1 xParse subRe [65] (1, Err.nil) () []).map fun st2 =>
        (st2.fs, decide (st2.stdout = st1.stdout ++ summaryLine (Generated.FuncsIO.summary []
          [tidOf eBA] 1 st1.events (cleanUpd st1))))) =
      some ([(xp, render [eB1, eZ, eA1])], true) := by decide +kernel

/-- "/t/__snapshots__/b_test.snap": a snapshot file of ANOTHER test file of the package -/
def xq : Text :=
  [47, 116, 47, 95, 95, 115, 110, 97, 112, 115, 104, 111, 116, 115, 95, 95, 47, 98, 95, 116, 101, 115, 116, 46,
   115, 110, 97, 112]

/-- **finding D6, by evaluation: "the entry is in the file the calls address" cannot be dropped.**  `xq` holds
    "[TestA - 1]"; "TestA" calls `snaps.Skip` (it is the only test of its file, so nothing registers `xq`);
    "TestB" of "a_test.go" makes a call, so the directory is visited: `Clean` in clean mode reports `xq` as an
    obsolete FILE and deletes it, with the entry of the skipped test in it -/
theorem d6_unaddressed_file_deleted :
    ((goRunS IOFail.never {} xc (freshSt envClean [(xp, render [eB1]), (xq, render [eA1])])
        [.skip tA 1 (.skip []), .run (.call tB [122] .raw 2), .run (.done 2)]).bind fun st1 =>
      (Generated.FuncsIO.Clean IOFail.never st1 xParse cRe [] (1, Err.nil) () []).map fun st2 =>
        (st1.fs, st2.fs, decide (st2.stdout = st1.stdout ++ summaryLine (Generated.FuncsIO.summary [xq]
          [] 1 st1.events (cleanUpd st1))))) =
      some ([(xp, render [eB1]), (xq, render [eA1])], [(xp, render [eB1])], true) := by decide +kernel

/-- a process in which tests only skip: `Clean` knows no directory, touches nothing, and still counts the
    skips -/
theorem skip_only :
    ((goRunS IOFail.never {} xc (freshSt envClean fsK) [.skip tA 1 .skipNow, .skip tB 2 (.skip [])]).bind
      fun st1 => (Generated.FuncsIO.Clean IOFail.never st1 xParse cRe [] (1, Err.nil) () []).map fun st2 =>
        (decide (st2.fs = fsK), decide (st2.stdout = st1.stdout ++ summaryLine (Generated.FuncsIO.summary []
          [] 2 st1.events (cleanUpd st1))))) = some (true, true) := by decide +kernel

end E2ES

end GoSnaps.Tie
