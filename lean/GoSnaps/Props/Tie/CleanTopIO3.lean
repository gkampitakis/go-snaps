/-
The model's `examineSnaps` (`GoSnaps/Clean.lean`) file by file (`fileRes`,
`Lemmas/Clean.lean`), and its
invariance under a permutation of the used files (pairwise different) and under replacing the
file system by one with the same content.  Needed by `Clean_tied` (`Props/Tie/CleanTopIO.lean`):
the transliterated `examineFiles` returns the used files in the order in which it happened to visit
the directories, the model in its canonical order.
-/
import GoSnaps.Clean
import GoSnaps.Lemmas.Clean
import GoSnaps.Props.Tie.SnapshotIO
namespace GoSnaps.Tie
open GoSnaps GoSnaps.GoIO

/-- the per-file result for the content `p` has in `fs0` -/
def resAt (o : Oracles) (cleanup : List (RegKey × Nat)) (skipped : List Text) (runOnly : Text) (count : Nat)
    (update sort : Bool) (fs0 : FS) (p : Text) : Option (List Text × Option Text) :=
  match fsRead fs0 p with
  | none => none
  | some content =>
    match fileRes o cleanup skipped runOnly count update sort p content with
    | .inl _ => none
    | .inr r => some r

def obAt (o : Oracles) (cleanup : List (RegKey × Nat)) (skipped : List Text) (runOnly : Text) (count : Nat)
    (update sort : Bool) (fs0 : FS) (p : Text) : List Text :=
  match resAt o cleanup skipped runOnly count update sort fs0 p with
  | some r => r.1
  | none => []

/-- the content of `q` after the used files among `used` have been processed -/
def contentAfter (o : Oracles) (cleanup : List (RegKey × Nat)) (skipped : List Text) (runOnly : Text) (count : Nat)
    (update sort : Bool) (fs0 : FS) (used : List Text) (fs : FS) (q : Text) : Option Text :=
  if q ∈ used then
    match resAt o cleanup skipped runOnly count update sort fs0 q with
    | some (_, some c) => some c
    | _ => fsRead fs q
  else fsRead fs q

/-- **the model's file loop, file by file**: if the used files are pairwise different and have in
    `fs` the content they have in `fs0`, the loop succeeds iff every file has a per-file result, and
    then the obsolete ids are the concatenation of the per-file ones and every file has its per-file
    new content -/
theorem examineSnaps_go_files (o : Oracles) (cleanup : List (RegKey × Nat)) (skipped : List Text) (runOnly : Text)
    (count : Nat) (update sort : Bool) (fs0 : FS) (used : List Text) (hnd : used.Nodup) (fs : FS) (obs written : List Text)
    (hfs : ∀ p ∈ used, fsRead fs p = fsRead fs0 p) :
    (∀ obs' fs' written', examineSnaps.go o cleanup skipped runOnly count update sort used fs obs written = .ok obs' fs' written' →
      ∀ p ∈ used, (resAt o cleanup skipped runOnly count update sort fs0 p).isSome = true) ∧
    ((∀ p ∈ used, (resAt o cleanup skipped runOnly count update sort fs0 p).isSome = true) →
      ∃ fs' written', examineSnaps.go o cleanup skipped runOnly count update sort used fs obs written =
          .ok (obs ++ used.flatMap (obAt o cleanup skipped runOnly count update sort fs0)) fs' written' ∧
        ∀ q, fsRead fs' q = contentAfter o cleanup skipped runOnly count update sort fs0 used fs q) := by
  induction used generalizing fs obs written with
  | nil =>
    refine ⟨(fun _ _ _ _ p hp => by cases hp), fun _ => ⟨fs, written, ?_, fun q => ?_⟩⟩
    · rw [examineSnaps_go_nil]; simp
    · simp [contentAfter]
  | cons p rest ih =>
    have hp0 := hfs p (by simp)
    have hrest : ∀ q ∈ rest, q ≠ p := fun q hq e => (List.nodup_cons.mp hnd).1 (e ▸ hq)
    rw [examineSnaps_go_cons']
    cases hr : fsRead fs0 p with
    | none =>
      rw [hr] at hp0
      refine ⟨fun _ _ _ h => ?_, fun h => ?_⟩
      · rw [hp0] at h; cases h
      · have := h p (by simp)
        simp [resAt, hr] at this
    | some content =>
      rw [hr] at hp0
      rw [hp0]
      simp only
      cases hf : fileRes o cleanup skipped runOnly count update sort p content with
      | inl bad =>
        refine ⟨fun obs' fs' written' h => ?_, fun h => ?_⟩
        · -- a failure outcome is not `.ok`
          exact absurd h (bad.outcome_ne_ok obs' fs' written')
        · have := h p (by simp)
          simp [resAt, hr, hf] at this
      | inr r =>
        obtain ⟨ob, nc⟩ := r
        have hres : resAt o cleanup skipped runOnly count update sort fs0 p = some (ob, nc) := by
          simp [resAt, hr, hf]
        -- either way the loop goes on from a file system that differs from `fs` at most at `p`
        suffices tail : ∀ fs1 w1, (∀ q, q ≠ p → fsRead fs1 q = fsRead fs q) →
            fsRead fs1 p = (match nc with | some c => some c | none => fsRead fs p) →
            (∀ obs' fs' written', examineSnaps.go o cleanup skipped runOnly count update sort rest fs1 (obs ++ ob) w1 =
                .ok obs' fs' written' →
              ∀ q ∈ p :: rest, (resAt o cleanup skipped runOnly count update sort fs0 q).isSome = true) ∧
            ((∀ q ∈ p :: rest, (resAt o cleanup skipped runOnly count update sort fs0 q).isSome = true) →
              ∃ fs' written', examineSnaps.go o cleanup skipped runOnly count update sort rest fs1 (obs ++ ob) w1 =
                  .ok (obs ++ (p :: rest).flatMap (obAt o cleanup skipped runOnly count update sort fs0)) fs' written' ∧
                ∀ q, fsRead fs' q = contentAfter o cleanup skipped runOnly count update sort fs0 (p :: rest) fs q) by
          cases nc with
          | none => exact tail fs written (fun _ _ => rfl) rfl
          | some c => exact tail _ _ (fun q hq => C19.fsRead_fsWrite_other _ _ _ _ hq) (C19.fsRead_fsWrite_same _ _ _)
        intro fs1 w1 hne hp1
        obtain ⟨ih1, ih2⟩ := ih (List.nodup_cons.mp hnd).2 fs1 (obs ++ ob) w1
          (fun q hq => by rw [hne q (hrest q hq)]; exact hfs q (by simp [hq]))
        refine ⟨fun obs' fs' written' h q hq => ?_, fun h => ?_⟩
        · rcases List.mem_cons.mp hq with rfl | hq'
          · rw [hres]; rfl
          · exact ih1 obs' fs' written' h q hq'
        · obtain ⟨fs', written', h1, h2⟩ := ih2 (fun q hq => h q (by simp [hq]))
          refine ⟨fs', written', ?_, fun q => ?_⟩
          · rw [h1]; simp [List.flatMap_cons, obAt, hres]
          · rw [h2]
            unfold contentAfter
            by_cases hq : q ∈ rest
            · have : q ∈ p :: rest := by simp [hq]
              simp only [hq, this, ↓reduceIte, hne q (hrest q hq)]
            · by_cases hqp : q = p
              · subst hqp
                cases nc <;> simp [hq, hres, hp1]
              · simp [hq, hqp, hne q hqp]

theorem examineSnaps_def (o : Oracles) (fs : FS) (cleanup : List (RegKey × Nat)) (skipped used : List Text)
    (runOnly : Text) (count : Nat) (update sort : Bool) :
    GoSnaps.examineSnaps o fs cleanup skipped used runOnly count update sort =
      examineSnaps.go o cleanup skipped runOnly count update sort used fs [] [] := rfl

/-- **the model's `examineSnaps` does not depend on the order of the used files** (pairwise
    different) nor on the representation of the file system: the obsolete ids are permuted, the
    resulting file systems have the same content -/
theorem examineSnaps_perm (o : Oracles) (cleanup : List (RegKey × Nat)) (skipped : List Text) (runOnly : Text)
    (count : Nat) (update sort : Bool) (used used₂ : List Text) (fs fs₂ : FS)
    (hnd : used.Nodup) (hp : used₂.Perm used) (hfs : ∀ p, fsRead fs₂ p = fsRead fs p)
    (obs' : List Text) (fs' : FS) (written' : List Text)
    (h : GoSnaps.examineSnaps o fs cleanup skipped used runOnly count update sort = .ok obs' fs' written') :
    ∃ obs₂ fs₂' written₂, GoSnaps.examineSnaps o fs₂ cleanup skipped used₂ runOnly count update sort = .ok obs₂ fs₂' written₂ ∧
      obs₂.Perm obs' ∧ ∀ q, fsRead fs₂' q = fsRead fs' q := by
  rw [examineSnaps_def] at h ⊢
  obtain ⟨a1, a2⟩ := examineSnaps_go_files o cleanup skipped runOnly count update sort fs used hnd fs [] []
    (fun _ _ => rfl)
  have hall := a1 _ _ _ h
  obtain ⟨fs1, w1, g1, g2⟩ := a2 hall
  rw [h] at g1
  simp only [SnapsOutcome.ok.injEq, List.nil_append] at g1
  obtain ⟨e1, e2, _⟩ := g1
  obtain ⟨_, b2⟩ := examineSnaps_go_files o cleanup skipped runOnly count update sort fs used₂ (hp.symm.nodup hnd) fs₂ [] []
    (fun p _ => hfs p)
  obtain ⟨fs2, w2, k1, k2⟩ := b2 (fun p hp' => hall p (hp.mem_iff.mp hp'))
  refine ⟨_, fs2, w2, k1, ?_, fun q => ?_⟩
  · rw [e1]; simp only [List.nil_append]; exact hp.flatMap_right _
  · rw [k2, e2, g2]
    unfold contentAfter
    by_cases hq : q ∈ used
    · rw [if_pos hq, if_pos (hp.mem_iff.mpr hq), hfs]
    · rw [if_neg hq, if_neg (fun e => hq (hp.mem_iff.mp e)), hfs]

end GoSnaps.Tie
