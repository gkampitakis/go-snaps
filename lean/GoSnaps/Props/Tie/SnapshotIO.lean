/-
Tie by proof: the writing file functions of snaps/snapshot.go (`Generated/FuncsIO.lean`):
`removeSnapshot`, `overwriteFile`, `addNewSnapshot`, `updateSnapshot`, `upsertStandaloneSnapshot`,
`getPrevStandaloneSnapshot`.

The theorems:
* `…_eq`   : the transliteration, for EVERY failure oracle `io` (`removeSnapshot` takes none), as a decision
             tree over the oracle's
             answers and the file system (the strongest statement; everything else is a corollary);
             the proofs evaluate the oracle's answers by `simp`, and `rfl` closes what is left of the
             desugared `do` block;
* `…_tied` : under `IOFail.never` the transliteration equals the model (`frame`, `update`, `fsWrite`;
             for `removeSnapshot`: the `dropWhile` the model's `updateL` does);
* `…_fail` / `…_ok` (`addNewSnapshot`, `updateSnapshot`, `upsertStandaloneSnapshot`): what a non-nil / nil
             error says about the resulting file system, for every oracle.

Scanner loops follow the pattern of `Props/Tie/Snapshot.lean` (`rm_loop`, `upd_loop`: lemma for an
arbitrary loop body characterised on each kind of scanner state).  The `example`s run the functions
on a concrete two-entry file (non-vacuity).
-/
import GoSnaps.GoIO
import GoSnaps.Format
import GoSnaps.Model
import GoSnaps.Generated.FuncsIO
import GoSnaps.Props.C19
import GoSnaps.Props.Tie.Snapshot
namespace GoSnaps.Tie
open GoSnaps GoSnaps.GoIO
open GoSnaps.Generated.FuncsIO

/-! ## file-system facts -/

theorem fsWrite_fsWrite (fs : FS) (p a b : Text) : fsWrite (fsWrite fs p a) p b = fsWrite fs p b := by
  induction fs with
  | nil => simp [fsWrite]
  | cons x m ih =>
    obtain ⟨p', c'⟩ := x
    by_cases h : p' = p
    · simp [fsWrite, h]
    · simp [fsWrite, h, ih]

/-! ## fixtures of the examples -/

/-- a two-entry snapshot file: ids `a`, `b`, bodies `x`, `y` -/
def exFile : Text := [10,97,10,120,10,45,45,45,10, 10,98,10,121,10,45,45,45,10]
def exPath : Text := [112]
/-- a file system with another file next to the snapshot file -/
def exFS : FS := [([113], [1]), (exPath, exFile)]
/-- an oracle under which every `Write` fails -/
def exIOW : IOFail := fun op _ => if op = .write then some [33] else none
/-- an oracle under which every `os.WriteFile` fails -/
def exIOWF : IOFail := fun op _ => if op = .writeFile then some [33] else none

example : exFile = render [⟨[97], [120]⟩, ⟨[98], [121]⟩] := by decide +kernel

/-! ## removeSnapshot -/

/-- the scanner after `removeSnapshot`, as a function of the tokens still to come -/
def skipL : List Line → Scanner
  | [] => { ok := false, cur := [], rest := [] }
  | l :: ls => if l = endSeq then { ok := true, cur := endSeq, rest := ls } else skipL ls

theorem skipL_rest (ls : List Line) : (skipL ls).rest = (ls.dropWhile (· ≠ endSeq)).drop 1 := by
  induction ls with
  | nil => simp [skipL]
  | cons l ls ih =>
    by_cases h : l = endSeq
    · simp [skipL, h]
    · simp [skipL, h, ih]

theorem skipL_rest_length (ls : List Line) : (skipL ls).rest.length ≤ ls.length := by
  induction ls with
  | nil => simp [skipL]
  | cons l ls ih =>
    by_cases h : l = endSeq
    · simp [skipL, h]
    · simp [skipL, h]; omega

theorem rm_loop (F : Unit → Scanner → Id (ForInStep Scanner))
    (hnil : ∀ ok c, F () ({ ok := ok, cur := c, rest := [] } : Scanner) =
      pure (ForInStep.done ({ ok := false, cur := [], rest := [] } : Scanner)))
    (hend : ∀ ok c ls, F () ({ ok := ok, cur := c, rest := endSeq :: ls } : Scanner) =
      pure (ForInStep.done ({ ok := true, cur := endSeq, rest := ls } : Scanner)))
    (hline : ∀ ok c l ls, l ≠ endSeq → F () ({ ok := ok, cur := c, rest := l :: ls } : Scanner) =
      pure (ForInStep.yield ({ ok := true, cur := l, rest := ls } : Scanner)))
    (rest : List Line) (c : Line) (ok : Bool) :
    forIn (m := Id) (List.replicate (rest.length + 1) ()) ({ ok := ok, cur := c, rest := rest } : Scanner) F =
      pure (skipL rest) := by
  induction rest generalizing c ok with
  | nil => simp [hnil, skipL]
  | cons l ls ih =>
    rw [List.length_cons, List.replicate_succ, List.forIn_cons]
    by_cases h : l = endSeq
    · subst h
      simp [hend, skipL]
    · rw [hline _ _ _ _ h]
      simp only [pure_bind]
      rw [ih]
      simp [skipL, h]

theorem removeSnapshot_eq (s : Scanner) : removeSnapshot s = skipL s.rest := by
  obtain ⟨ok, c, rest⟩ := s
  unfold removeSnapshot
  simp only [Id.run, Scanner.fuel, bind, pure]
  rw [rm_loop _ ?hnil ?hend ?hline]
  · rfl
  case hnil => intro ok c; simp [Scanner.scan]; rfl
  case hend => intro ok c ls; simp [Scanner.scan, Scanner.bytes, endSeq, endSeq_eq]; rfl
  case hline =>
    intro ok c l ls h
    have h' : ¬ (l = Generated.go_endSequence) := h
    simp [Scanner.scan, Scanner.bytes, h']; rfl

theorem removeSnapshot_tied (s : Scanner) :
    (removeSnapshot s).rest = (s.rest.dropWhile (· ≠ endSeq)).drop 1 := by
  rw [removeSnapshot_eq, skipL_rest]

example : (removeSnapshot { ok := true, cur := [97], rest := [[120], endSeq, [], [98]] }).rest = [[], [98]] := by
  rw [removeSnapshot_tied]; decide +kernel
example : removeSnapshot { ok := true, cur := [97], rest := [[120], endSeq, [], [98]] } =
    { ok := true, cur := endSeq, rest := [[], [98]] } := by decide +kernel

/-! ## overwriteFile -/

theorem writeAt_nil_zero (b : Text) : writeAt [] 0 b = b := by
  simp [writeAt]

theorem fileContent_fsWrite (fs : FS) (f : File) (a : Text) :
    fileContent (fsWrite fs f.path a) f = a := by
  simp [fileContent, C19.fsRead_fsWrite_same]

theorem overwriteFile_eq (io : IOFail) (fs : FS) (f : File) (b : Text) :
    overwriteFile io fs f b =
      match io .write f.path with
      | some m => (fsWrite fs f.path [], { f with pos := 0 }, Err.other m)
      | none => (fsWrite fs f.path b, { f with pos := b.length }, Err.nil) := by
  unfold overwriteFile
  simp only [Id.run, fileTruncate0, fileSeekStart, fileWrite, pure]
  cases hio : io .write f.path with
  | some m => rfl
  | none =>
    simp only [fileContent, C19.fsRead_fsWrite_same, fsWrite_fsWrite]
    cases f.append <;> simp [writeAt]

/-- holds for every handle, `O_APPEND` or not: after `Truncate(0)` the file is empty, so an appending
    write and a write at offset 0 (after `Seek(0)`) put the bytes at the same place and leave the
    offset at `b.length` -/
theorem overwriteFile_tied (fs : FS) (f : File) (b : Text) :
    overwriteFile IOFail.never fs f b = (fsWrite fs f.path b, { f with pos := b.length }, Err.nil) := by
  rw [overwriteFile_eq]; rfl

example : overwriteFile IOFail.never exFS { path := exPath, pos := 18 } [7, 8] =
    ([([113], [1]), (exPath, [7, 8])], { path := exPath, pos := 2 }, Err.nil) := by
  rw [overwriteFile_tied]; decide +kernel
example : overwriteFile IOFail.never exFS { path := exPath, append := true, pos := 18 } [7, 8] =
    ([([113], [1]), (exPath, [7, 8])], { path := exPath, append := true, pos := 2 }, Err.nil) := by decide +kernel

/-! ## addNewSnapshot -/

/-- the content `os.OpenFile(O_APPEND|O_CREATE)` finds: a missing file starts empty -/
def oldContent (fs : FS) (p : Text) : Text :=
  match fsRead fs p with
  | some t => t
  | none => []

theorem frame_eq (testID snapshot : Text) :
    ([10] : List UInt8) ++ testID ++ ([10] : List UInt8) ++ snapshot ++ ([10, 45, 45, 45, 10] : List UInt8) =
      frame ⟨testID, snapshot⟩ := by
  have e : endSeq = [45, 45, 45] := by decide
  simp [frame, e, nl]

theorem addNewSnapshot_eq (io : IOFail) (fs : FS) (testID snapshot snapPath : Text) :
    addNewSnapshot io fs testID snapshot snapPath =
      match io .mkdirAll (fpDir snapPath) with
      | some m => (fs, Err.other m)
      | none =>
        match io .openAppend snapPath with
        | some m => (fs, Err.other m)
        | none =>
          match io .write snapPath with
          | some m => ((match fsRead fs snapPath with | some _ => fs | none => fsWrite fs snapPath []), Err.other m)
          | none => (fsWrite fs snapPath (oldContent fs snapPath ++ frame ⟨testID, snapshot⟩), Err.nil) := by
  unfold addNewSnapshot
  rw [frame_eq]
  cases h1 : io .mkdirAll (fpDir snapPath) with
  | some m => simp [Id.run, mkdirAll, h1, Err.notNil]; rfl
  | none =>
    cases h2 : io .openAppend snapPath with
    | some m => simp [Id.run, mkdirAll, openAppend, h1, h2, Err.notNil]; rfl
    | none =>
      cases h3 : io .write snapPath with
      | some m =>
        cases hr : fsRead fs snapPath <;>
          (simp [Id.run, mkdirAll, openAppend, fileWrite, h1, h2, h3, hr, Err.notNil]; rfl)
      | none =>
        cases hr : fsRead fs snapPath <;>
          (simp [Id.run, mkdirAll, openAppend, fileWrite, h1, h2, h3, hr, Err.notNil, oldContent, fileContent,
            C19.fsRead_fsWrite_same, fsWrite_fsWrite]; rfl)

theorem addNewSnapshot_tied (fs : FS) (testID snapshot snapPath : Text) :
    addNewSnapshot IOFail.never fs testID snapshot snapPath =
      (fsWrite fs snapPath (oldContent fs snapPath ++ frame ⟨testID, snapshot⟩),
        Err.nil) := by
  rw [addNewSnapshot_eq]; rfl

example : addNewSnapshot IOFail.never exFS [99] [122] exPath =
    ([([113], [1]), (exPath, exFile ++ [10,99,10,122,10,45,45,45,10])], Err.nil) := by
  rw [addNewSnapshot_tied]; decide +kernel
/-- a missing file is created -/
example : addNewSnapshot IOFail.never [] [99] [122] exPath = ([(exPath, [10,99,10,122,10,45,45,45,10])], Err.nil) := by
  rw [addNewSnapshot_tied]; decide +kernel

/-! ## updateSnapshot -/

/-- `updateL … true` (the model's "removeSnapshot in progress") is the scanner skip of
    `removeSnapshot` followed by the normal loop -/
theorem updateL_true (tid : Line) (body : Text) (ls : List Line) :
    updateL tid body true ls = updateL tid body false (skipL ls).rest := by
  induction ls with
  | nil => simp [updateL, skipL]
  | cons l ls ih =>
    by_cases h : l = endSeq
    · simp [updateL, skipL, h]
    · simp [updateL, skipL, h, ih]

theorem updateL_true_dropWhile (tid : Line) (body : Text) (ls : List Line) :
    updateL tid body true ls = updateL tid body false ((ls.dropWhile (· ≠ endSeq)).drop 1) := by
  rw [updateL_true, skipL_rest]

abbrev UpdSt := Text × Scanner

/-- the `for s.Scan()` loop of updateSnapshot, for any body `F` that behaves like the Go loop body
    on the three kinds of scanner state; any fuel larger than the number of tokens will do -/
theorem upd_loop (tid : Line) (body : Text) (F : Unit → UpdSt → Id (ForInStep UpdSt))
    (hnil : ∀ acc ok c, F () (acc, ({ ok := ok, cur := c, rest := [] } : Scanner)) =
      pure (ForInStep.done (acc, ({ ok := false, cur := [], rest := [] } : Scanner))))
    (hother : ∀ acc ok c l ls, l ≠ tid → F () (acc, ({ ok := ok, cur := c, rest := l :: ls } : Scanner)) =
      pure (ForInStep.yield (acc ++ l ++ [nl], ({ ok := true, cur := l, rest := ls } : Scanner))))
    (hhit : ∀ acc ok c ls, F () (acc, ({ ok := ok, cur := c, rest := tid :: ls } : Scanner)) =
      pure (ForInStep.yield (acc ++ tid ++ [nl] ++ body ++ [nl] ++ endSeq ++ [nl], skipL ls)))
    (n : Nat) : ∀ (rest : List Line) (acc : Text) (ok : Bool) (c : Line), rest.length < n →
    (forIn (m := Id) (List.replicate n ()) (acc, ({ ok := ok, cur := c, rest := rest } : Scanner)) F).1 =
      acc ++ updateL tid body false rest := by
  induction n with
  | zero => intro rest acc ok c h; omega
  | succ n ih =>
    intro rest acc ok c hlen
    rw [List.replicate_succ, List.forIn_cons]
    cases rest with
    | nil => simp [hnil, updateL]
    | cons l ls =>
      by_cases h : l = tid
      · subst h
        rw [hhit]
        simp only [pure_bind]
        have hl : (skipL ls).rest.length < n := by
          have := skipL_rest_length ls
          simp only [List.length_cons] at hlen
          omega
        have := ih (skipL ls).rest (acc ++ l ++ [nl] ++ body ++ [nl] ++ endSeq ++ [nl]) (skipL ls).ok (skipL ls).cur hl
        rw [this]
        simp [updateL, updateL_true]
      · rw [hother _ _ _ _ _ h]
        simp only [pure_bind]
        rw [ih ls _ true l (by simp only [List.length_cons] at hlen; omega)]
        simp [updateL, h]

theorem updateSnapshot_eq (io : IOFail) (fs : FS) (testID snapshot snapPath : Text) :
    updateSnapshot io fs testID snapshot snapPath =
      match io .openRDWR snapPath with
      | some m => (fs, Err.other m)
      | none =>
        match fsRead fs snapPath with
        | none => (fs, Err.other (enoent "open" snapPath))
        | some file =>
          match io .write snapPath with
          | some m => (fsWrite fs snapPath [], Err.other m)
          | none => (fsWrite fs snapPath (update testID snapshot file), Err.nil) := by
  unfold updateSnapshot
  cases h1 : io .openRDWR snapPath with
  | some m => simp [Id.run, openRDWR, h1, Err.notNil]; rfl
  | none =>
    cases hr : fsRead fs snapPath with
    | none => simp [Id.run, openRDWR, h1, hr, Err.notNil]; rfl
    | some file =>
      simp only [Id.run, openRDWR, h1, hr, Err.notNil, scanFile, Scanner.new, Scanner.fuel, Scanner.err, fileContent, bind, pure,
        Bool.false_eq_true, ↓reduceIte, ite_self]
      rw [upd_loop testID snapshot _ ?hnil ?hother ?hhit _ _ _ _ _ (Nat.lt_succ_self _)]
      · rw [overwriteFile_eq]
        simp only [fileAtEnd, List.nil_append, update]
        cases io .write snapPath <;> rfl
      case hnil => intro acc ok c; simp [Scanner.scan]; rfl
      case hother => intro acc ok c l ls h; simp [Scanner.scan, Scanner.bytes, h, nl]; rfl
      case hhit =>
        intro acc ok c ls
        simp [Scanner.scan, Scanner.bytes, removeSnapshot_eq, endSeq, endSeq_eq, nl]; rfl

theorem updateSnapshot_tied (fs : FS) (testID snapshot snapPath file : Text)
    (h : fsRead fs snapPath = some file) :
    updateSnapshot IOFail.never fs testID snapshot snapPath =
      (fsWrite fs snapPath (update testID snapshot file), Err.nil) := by
  rw [updateSnapshot_eq, h]; rfl

/-- entry `a` of the two-entry file gets the two-line body `z\nz`; entry `b` and the other file stay -/
example : updateSnapshot IOFail.never exFS [97] [122, 10, 122] exPath =
    ([([113], [1]), (exPath, [10,97,10,122,10,122,10,45,45,45,10, 10,98,10,121,10,45,45,45,10])], Err.nil) := by
  rw [updateSnapshot_tied exFS _ _ _ exFile (by decide +kernel)]; decide +kernel
example : updateSnapshot IOFail.never exFS [98] [122] exPath =
    ([([113], [1]), (exPath, [10,97,10,120,10,45,45,45,10, 10,98,10,122,10,45,45,45,10])], Err.nil) := by
  decide +kernel

theorem updateSnapshot_missing (fs : FS) (testID snapshot snapPath : Text)
    (h : fsRead fs snapPath = none) :
    updateSnapshot IOFail.never fs testID snapshot snapPath = (fs, Err.other (enoent "open" snapPath)) := by
  rw [updateSnapshot_eq, h]; rfl

example : updateSnapshot IOFail.never exFS [97] [122] [114] = (exFS, Err.other (enoent "open" [114])) :=
  updateSnapshot_missing exFS _ _ _ (by decide +kernel)

/-- for every oracle: a missing file is an error and nothing is written -/
theorem updateSnapshot_missing_any (io : IOFail) (fs : FS) (testID snapshot snapPath : Text)
    (h : fsRead fs snapPath = none) :
    (updateSnapshot io fs testID snapshot snapPath).1 = fs ∧
      (updateSnapshot io fs testID snapshot snapPath).2.notNil = true := by
  rw [updateSnapshot_eq, h]
  cases io .openRDWR snapPath <;> simp [Err.notNil]

/-! ## standalone snapshots -/

theorem upsertStandaloneSnapshot_eq (io : IOFail) (fs : FS) (snapshot snapPath : Text) :
    upsertStandaloneSnapshot io fs snapshot snapPath =
      match io .mkdirAll (fpDir snapPath) with
      | some m => (fs, Err.other m)
      | none =>
        match io .writeFile snapPath with
        | some m => (fs, Err.other m)
        | none => (fsWrite fs snapPath snapshot, Err.nil) := by
  unfold upsertStandaloneSnapshot
  cases h1 : io .mkdirAll (fpDir snapPath) with
  | some m => simp [Id.run, mkdirAll, h1, Err.notNil]; rfl
  | none =>
    cases h2 : io .writeFile snapPath <;> (simp [Id.run, mkdirAll, writeFile, h1, h2, Err.notNil]; rfl)

theorem upsertStandaloneSnapshot_tied (fs : FS) (snapshot snapPath : Text) :
    upsertStandaloneSnapshot IOFail.never fs snapshot snapPath = (fsWrite fs snapPath snapshot, Err.nil) := by
  rw [upsertStandaloneSnapshot_eq]; rfl

example : upsertStandaloneSnapshot IOFail.never exFS [122] exPath = ([([113], [1]), (exPath, [122])], Err.nil) := by
  rw [upsertStandaloneSnapshot_tied]; decide +kernel

/-- for every oracle: any failure of the read is reported as "snapshot not found", a successful
    read returns the content -/
theorem getPrevStandaloneSnapshot_eq (io : IOFail) (fs : FS) (snapPath : Text) :
    getPrevStandaloneSnapshot io fs snapPath =
      match io .readFile snapPath, fsRead fs snapPath with
      | none, some c => (c, Err.nil)
      | _, _ => ([], Err.snapNotFound) := by
  unfold getPrevStandaloneSnapshot
  cases h1 : io .readFile snapPath <;> cases hr : fsRead fs snapPath <;>
    simp [Id.run, readFile, h1, hr, Err.notNil] <;> rfl

theorem getPrevStandaloneSnapshot_tied (fs : FS) (snapPath : Text) :
    getPrevStandaloneSnapshot IOFail.never fs snapPath =
      match fsRead fs snapPath with
      | some c => (c, Err.nil)
      | none => ([], Err.snapNotFound) := by
  rw [getPrevStandaloneSnapshot_eq]
  cases fsRead fs snapPath <;> rfl

example : getPrevStandaloneSnapshot IOFail.never exFS exPath = (exFile, Err.nil) := by
  rw [getPrevStandaloneSnapshot_tied]; decide +kernel
example : getPrevStandaloneSnapshot IOFail.never exFS [114] = ([], Err.snapNotFound) := by
  rw [getPrevStandaloneSnapshot_tied]; decide +kernel

/-! ## failure branches, for every oracle -/

/-- a failed `addNewSnapshot` leaves the file system as it was, except that the `O_CREATE` of a
    missing file may already have happened (the file then exists and is empty): no byte of the
    entry is written -/
theorem addNewSnapshot_fail (io : IOFail) (fs : FS) (testID snapshot snapPath : Text)
    (h : (addNewSnapshot io fs testID snapshot snapPath).2.notNil = true) :
    (addNewSnapshot io fs testID snapshot snapPath).1 = fs ∨
      (fsRead fs snapPath = none ∧ (addNewSnapshot io fs testID snapshot snapPath).1 = fsWrite fs snapPath []) := by
  rw [addNewSnapshot_eq] at h ⊢
  revert h
  cases io .mkdirAll (fpDir snapPath) with
  | some m => exact fun _ => .inl rfl
  | none =>
    cases io .openAppend snapPath with
    | some m => exact fun _ => .inl rfl
    | none =>
      cases io .write snapPath with
      | none => exact nofun
      | some m =>
        cases hr : fsRead fs snapPath with
        | some t => exact fun _ => .inl rfl
        | none => exact fun _ => .inr ⟨rfl, rfl⟩

/-- both alternatives occur: nothing happened / the missing file was created empty -/
example : addNewSnapshot exIOW exFS [99] [122] exPath = (exFS, Err.other [33]) := by decide +kernel
example : addNewSnapshot exIOW [] [99] [122] exPath = ([(exPath, [])], Err.other [33]) := by decide +kernel
example : (addNewSnapshot exIOW [] [99] [122] exPath).1 = [] ∨
    (fsRead [] exPath = none ∧ (addNewSnapshot exIOW [] [99] [122] exPath).1 = fsWrite [] exPath []) :=
  addNewSnapshot_fail exIOW [] [99] [122] exPath (by decide +kernel)

/-- … in terms of reads: every path reads as before, except that the snapshot file, if it was
    missing, may now read as empty -/
theorem addNewSnapshot_fail_read (io : IOFail) (fs : FS) (testID snapshot snapPath : Text)
    (h : (addNewSnapshot io fs testID snapshot snapPath).2.notNil = true) (q : Text) :
    fsRead (addNewSnapshot io fs testID snapshot snapPath).1 q = fsRead fs q ∨
      (q = snapPath ∧ fsRead fs q = none ∧ fsRead (addNewSnapshot io fs testID snapshot snapPath).1 q = some []) := by
  rcases addNewSnapshot_fail io fs testID snapshot snapPath h with h' | ⟨hn, h'⟩
  · rw [h']; exact Or.inl rfl
  · rw [h']
    by_cases hq : q = snapPath
    · subst hq; exact Or.inr ⟨rfl, hn, C19.fsRead_fsWrite_same _ _ _⟩
    · exact Or.inl (C19.fsRead_fsWrite_other _ _ _ _ hq)

theorem addNewSnapshot_ok_iff (io : IOFail) (fs : FS) (testID snapshot snapPath : Text) :
    (addNewSnapshot io fs testID snapshot snapPath).2.notNil = false ↔
      (io .mkdirAll (fpDir snapPath) = none ∧ io .openAppend snapPath = none ∧ io .write snapPath = none) := by
  rw [addNewSnapshot_eq]
  cases io .mkdirAll (fpDir snapPath) <;> cases io .openAppend snapPath <;> cases io .write snapPath <;>
    simp [Err.notNil]

/-- success, for every oracle: the result is the one of `addNewSnapshot_tied` -/
theorem addNewSnapshot_ok (io : IOFail) (fs : FS) (testID snapshot snapPath : Text)
    (h : (addNewSnapshot io fs testID snapshot snapPath).2.notNil = false) :
    addNewSnapshot io fs testID snapshot snapPath =
      (fsWrite fs snapPath (oldContent fs snapPath ++ frame ⟨testID, snapshot⟩),
        Err.nil) := by
  obtain ⟨h1, h2, h3⟩ := (addNewSnapshot_ok_iff io fs testID snapshot snapPath).mp h
  rw [addNewSnapshot_eq, h1, h2, h3]

/-- a failed `updateSnapshot` either did nothing, or (the write after `Truncate(0)` failed) left
    the existing snapshot file EMPTY: all entries of that file are lost; other files are untouched -/
theorem updateSnapshot_fail (io : IOFail) (fs : FS) (testID snapshot snapPath : Text)
    (h : (updateSnapshot io fs testID snapshot snapPath).2.notNil = true) :
    (updateSnapshot io fs testID snapshot snapPath).1 = fs ∨
      ((fsRead fs snapPath).isSome = true ∧ io .openRDWR snapPath = none ∧ (io .write snapPath).isSome = true ∧
        (updateSnapshot io fs testID snapshot snapPath).1 = fsWrite fs snapPath []) := by
  rw [updateSnapshot_eq] at h ⊢
  revert h
  cases h1 : io .openRDWR snapPath with
  | some m => exact fun _ => .inl rfl
  | none =>
    cases hr : fsRead fs snapPath with
    | none => exact fun _ => .inl rfl
    | some file =>
      cases h3 : io .write snapPath with
      | some m => exact fun _ => .inr ⟨rfl, rfl, rfl, rfl⟩
      | none => exact nofun

/-- the second alternative occurs: a failing write after `Truncate(0)` empties the snapshot file -/
example : updateSnapshot exIOW exFS [97] [122] exPath = ([([113], [1]), (exPath, [])], Err.other [33]) := by decide +kernel
example : (updateSnapshot exIOW exFS [97] [122] exPath).1 = exFS ∨
    ((fsRead exFS exPath).isSome = true ∧ exIOW .openRDWR exPath = none ∧ (exIOW .write exPath).isSome = true ∧
      (updateSnapshot exIOW exFS [97] [122] exPath).1 = fsWrite exFS exPath []) :=
  updateSnapshot_fail exIOW exFS [97] [122] exPath (by decide +kernel)

theorem updateSnapshot_fail_other (io : IOFail) (fs : FS) (testID snapshot snapPath : Text)
    (h : (updateSnapshot io fs testID snapshot snapPath).2.notNil = true) (q : Text) (hq : q ≠ snapPath) :
    fsRead (updateSnapshot io fs testID snapshot snapPath).1 q = fsRead fs q := by
  rcases updateSnapshot_fail io fs testID snapshot snapPath h with h' | ⟨_, _, _, h'⟩
  · rw [h']
  · rw [h']; exact C19.fsRead_fsWrite_other _ _ _ _ hq

/-- success, for every oracle: the file existed and now holds the model's `update` -/
theorem updateSnapshot_ok (io : IOFail) (fs : FS) (testID snapshot snapPath : Text)
    (h : (updateSnapshot io fs testID snapshot snapPath).2.notNil = false) :
    ∃ file, fsRead fs snapPath = some file ∧
      updateSnapshot io fs testID snapshot snapPath = (fsWrite fs snapPath (update testID snapshot file), Err.nil) := by
  rw [updateSnapshot_eq] at h ⊢
  revert h
  cases io .openRDWR snapPath with
  | some m => exact nofun
  | none =>
    cases fsRead fs snapPath with
    | none => exact nofun
    | some file =>
      cases io .write snapPath with
      | some m => exact nofun
      | none => exact fun _ => ⟨file, rfl, rfl⟩

/-- a failed `upsertStandaloneSnapshot` changes nothing -/
theorem upsertStandaloneSnapshot_fail (io : IOFail) (fs : FS) (snapshot snapPath : Text)
    (h : (upsertStandaloneSnapshot io fs snapshot snapPath).2.notNil = true) :
    (upsertStandaloneSnapshot io fs snapshot snapPath).1 = fs := by
  rw [upsertStandaloneSnapshot_eq] at h ⊢
  revert h
  cases io .mkdirAll (fpDir snapPath) <;> cases io .writeFile snapPath <;> simp [Err.notNil]

example : upsertStandaloneSnapshot exIOWF exFS [122] exPath = (exFS, Err.other [33]) := by decide +kernel
example : (upsertStandaloneSnapshot exIOWF exFS [122] exPath).1 = exFS :=
  upsertStandaloneSnapshot_fail exIOWF exFS [122] exPath (by decide +kernel)

theorem upsertStandaloneSnapshot_ok (io : IOFail) (fs : FS) (snapshot snapPath : Text)
    (h : (upsertStandaloneSnapshot io fs snapshot snapPath).2.notNil = false) :
    upsertStandaloneSnapshot io fs snapshot snapPath = (fsWrite fs snapPath snapshot, Err.nil) := by
  rw [upsertStandaloneSnapshot_eq] at h ⊢
  revert h
  cases io .mkdirAll (fpDir snapPath) <;> cases io .writeFile snapPath <;> simp [Err.notNil]

end GoSnaps.Tie
