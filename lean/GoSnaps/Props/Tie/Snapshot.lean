/-
Tie by proof: the lookup in a snapshot file, `getPrevSnapshot` of snaps/snapshot.go (`Generated/FuncsIO.lean`).

`FuncsIO.getPrevSnapshot` is the statement-by-statement transliteration of the Go function
(nested `for s.Scan()` loops with an early return from the inner one, regenerated from /repo on
every run); `getPrevSnapshot_any` proves it equal, for every failure oracle, file system, id and
path, to the model's `getPrev` composed with the file read (`getPrevSnapshot_tied`: no failures).

Proof pattern for scanner loops (also used in Tie/SnapshotIO): a lemma per loop, stated for an
ARBITRARY loop body `F` characterised by what it does on each kind of scanner state (`hnil`, `hend`,
`hline` …) and proved by induction on the tokens still to come; the final theorem unfolds the
generated function, lets unification instantiate `F` with the body the `do` notation produced, and
discharges each characterisation by `simp […]; rfl`: `simp` evaluates `Scanner.scan` and the tests
of the body on that kind of state, `rfl` identifies what is left of the desugared body (nested
`let`s, the repacked state tuple) with the stated step.  The loop bound (`Scanner.fuel`) disappears
in the lemma: the result is stated with the fuel-free `collect` / `getPrevL`.
-/
import GoSnaps.GoIO
import GoSnaps.Format
import GoSnaps.Generated.FuncsIO
namespace GoSnaps.Tie
open GoSnaps GoSnaps.GoIO
open GoSnaps.Generated.FuncsIO

/-- what `getPrevSnapshot` returns: snapshot, line, error -/
abbrev PrevRes := List UInt8 × Int × Err

/-- the terminator the model reads from the source is the one the transliteration compares with -/
theorem endSeq_eq : Generated.endSeq = Generated.go_endSequence := by decide

theorem trimSuffix_nl (s : Text) : trimSuffix s [10] = trimNL s := by
  unfold trimSuffix trimNL
  rcases List.eq_nil_or_concat s with h | ⟨l, a, h⟩
  · subst h; simp
  · subst h
    by_cases ha : a = 10
    · subst ha; simp [nl]
    · have : ¬ (10 : UInt8) = a := fun e => ha e.symm
      simp [ha, this, nl]

@[simp] theorem id_pure_fst {α β : Type} (x : α × β) : (pure x : Id (α × β)).1 = x.1 := rfl

abbrev InnerSt := Option PrevRes × Scanner × Text
abbrev OuterSt := Option PrevRes × Int × Scanner

/-- the inner `for s.Scan()` loop of getPrevSnapshot, for any body `F` that behaves like the Go
    loop body on the three kinds of scanner state -/
theorem inner_loop (ln : Int) (F : Unit → InnerSt → Id (ForInStep InnerSt))
    (hnil : ∀ ok c acc, F () (none, ({ ok := ok, cur := c, rest := [] } : Scanner), acc) =
      pure (ForInStep.done (none, ({ ok := false, cur := [], rest := [] } : Scanner), acc)))
    (hend : ∀ ok c ls acc, F () (none, ({ ok := ok, cur := c, rest := endSeq :: ls } : Scanner), acc) =
      pure (ForInStep.done (some (trimNL acc, ln, Err.nil), ({ ok := true, cur := endSeq, rest := ls } : Scanner), acc)))
    (hline : ∀ ok c l ls acc, l ≠ endSeq → F () (none, ({ ok := ok, cur := c, rest := l :: ls } : Scanner), acc) =
      pure (ForInStep.yield (none, ({ ok := true, cur := l, rest := ls } : Scanner), acc ++ l ++ [nl])))
    (rest : List Line) (c : Line) (ok : Bool) (acc : Text) :
    forIn (m := Id) (List.replicate (rest.length + 1) ()) ((none : Option PrevRes), ({ ok := ok, cur := c, rest := rest } : Scanner), acc) F =
    pure (match collect rest acc with
      | some b => (some (trimNL b, ln, Err.nil), ({ ok := true, cur := endSeq, rest := (rest.dropWhile (· ≠ endSeq)).drop 1 } : Scanner), b)
      | none => (none, ({ ok := false, cur := [], rest := [] } : Scanner), rest.foldl (fun a l => a ++ l ++ [nl]) acc)) := by
  induction rest generalizing c ok acc with
  | nil =>
    simp [hnil, collect]
  | cons l ls ih =>
    rw [List.length_cons, List.replicate_succ, List.forIn_cons]
    by_cases h : l = endSeq
    · subst h
      simp [hend, collect]
    · rw [hline _ _ _ _ _ h]
      simp only [pure_bind]
      rw [ih]
      simp [collect, h]

/-- the outer loop, likewise.  `k` is fuel to spare: after a hit whose entry has no terminator the
    Go loop goes round once more on the exhausted scanner, so the induction needs a surplus -/
theorem outer_loop (tid : Line) (G : Unit → OuterSt → Id (ForInStep OuterSt))
    (gnil : ∀ ln ok c, G () (none, ln, ({ ok := ok, cur := c, rest := [] } : Scanner)) =
      pure (ForInStep.done (none, ln, ({ ok := false, cur := [], rest := [] } : Scanner))))
    (gother : ∀ ln ok c l ls, l ≠ tid → G () (none, ln, ({ ok := ok, cur := c, rest := l :: ls } : Scanner)) =
      pure (ForInStep.yield (none, ln + 1, ({ ok := true, cur := l, rest := ls } : Scanner))))
    (ghit : ∀ ln ok c ls, G () (none, ln, ({ ok := ok, cur := c, rest := tid :: ls } : Scanner)) =
      pure (match collect ls [] with
        | some b => ForInStep.done (some (trimNL b, ln, Err.nil), ln, ({ ok := true, cur := endSeq, rest := (ls.dropWhile (· ≠ endSeq)).drop 1 } : Scanner))
        | none => ForInStep.yield (none, ln, ({ ok := false, cur := [], rest := [] } : Scanner))))
    (rest : List Line) (n : Nat) (k : Nat) (c : Line) (ok : Bool) :
    (forIn (m := Id) (List.replicate (rest.length + 1 + k) ()) ((none : Option PrevRes), (n : Int), ({ ok := ok, cur := c, rest := rest } : Scanner)) G).1 =
    (getPrevL tid rest n).map (fun p => (p.1, (p.2 : Int), Err.nil)) := by
  induction rest generalizing n c ok with
  | nil =>
    rw [show ([] : List Line).length + 1 + k = k + 1 by simp; omega, List.replicate_succ, List.forIn_cons, gnil]
    simp [getPrevL]
  | cons l ls ih =>
    rw [show (l :: ls).length + 1 + k = (ls.length + 1 + k) + 1 by simp; omega, List.replicate_succ, List.forIn_cons]
    by_cases h : l = tid
    · subst h
      rw [ghit]
      cases hc : collect ls [] with
      | some b => simp [getPrevL, hc]
      | none =>
        simp only [pure_bind]
        rw [show ls.length + 1 + k = (ls.length + k) + 1 by omega, List.replicate_succ, List.forIn_cons, gnil]
        simp [getPrevL, hc]
    · rw [gother _ _ _ _ _ h]
      simp only [pure_bind]
      have := ih (n + 1) l true
      simp only [Int.natCast_add, Int.cast_ofNat_Int] at this
      rw [this]
      simp [getPrevL, h]

/-- `getPrevSnapshot` for EVERY oracle: any failure of `os.ReadFile` (permission, I/O error, missing
    file) is mapped to `errSnapNotFound`; otherwise the model's lookup.  (The scanner cannot fail:
    `Scanner.err`.) -/
theorem getPrevSnapshot_any (io : IOFail) (fs : FS) (testID snapPath : Text) :
    getPrevSnapshot io fs testID snapPath =
      match io .readFile snapPath with
      | some _ => ([], -1, Err.snapNotFound)
      | none =>
        match (fsRead fs snapPath).bind (getPrev testID) with
        | some (b, n) => (b, (n : Int), Err.nil)
        | none => ([], -1, Err.snapNotFound) := by
  unfold getPrevSnapshot
  cases hio : io .readFile snapPath with
  | some m => simp [readFile, hio, Err.notNil, Id.run]; rfl
  | none =>
  cases hr : fsRead fs snapPath with
  | none => simp [readFile, hio, hr, Err.notNil, Id.run]; rfl
  | some f =>
    simp only [readFile, hio, hr, Err.notNil, Id.run, Scanner.new, Scanner.fuel, Option.bind_some, getPrev, Scanner.err,
      Bool.false_eq_true, ↓reduceIte, bind, pure]
    have hl := fun G gnil gother ghit => outer_loop testID G gnil gother ghit (scan f) 1 0 [] false
    simp only [Nat.add_zero, Int.cast_ofNat_Int] at hl
    rw [hl _ ?gnil ?gother ?ghit]
    · cases getPrevL testID (scan f) 1 with
      | none => simp
      | some p => simp
    case gnil => intro ln ok c; simp [Scanner.scan]; rfl
    case gother => intro ln ok c l ls h; simp [Scanner.scan, Scanner.bytes, h]; rfl
    case ghit =>
      intro ln ok c ls
      simp only [Scanner.scan, Scanner.bytes, Bool.not_true, Bool.false_eq_true, ↓reduceIte, beq_self_eq_true]
      rw [inner_loop ln _ ?hnil ?hend ?hline]
      · cases collect ls [] <;> simp <;> rfl
      case hnil => intro ok c acc; simp; rfl
      case hend => intro ok c ls acc; simp [endSeq, endSeq_eq, trimSuffix_nl]; rfl
      case hline =>
        intro ok c l ls acc h
        have h' : ¬ (l = Generated.go_endSequence) := h
        simp [h', nl]; rfl

/-- without failures it is the model's `getPrev` composed with the file read -/
theorem getPrevSnapshot_tied (fs : FS) (testID snapPath : Text) :
    getPrevSnapshot IOFail.never fs testID snapPath =
      match (fsRead fs snapPath).bind (getPrev testID) with
      | some (b, n) => (b, (n : Int), Err.nil)
      | none => ([], -1, Err.snapNotFound) := by
  rw [getPrevSnapshot_any]; rfl

end GoSnaps.Tie
