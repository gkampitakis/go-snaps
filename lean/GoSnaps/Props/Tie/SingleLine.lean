/-
Tie by proof: the inline ("single-line") diff of snaps/diff.go, `singlelineDiff`, as transliterated in
`GoSnaps.Generated.FuncsIO` together with the helpers it calls (`colors.FprintBg`,
`colors.FprintDeleteBold`, `colors.FprintInsertBold`, `hasNewLine`).

Parameters of the transliteration: `dmpDiff x y` = `dmp.DiffCleanupSemantic(dmp.DiffMain(x, y, false))`
(the third-party diffmatchpatch stays a parameter; it is left ARBITRARY in every theorem below, and
theorem (d) states the one property of it that is used as a hypothesis).  Colours are ON: every call
of `singlelineDiff` is guarded by `shouldPrintHighlights`, whose first conjunct is `!colors.NOCOLOR`;
the helpers themselves are translated for both colour modes (`nocolor`).

The function is brought into closed form (`singlelineDiff_closed`); from it: it never panics (a), the
report is empty exactly for a single Equal chunk, with counts -1 (b), otherwise the counts are the
numbers of Insert / Delete chunks (c), and under the contract of diffmatchpatch an empty report
means identical texts (d).
-/
import GoSnaps.Generated.FuncsIO
import GoSnaps.Props.Tie.DiffIO
namespace GoSnaps.Tie
open GoSnaps GoSnaps.Generated GoSnaps.GoIO


def cBoldRedBg : Text := [27, 91, 52, 56, 59, 53, 59, 49, 50, 55, 109]
def cBoldGreenBg : Text := [27, 91, 52, 56, 59, 53, 59, 50, 51, 109]
def cWhite : Text := [27, 91, 51, 56, 59, 53, 59, 50, 53, 53, 109]

theorem FprintDeleteBold_nocolor (w s : Text) : FuncsIO.FprintDeleteBold true w s = w ++ s := rfl
theorem FprintDeleteBold_colour (w s : Text) :
    FuncsIO.FprintDeleteBold false w s = w ++ (cBoldRedBg ++ cWhite ++ s ++ cReset) := rfl
theorem FprintInsertBold_nocolor (w s : Text) : FuncsIO.FprintInsertBold true w s = w ++ s := rfl
theorem FprintInsertBold_colour (w s : Text) :
    FuncsIO.FprintInsertBold false w s = w ++ (cBoldGreenBg ++ cWhite ++ s ++ cReset) := rfl

/-- what `FprintBg` appends in colour mode: the reset sequence goes BEFORE a final newline -/
def bgRowC (bg c s : Text) : Text :=
  if hasSuffix s [10] then bg ++ c ++ s.dropLast ++ cReset ++ [10] else bg ++ c ++ s ++ cReset

theorem FprintBg_nocolor (w bg c s : Text) : FuncsIO.FprintBg true w bg c s = some (w ++ s) := rfl

theorem FprintBg_colour (w bg c s : Text) : FuncsIO.FprintBg false w bg c s = some (w ++ bgRowC bg c s) := by
  unfold FuncsIO.FprintBg bgRowC
  simp only [Option.bind_eq_bind, ite_trimSuffix, Bool.false_eq_true, if_false]
  split <;> rfl

/-- `FprintBg` never panics, in either mode -/
theorem FprintBg_total (nocolor : Bool) (w bg c s : Text) : ∃ x, FuncsIO.FprintBg nocolor w bg c s = some (w ++ x) := by
  cases nocolor
  · exact ⟨_, FprintBg_colour w bg c s⟩
  · exact ⟨_, FprintBg_nocolor w bg c s⟩

theorem bgRowC_ne_nil (bg c s : Text) (h : bg ≠ []) : bgRowC bg c s ≠ [] := by
  unfold bgRowC; split <;> simp [h]


/-- `b[len(b)-1] == '\n'`: panics exactly on the empty slice -/
theorem hasNewLine_eq (x : Text) (h : x ≠ []) : FuncsIO.hasNewLine x = some (x.getLast? == some 10) := by
  unfold FuncsIO.hasNewLine GoSem.index GoSem.len
  have hp : 0 < x.length := List.length_pos_iff.mpr h
  have e : ((x.length : Int) - 1).toNat = x.length - 1 := by omega
  rw [if_neg (by omega), e, ← List.getLast?_eq_getElem?]
  cases hl : x.getLast? with
  | none => simp [List.getLast?_eq_none_iff] at hl; exact absurd hl h
  | some v => simp

theorem hasNewLine_nil : FuncsIO.hasNewLine [] = none := by decide

/-- `diffs` is a single Equal chunk -/
def singleEqB : List DiffChunk → Bool
  | [c] => c.type == 0
  | _ => false

def SingleEqual (l : List DiffChunk) : Prop := ∃ c, l = [c] ∧ c.type = 0

theorem singleEqB_iff (l : List DiffChunk) : singleEqB l = true ↔ SingleEqual l := by
  match l with
  | [] => simp [singleEqB, SingleEqual]
  | [c] => simp [singleEqB, SingleEqual]
  | c1 :: c2 :: rest => simp [singleEqB, SingleEqual]

/-- `len(diffs) == 1 && diffs[0].Type == diffEqual` never panics (the index is guarded) -/
theorem singleEq_guard (l : List DiffChunk) :
    (if (GoSem.len l == 1) = true then (GoSem.index l 0).bind fun c => some (c.type == 0) else some false)
      = some (singleEqB l) := by
  match l with
  | [] => rfl
  | [c] => rfl
  | c1 :: c2 :: rest =>
    have : (GoSem.len (c1 :: c2 :: rest) == (1 : Int)) = false := by
      simp [GoSem.len]; omega
    simp [this, singleEqB]


/-- the loop state: (inserted, deleted, a, b) -/
abbrev SLSt := Int × Int × Text × Text

/-- `diff.Text[:len(diff.Text)-1]+newLineSymbol` when the text ends with a newline -/
def nlText (t : Text) : Text := if hasSuffix t [10] then t.dropLast ++ go_newLineSymbol else t

/-- what one chunk appends to the `-` row -/
def rowA (d : DiffChunk) : Text :=
  if d.type = -1 then cBoldRedBg ++ cWhite ++ nlText d.text ++ cReset
  else if d.type = 0 then bgRowC cRedBg cRedDiff d.text else []
/-- what one chunk appends to the `+` row -/
def rowB (d : DiffChunk) : Text :=
  if d.type = 1 then cBoldGreenBg ++ cWhite ++ nlText d.text ++ cReset
  else if d.type = 0 then bgRowC cGreenBg cGreenDiff d.text else []

def stepSL (st : SLSt) (d : DiffChunk) : SLSt :=
  (st.1 + (if d.type = 1 then 1 else 0), st.2.1 + (if d.type = -1 then 1 else 0),
    st.2.2.1 ++ rowA d, st.2.2.2 ++ rowB d)

/-- number of chunks of a type, as Go's `int` -/
def countType (ty : Int) (l : List DiffChunk) : Int := ((l.countP (fun c => c.type == ty) : Nat) : Int)

theorem foldl_stepSL (l : List DiffChunk) (i d : Int) (a b : Text) :
    l.foldl stepSL (i, d, a, b) =
      (i + countType 1 l, d + countType (-1) l, a ++ (l.map rowA).flatten, b ++ (l.map rowB).flatten) := by
  induction l generalizing i d a b with
  | nil => simp [countType]
  | cons x xs ih =>
    rw [List.foldl_cons, stepSL, ih]
    simp only [countType, List.countP_cons, List.map_cons, List.flatten_cons, List.append_assoc, beq_iff_eq]
    refine Prod.ext ?_ (Prod.ext ?_ rfl)
    · by_cases h : x.type = 1 <;> simp [h] <;> omega
    · by_cases h : x.type = -1 <;> simp [h] <;> omega

/-- the loop over the chunks for an ARBITRARY body that behaves like the Go one -/
theorem sl_loop (l : List DiffChunk) (st : SLSt) (F : DiffChunk → SLSt → Option (ForInStep SLSt))
    (hF : ∀ d st, F d st = some (ForInStep.yield (stepSL st d))) :
    forIn (m := Option) l st F = some (l.foldl stepSL st) :=
  forIn_opt_foldl_mem l F stepSL (fun a _ b => hF a b) st

/-- `if !hasNewLine(x.Bytes()) { x.WriteByte('\n') }` -/
def endNL (x : Text) : Text := if x.getLast? == some 10 then x else x ++ [10]

theorem endNL_ne_nil (x : Text) : endNL x ≠ [] := by
  unfold endNL; split
  · intro e; subst e; simp_all
  · simp

/-- the two rows before the final newline is added -/
def slRowA (l : List DiffChunk) : Text := bgRowC cRedBg cRedDiff [45, 32] ++ (l.map rowA).flatten
def slRowB (l : List DiffChunk) : Text := bgRowC cGreenBg cGreenDiff [43, 32] ++ (l.map rowB).flatten

theorem slRowA_ne_nil (l : List DiffChunk) : slRowA l ≠ [] := by
  unfold slRowA; simp [bgRowC_ne_nil _ _ _ (by decide : cRedBg ≠ [])]
theorem slRowB_ne_nil (l : List DiffChunk) : slRowB l ≠ [] := by
  unfold slRowB; simp [bgRowC_ne_nil _ _ _ (by decide : cGreenBg ≠ [])]

/-- **closed form**: `singlelineDiff` never panics; it returns `("", -1, -1)` for a single Equal
    chunk and otherwise the two rows (each ending in exactly the newline it needs) with the numbers of
    Insert and Delete chunks -/
theorem singlelineDiff_closed (dmpDiff : Text → Text → List DiffChunk) (e r : Text) :
    FuncsIO.singlelineDiff dmpDiff e r =
      some (if singleEqB (dmpDiff e r) then ([], -1, -1)
            else (endNL (slRowA (dmpDiff e r)) ++ endNL (slRowB (dmpDiff e r)),
                  countType 1 (dmpDiff e r), countType (-1) (dmpDiff e r))) := by
  unfold FuncsIO.singlelineDiff
  simp only [Option.bind_eq_bind, Option.pure_def, singleEq_guard, Option.bind_some, FprintBg_colour,
    FprintDeleteBold_colour, FprintInsertBold_colour]
  generalize dmpDiff e r = l
  by_cases hs : singleEqB l = true
  · simp [hs]
  · simp only [hs, if_false, Bool.false_eq_true]
    rw [sl_loop l _ _ ?h]
    case h =>
      intro c st
      obtain ⟨i, d, a, b⟩ := st
      simp only [beq_iff_eq, stepSL, rowA, rowB, nlText]
      -- the newline at the end of the text matters for the Delete and Insert chunks only
      by_cases h1 : c.type = -1
      · by_cases hn : hasSuffix c.text [10] = true
        · simp [h1, hn, slice_dropLast c.text (ne_nil_of_hasSuffix_nl hn)]
        · simp [h1, hn]
      · by_cases h2 : c.type = 1
        · by_cases hn : hasSuffix c.text [10] = true
          · simp [h2, hn, slice_dropLast c.text (ne_nil_of_hasSuffix_nl hn)]
          · simp [h2, hn]
        · by_cases h3 : c.type = 0
          · simp [h3]; exact ⟨rfl, rfl⟩
          · simp [h1, h2, h3]
    rw [foldl_stepSL]
    simp only [Option.bind_some, List.nil_append, Int.zero_add]
    -- the two rows, written with the literal escape sequences of the Go source, are `slRowA l`, `slRowB l`
    generalize hA : bgRowC _ _ [45, 32] ++ (l.map rowA).flatten = A
    generalize hB : bgRowC _ _ [43, 32] ++ (l.map rowB).flatten = B
    obtain rfl : A = slRowA l := hA.symm
    obtain rfl : B = slRowB l := hB.symm
    rw [hasNewLine_eq _ (slRowA_ne_nil l), hasNewLine_eq _ (slRowB_ne_nil l)]
    simp only [Option.bind_some, endNL]
    cases h1 : ((slRowA l).getLast? == some 10) <;> cases h2 : ((slRowB l).getLast? == some 10) <;> simp


/-- (a) `singlelineDiff` never panics, whatever diffmatchpatch returns -/
theorem singlelineDiff_isSome (dmpDiff : Text → Text → List DiffChunk) (e r : Text) :
    (FuncsIO.singlelineDiff dmpDiff e r).isSome = true := by
  rw [singlelineDiff_closed]; rfl

/-- (b) the report is empty exactly when diffmatchpatch returned a single Equal chunk, and then both
    counts are -1 -/
theorem singlelineDiff_empty_iff (dmpDiff : Text → Text → List DiffChunk) (e r text : Text) (i d : Int)
    (h : FuncsIO.singlelineDiff dmpDiff e r = some (text, i, d)) :
    (text = [] ↔ SingleEqual (dmpDiff e r)) ∧ (text = [] → i = -1 ∧ d = -1) := by
  rw [singlelineDiff_closed] at h
  by_cases hs : singleEqB (dmpDiff e r) = true
  · simp only [hs, if_true, Option.some.injEq, Prod.mk.injEq] at h
    obtain ⟨rfl, rfl, rfl⟩ := h
    exact ⟨⟨fun _ => (singleEqB_iff _).mp hs, fun _ => rfl⟩, fun _ => ⟨rfl, rfl⟩⟩
  · simp only [hs, if_false, Bool.false_eq_true, Option.some.injEq, Prod.mk.injEq] at h
    obtain ⟨rfl, _, _⟩ := h
    have hne : endNL (slRowA (dmpDiff e r)) ++ endNL (slRowB (dmpDiff e r)) ≠ [] := by
      simp [endNL_ne_nil]
    exact ⟨⟨fun h0 => absurd h0 hne, fun hse => absurd ((singleEqB_iff _).mpr hse) hs⟩, fun h0 => absurd h0 hne⟩

/-- (c) otherwise the counts are the numbers of Insert (type 1) and Delete (type -1) chunks -/
theorem singlelineDiff_counts (dmpDiff : Text → Text → List DiffChunk) (e r text : Text) (i d : Int)
    (h : FuncsIO.singlelineDiff dmpDiff e r = some (text, i, d)) (hne : ¬ SingleEqual (dmpDiff e r)) :
    i = countType 1 (dmpDiff e r) ∧ d = countType (-1) (dmpDiff e r) := by
  rw [singlelineDiff_closed] at h
  have hs : ¬ singleEqB (dmpDiff e r) = true := fun hb => hne ((singleEqB_iff _).mp hb)
  simp only [hs, if_false, Bool.false_eq_true, Option.some.injEq, Prod.mk.injEq] at h
  exact ⟨h.2.1.symm, h.2.2.symm⟩

/-- (c'), the same with the condition on the result: a NON-empty report carries the true counts -/
theorem singlelineDiff_counts_of_nonempty (dmpDiff : Text → Text → List DiffChunk) (e r text : Text) (i d : Int)
    (h : FuncsIO.singlelineDiff dmpDiff e r = some (text, i, d)) (hne : text ≠ []) :
    i = countType 1 (dmpDiff e r) ∧ d = countType (-1) (dmpDiff e r) :=
  singlelineDiff_counts dmpDiff e r text i d h
    (fun hse => hne (((singlelineDiff_empty_iff dmpDiff e r text i d h).1).mpr hse))

/-- the text diffmatchpatch's chunks delete from / keep of the first argument … -/
def chunkSrc (l : List DiffChunk) : Text := ((l.filter (fun c => c.type != 1)).map (·.text)).flatten
/-- … and the text they produce -/
def chunkDst (l : List DiffChunk) : Text := ((l.filter (fun c => c.type != -1)).map (·.text)).flatten

/-- (d) under the contract of diffmatchpatch (the chunks that are not Insert spell the first text, the
    chunks that are not Delete spell the second) an empty single-line report is produced for identical
    texts only.  (prettyDiff falls back to the line diff in that case, see `prettyDiff_nonempty`.) -/
theorem singlelineDiff_empty_same (dmpDiff : Text → Text → List DiffChunk) (e r text : Text) (i d : Int)
    (hdmp : chunkSrc (dmpDiff e r) = e ∧ chunkDst (dmpDiff e r) = r)
    (h : FuncsIO.singlelineDiff dmpDiff e r = some (text, i, d)) :
    text = [] → e = r := by
  intro h0
  obtain ⟨c, hc, ht⟩ := ((singlelineDiff_empty_iff dmpDiff e r text i d h).1).mp h0
  obtain ⟨h1, h2⟩ := hdmp
  rw [hc] at h1 h2
  simp [chunkSrc, chunkDst, ht] at h1 h2
  rw [← h1, ← h2]

/-- the converse direction needs nothing about diffmatchpatch beyond (b): a diff that is not a single
    Equal chunk always gives a non-empty report -/
theorem singlelineDiff_nonempty (dmpDiff : Text → Text → List DiffChunk) (e r text : Text) (i d : Int)
    (h : FuncsIO.singlelineDiff dmpDiff e r = some (text, i, d)) (hne : ¬ SingleEqual (dmpDiff e r)) :
    text ≠ [] :=
  fun h0 => hne (((singlelineDiff_empty_iff dmpDiff e r text i d h).1).mp h0)


/-- "ab\n" -> "ac\n": Equal "a", Delete "b", Insert "c", Equal "\n": one insertion, one deletion, a
    non-empty report -/
example :
    (FuncsIO.singlelineDiff (fun _ _ => [⟨0, [97]⟩, ⟨-1, [98]⟩, ⟨1, [99]⟩, ⟨0, [10]⟩]) [97, 98, 10] [97, 99, 10]).map
      (fun v => (v.1 != [], v.2)) = some (true, 1, 1) := by decide +kernel

/-- a single Equal chunk: the empty report with counts -1 -/
example : FuncsIO.singlelineDiff (fun _ _ => [⟨0, [97, 10]⟩]) [97, 10] [97, 10] = some ([], -1, -1) := by decide +kernel

/-- the hypotheses of (d) are satisfiable, with a non-trivial chunk list -/
example : chunkSrc [⟨0, [97]⟩, ⟨-1, [98]⟩, ⟨1, [99]⟩, ⟨0, [10]⟩] = [97, 98, 10] ∧
    chunkDst [⟨0, [97]⟩, ⟨-1, [98]⟩, ⟨1, [99]⟩, ⟨0, [10]⟩] = [97, 99, 10] := by decide +kernel

/-- a Delete chunk ending in a newline is shown with the newline symbol, the `-` row then gets its
    newline from the `if !hasNewLine` step: the whole output for "x\n" -> "" (Delete "x\n") -/
example :
    FuncsIO.singlelineDiff (fun _ _ => [⟨-1, [120, 10]⟩]) [120, 10] [] =
      some (cRedBg ++ cRedDiff ++ [45, 32] ++ cReset ++ (cBoldRedBg ++ cWhite ++ [120] ++ go_newLineSymbol ++ cReset) ++ [10] ++
            (cGreenBg ++ cGreenDiff ++ [43, 32] ++ cReset ++ [10]), 0, 1) := by decide +kernel

end GoSnaps.Tie
