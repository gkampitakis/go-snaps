/-
  Tie by proof: the document pipelines in front of the Match* flows

    validateJSON              (snaps/matchJSON.go)  the dynamic type switch: string / []byte / any other value
    validateYAML              (snaps/matchYAML.go)
    (*JSONConfig).getPrettyJSONOptions (snaps/snapshot.go)
    takeJSONSnapshot          (snaps/matchJSON.go)

  are transliterated from the source on every run (`Generated.FuncsIO`).  The flows (Tie/Flows.lean) take
  `validate` and `takeJSON` as parameters; here the functions the source passes for them are proved equal
  to the hand-written model the C14 / C18 theorems are about (`C14.validateJSON`, `C14.takeJSONSnapshot`), and
  `takeJSONSnapshot` instantiated with the Lean model of tidwall/pretty (`Json.pretty`, tied to the library
  by the suite json.model) inherits the theorems of Props/C14Json.

  What stays a parameter: `gjson.Valid` (model: `Json.jsonValid`), `json.Marshal`, `yaml.Unmarshal`,
  `yaml.MarshalWithOptions`, `pretty.PrettyOptions` (model: `Json.pretty`), and the `json` field of a Config
  (the parameter `jc : Cfg → Option JSONConfig`: the model's `Cfg` does not carry it).
-/
import GoSnaps.Generated.FuncsIO
import GoSnaps.Props.C14
import GoSnaps.Props.C14Json
import GoSnaps.Props.Tie.Flows

namespace GoSnaps.Tie.Pipeline
open GoSnaps GoSnaps.GoIO

/-- a Go `([]byte, error)` result read as the model's `Except` -/
def toExcept (r : Text × Err) : Except Text Text :=
  if r.2.isNil then .ok r.1 else .error r.2.text

/-- the dynamic input as the hand-written model sees it -/
def toJInput : Dyn → C14.JInput Nat
  | .str s => .str s
  | .bytes b => .bytes b
  | .other id => .val id

/-! ## `validateJSON` -/

theorem validateJSON_str (gv : Text → Bool) (jm : Dyn → Text × Err) (s : Text) :
    Generated.FuncsIO.validateJSON gv jm (.str s) =
      if gv s then (s, Err.nil) else ([], Err.other Generated.go_errInvalidJSON) := by
  simp only [Generated.FuncsIO.validateJSON]
  cases gv s <;> rfl

theorem validateJSON_bytes (gv : Text → Bool) (jm : Dyn → Text × Err) (b : Text) :
    Generated.FuncsIO.validateJSON gv jm (.bytes b) =
      if gv b then (b, Err.nil) else ([], Err.other Generated.go_errInvalidJSON) := by
  simp only [Generated.FuncsIO.validateJSON]
  cases gv b <;> rfl

theorem validateJSON_other (gv : Text → Bool) (jm : Dyn → Text × Err) (id : Nat) :
    Generated.FuncsIO.validateJSON gv jm (.other id) = jm (.other id) := rfl

/-- **the transliterated `validateJSON` is the model's**: for every validity predicate, every marshaller
and every input (`json.Marshal` never returns the sentinel `errSnapNotFound`; a marshalling error is carried
with its text) -/
theorem validateJSON_tied (gv : Text → Bool) (jm : Dyn → Text × Err) (d : Dyn) :
    toExcept (Generated.FuncsIO.validateJSON gv jm d) =
      C14.validateJSON gv (fun id => toExcept (jm (.other id))) (toJInput d) := by
  cases d with
  | str s =>
    rw [validateJSON_str]
    cases h : gv s <;> simp [h, toExcept, toJInput, C14.validateJSON, Err.isNil, Err.notNil, Err.text]
  | bytes b =>
    rw [validateJSON_bytes]
    cases h : gv b <;> simp [h, toExcept, toJInput, C14.validateJSON, Err.isNil, Err.notNil, Err.text]
  | other id => rfl

/-- the two text input forms (C14): a string and the same bytes as `[]byte` are validated alike, and nothing
but validity is asked of them — the bytes are handed on as they are -/
theorem validateJSON_forms (gv : Text → Bool) (jm : Dyn → Text × Err) (s : Text) :
    Generated.FuncsIO.validateJSON gv jm (.str s) = Generated.FuncsIO.validateJSON gv jm (.bytes s) ∧
    (gv s = true → Generated.FuncsIO.validateJSON gv jm (.str s) = (s, Err.nil)) ∧
    (gv s = false → (Generated.FuncsIO.validateJSON gv jm (.str s)).2 = Err.other Generated.go_errInvalidJSON) := by
  rw [validateJSON_str, validateJSON_bytes]
  refine ⟨rfl, fun h => by simp [h], fun h => by simp [h]⟩

/-- on a value of any other dynamic type the result depends on `json.Marshal` of that value alone: the
validity predicate is not consulted (this is `validateJSON_other`, twice) -/
theorem validateJSON_value_marshalled (gv : Text → Bool) (jm jm' : Dyn → Text × Err) (id : Nat)
    (h : jm (.other id) = jm' (.other id)) (gv' : Text → Bool) :
    Generated.FuncsIO.validateJSON gv jm (.other id) = Generated.FuncsIO.validateJSON gv' jm' (.other id) := by
  rw [validateJSON_other, validateJSON_other, h]

example : Generated.FuncsIO.validateJSON (fun s => s == [49]) (fun _ => ([110], Err.nil)) (.str [49]) = ([49], Err.nil) ∧
    (Generated.FuncsIO.validateJSON (fun s => s == [49]) (fun _ => ([110], Err.nil)) (.bytes [50])).2 =
      Err.other Generated.go_errInvalidJSON ∧
    Generated.FuncsIO.validateJSON (fun s => s == [49]) (fun _ => ([110], Err.nil)) (.other 7) = ([110], Err.nil) := by
  decide +kernel

/-! ## `validateYAML` -/

/-- "invalid yaml: " -/
def yamlPrefix : Text := [105, 110, 118, 97, 108, 105, 100, 32, 121, 97, 109, 108, 58, 32]

/-- `fmt.Errorf("invalid yaml: %w", e)` -/
def yamlErr (e : Err) : Err := Err.other (yamlPrefix ++ e.text)

theorem validateYAML_str (yu : Text → Err) (ym : Dyn → Text × Err) (s : Text) :
    Generated.FuncsIO.validateYAML yu ym (.str s) =
      if (yu s).notNil then ([], yamlErr (yu s)) else (s, Err.nil) := by
  rfl

theorem validateYAML_bytes (yu : Text → Err) (ym : Dyn → Text × Err) (b : Text) :
    Generated.FuncsIO.validateYAML yu ym (.bytes b) =
      if (yu b).notNil then ([], yamlErr (yu b)) else (b, Err.nil) := by
  rfl

theorem validateYAML_other (yu : Text → Err) (ym : Dyn → Text × Err) (id : Nat) :
    Generated.FuncsIO.validateYAML yu ym (.other id) =
      if (ym (.other id)).2.notNil then ([], yamlErr (ym (.other id)).2) else ((ym (.other id)).1, Err.nil) := by
  rfl

/-- **C18, validation without re-encoding**: a string or `[]byte` document that decodes is handed on
byte for byte (the decoder's output is thrown away); one that does not decode gives an error whose text
starts with `invalid yaml: ` and no document (a Go value is stored as the encoder wrote it:
`validateYAML_other`) -/
theorem validateYAML_verbatim (yu : Text → Err) (ym : Dyn → Text × Err) (s : Text) :
    ((yu s).isNil = true →
      Generated.FuncsIO.validateYAML yu ym (.str s) = (s, Err.nil) ∧
      Generated.FuncsIO.validateYAML yu ym (.bytes s) = (s, Err.nil)) ∧
    ((yu s).notNil = true →
      Generated.FuncsIO.validateYAML yu ym (.str s) = ([], yamlErr (yu s)) ∧
      Generated.FuncsIO.validateYAML yu ym (.bytes s) = ([], yamlErr (yu s))) := by
  rw [validateYAML_str, validateYAML_bytes]
  constructor
  · intro h
    have : (yu s).notNil = false := by simpa [Err.isNil] using h
    simp [this]
  · intro h; simp [h]

/-- an error of `validateYAML` is never nil and never the `snapshot not found` sentinel: the flow's
`errors.Is(err, errSnapNotFound)` branch cannot be taken for it -/
theorem validateYAML_error_shape (yu : Text → Err) (ym : Dyn → Text × Err) (d : Dyn) :
    (Generated.FuncsIO.validateYAML yu ym d).2 = Err.nil ∨
    ∃ e, (Generated.FuncsIO.validateYAML yu ym d).2 = yamlErr e ∧ (Generated.FuncsIO.validateYAML yu ym d).1 = [] := by
  cases d with
  | str s =>
    rw [validateYAML_str]
    cases h : (yu s).notNil
    · exact Or.inl (by simp)
    · exact Or.inr ⟨yu s, by simp, by simp⟩
  | bytes b =>
    rw [validateYAML_bytes]
    cases h : (yu b).notNil
    · exact Or.inl (by simp)
    · exact Or.inr ⟨yu b, by simp, by simp⟩
  | other id =>
    rw [validateYAML_other]
    cases h : (ym (.other id)).2.notNil
    · exact Or.inl (by simp)
    · exact Or.inr ⟨(ym (.other id)).2, by simp, by simp⟩

/-! ## the JSON options -/

/-- pretty.Options from a JSONConfig -/
def optsOf : Option JSONConfig → PrettyOpts
  | none => { width := (Generated.prettyWidth : Int), indent := Generated.prettyIndent, sortKeys := Generated.prettySortKeys }
  | some c => { width := c.width, indent := c.indent, sortKeys := c.sortKeys }

/-- `getPrettyJSONOptions` does not panic (a nil receiver is answered with the defaults read from the
source) and returns the three fields of a given JSONConfig -/
theorem getPrettyJSONOptions_tied (j : Option JSONConfig) :
    Generated.FuncsIO.JSONConfig_getPrettyJSONOptions j = some (optsOf j) := by
  cases j <;> rfl

/-- the defaults go-snaps passes when the Config has no JSON options: keys sorted, one space, no width -/
theorem default_opts : optsOf none = { width := 0, indent := [32], sortKeys := true } := by decide

/-! ## `takeJSONSnapshot` -/

/-- **the transliterated `takeJSONSnapshot`**: the pretty-printed document without ONE final newline, printed
with the options of `optsOf`; it cannot panic -/
theorem takeJSONSnapshot_tied (jc : Cfg → Option JSONConfig) (po : Text → PrettyOpts → Text) (c : Cfg) (b : Text) :
    Generated.FuncsIO.takeJSONSnapshot jc po c b = some (trimNL (po b (optsOf (jc c)))) := by
  unfold Generated.FuncsIO.takeJSONSnapshot
  rw [getPrettyJSONOptions_tied]
  simp [trimSuffix_nl]

/-- with a Config that carries no JSON options it is the model's `C14.takeJSONSnapshot` at the default
`SortKeys` read from the source -/
theorem takeJSONSnapshot_default (jc : Cfg → Option JSONConfig) (po : Text → PrettyOpts → Text) (c : Cfg) (b : Text)
    (h : jc c = none) :
    Generated.FuncsIO.takeJSONSnapshot jc po c b =
      some (C14.takeJSONSnapshot (fun s d => po d { optsOf none with sortKeys := s }) Generated.prettySortKeys b) := by
  rw [takeJSONSnapshot_tied, h]; rfl

/-! ## with the Lean model of the library -/

/-- the options as the JSON model takes them -/
def toModelOpts (o : PrettyOpts) : Json.Opts := { width := o.width, indent := o.indent, sortKeys := o.sortKeys }

/-- `pretty.PrettyOptions` as modelled by `Json.pretty` -/
def modelPretty (b : Text) (o : PrettyOpts) : Text := Json.pretty (toModelOpts o) b

/-- **what is stored for a valid document** (model of the library in place of the library): the text
`takeJSONSnapshot` returns has no terminator line — so the framing of the snapshot file cannot be broken by
a JSON snapshot — and feeding it back gives the same text (a stored entry replays), for every JSONConfig
whose indent is JSON white space -/
theorem stored_json_sound (jc : Cfg → Option JSONConfig) (c : Cfg) (b : Text) (v : Json.JV)
    (hv : Json.parse b = some v) (hi : Json.IndentWs (toModelOpts (optsOf (jc c)))) :
    ∃ s, Generated.FuncsIO.takeJSONSnapshot jc modelPretty c b = some s ∧
      (∀ l ∈ lines s, l ≠ endSeq) ∧
      Generated.FuncsIO.takeJSONSnapshot jc modelPretty c s = some s := by
  refine ⟨_, takeJSONSnapshot_tied jc modelPretty c b, ?_, ?_⟩
  · exact C14Json.snapshot_no_terminator_line _ hi b v hv
  · rw [takeJSONSnapshot_tied]
    congr 1
    unfold modelPretty
    -- pretty o (trimNL (pretty o b)) = pretty o b: the final newline is insignificant white space
    have hp : Json.pretty (toModelOpts (optsOf (jc c))) b =
        Json.ppV (toModelOpts (optsOf (jc c))) 0 0 v ++ [nl] := by
      simp [Json.pretty, hv, Json.printTree, nl]
    rw [hp, trimNL_append]
    have hws : Json.tokens (Json.ppV (toModelOpts (optsOf (jc c))) 0 0 v) =
        Json.tokens (Json.ppV (toModelOpts (optsOf (jc c))) 0 0 v ++ [nl]) := by
      exact (Json.tokens_ws_suffix _ [nl] (by intro x hx; simp at hx; subst hx; decide)).symm
    rw [C14Json.pretty_ws_invariant _ _ _ hws, ← hp, C14Json.pretty_idempotent _ hi b v hv, hp, trimNL_append]

theorem default_indent_ws : Json.IndentWs (toModelOpts (optsOf none)) := by
  intro x hx
  have : (toModelOpts (optsOf none)).indent = [32] := by decide
  rw [this] at hx
  simp at hx; subst hx; decide

example : Generated.FuncsIO.takeJSONSnapshot (fun _ => none) modelPretty {} [123, 34, 98, 34, 58, 49, 44, 34, 97, 34, 58, 50, 125] =
    some [123, 10, 32, 34, 97, 34, 58, 32, 50, 44, 10, 32, 34, 98, 34, 58, 32, 49, 10, 125] := by
  decide +kernel

/-! ## the flows with the source's own pipeline functions

The transliterated flows (Tie/Flows.lean) take `validate` and `takeJSON` as parameters and hand their
`input` to `validate` only; `dec` reads that opaque token as the dynamically typed value it stands for. -/

open GoSnaps.Tie in
/-- whatever validation is plugged in, the `pre` of a document flow is decided by its result alone -/
theorem docPre_of_validation (validate : Text → Text × Err) (run : Matcher → Text → Text × List MErr)
    (render : Text → Text) (input : Text) (ms : List Matcher) :
    docPre validate run render input ms =
      match toExcept (validate input) with
      | .error e => .error e
      | .ok j => docPre (fun _ => (j, Err.nil)) run render input ms := by
  unfold docPre toExcept
  cases h : (validate input).2.notNil <;> simp [h, Err.isNil]
  intro h'; exact absurd h' (by decide)

open GoSnaps.Tie in
/-- **MatchJSON / MatchStandaloneJSON with the source's `validateJSON`**: what reaches the snapshot stage is
decided by the model's `C14.validateJSON` on the dynamic type of the input — a string and the same bytes as
`[]byte` are indistinguishable from there on, an invalid one is rejected with `invalid json` before any
matcher runs, any other value goes through `json.Marshal` -/
theorem docPre_source_json (gv : Text → Bool) (jm : Dyn → Text × Err) (dec : Text → Dyn)
    (run : Matcher → Text → Text × List MErr) (render : Text → Text) (input : Text) (ms : List Matcher) :
    docPre (fun i => Generated.FuncsIO.validateJSON gv jm (dec i)) run render input ms =
      match C14.validateJSON gv (fun id => toExcept (jm (.other id))) (toJInput (dec input)) with
      | .error e => .error e
      | .ok j => docPre (fun _ => (j, Err.nil)) run render input ms := by
  rw [docPre_of_validation, validateJSON_tied]

open GoSnaps.Tie in
theorem docPre_source_json_forms (gv : Text → Bool) (jm : Dyn → Text × Err) (dec : Text → Dyn)
    (run : Matcher → Text → Text × List MErr) (render : Text → Text) (i1 i2 : Text) (s : Text) (ms : List Matcher)
    (h1 : dec i1 = .str s) (h2 : dec i2 = .bytes s) :
    docPre (fun i => Generated.FuncsIO.validateJSON gv jm (dec i)) run render i1 ms =
    docPre (fun i => Generated.FuncsIO.validateJSON gv jm (dec i)) run render i2 ms := by
  unfold docPre
  simp only [h1, h2, (validateJSON_forms gv jm s).1]

end GoSnaps.Tie.Pipeline
