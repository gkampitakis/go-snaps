/-
Tie by proof: the registry methods of snaps/snapshot.go (`Generated/FuncsIO.lean`):
`syncRegistry.getTestID`, `syncRegistry.reset`, `syncStandaloneRegistry.getTestID`,
`syncStandaloneRegistry.reset`.

The Go registries are nested maps (`map[string]map[string]int`, run-time semantics `GoIO.Map2`);
the model (`Model.lean`) keeps flat association lists keyed by `(snapPath, testName)`.  The
abstraction relations `RegRel` / `SRegRel` say that both read the same number at every key (and,
for the nested maps, that the inner maps of `running` and `cleanup` exist together, which is what
keeps `cleanup[snapPath][testName]++` from panicking).

For the methods
* `…_eq`    : (all but `syncStandaloneRegistry.reset`) the transliteration in closed form, for EVERY registry (no hypothesis): when it panics
              and what it returns (the strongest statement; everything else is a corollary);
* `…_tied`  : from related states the method does the model's step (`regBump` / `sregBump` /
              the reset of `endTest`) and returns the model's formatted id;
* isolation : statements about the transliterated code alone (no model state): the other keys are
              not touched, the ordinal is the old counter plus one.
The `example`s run the methods on small concrete registries (non-vacuity).

Byte legend: 91 = '[', 93 = ']', 32 = ' ', 45 = '-', 37 = '%', 100 = 'd', 97 = 'a', 98 = 'b', 95 = '_'.
-/
import GoSnaps.GoIO
import GoSnaps.Format
import GoSnaps.Model
import GoSnaps.Generated.FuncsIO
import GoSnaps.Lemmas.Update
namespace GoSnaps.Tie
open GoSnaps GoSnaps.GoIO
open GoSnaps.Generated.FuncsIO

/-! ## Go maps (`GoIO.Map1`, `GoIO.Map2`) -/

theorem map1Get_map1Set (m : Map1) (k k' : Text) (v : Int) :
    map1Get (map1Set m k v) k' = if k' = k then v else map1Get m k' := by
  induction m with
  | nil =>
    by_cases h : k' = k
    · subst h; simp [map1Set, map1Get]
    · have : ¬ k = k' := fun e => h e.symm
      simp [map1Set, map1Get, h, this]
  | cons x m ih =>
    obtain ⟨a, b⟩ := x
    by_cases h1 : a = k
    · subst h1
      by_cases h2 : k' = a
      · subst h2; simp [map1Set, map1Get]
      · have : ¬ a = k' := fun e => h2 e.symm
        simp [map1Set, map1Get, h2, this]
    · by_cases h2 : a = k'
      · subst h2
        simp [map1Set, map1Get, h1]
      · simp [map1Set, map1Get, h1, h2, ih]

theorem map1Get_map1Inc (m : Map1) (k k' : Text) :
    map1Get (map1Inc m k) k' = if k' = k then map1Get m k' + 1 else map1Get m k' := by
  unfold map1Inc
  rw [map1Get_map1Set]
  split
  · subst k'; rfl
  · rfl

theorem map2Inner_setInner (m : Map2) (a a' : Text) (i : Map1) :
    map2Inner (map2SetInner m a i) a' = if a' = a then i else map2Inner m a' := by
  induction m with
  | nil =>
    by_cases h : a' = a
    · subst h; simp [map2SetInner, map2Inner]
    · have : ¬ a = a' := fun e => h e.symm
      simp [map2SetInner, map2Inner, h, this]
  | cons x m ih =>
    obtain ⟨k, b⟩ := x
    by_cases h1 : k = a
    · subst h1
      by_cases h2 : a' = k
      · subst h2; simp [map2SetInner, map2Inner]
      · have : ¬ k = a' := fun e => h2 e.symm
        simp [map2SetInner, map2Inner, h2, this]
    · by_cases h2 : k = a'
      · subst h2
        simp [map2SetInner, map2Inner, h1]
      · simp [map2SetInner, map2Inner, h1, h2, ih]

theorem map2Has_setInner (m : Map2) (a a' : Text) (i : Map1) :
    map2Has (map2SetInner m a i) a' = (map2Has m a' || decide (a' = a)) := by
  induction m with
  | nil => simp [map2SetInner, map2Has, eq_comm]
  | cons x m ih =>
    obtain ⟨k, b⟩ := x
    have ih' : (map2SetInner m a i).any (fun x => decide (x.1 = a')) =
        (m.any (fun x => decide (x.1 = a')) || decide (a' = a)) := ih
    by_cases h1 : k = a
    · subst h1
      by_cases h2 : a' = k
      · subst h2; simp [map2SetInner, map2Has]
      · have : ¬ k = a' := fun e => h2 e.symm
        simp [map2SetInner, map2Has, h2, this]
    · by_cases h2 : k = a'
      · subst h2
        simp [map2SetInner, map2Has, h1]
      · simp [map2SetInner, map2Has, h1, h2, ih']

theorem map2Inner_of_not_has (m : Map2) (a : Text) (h : map2Has m a = false) : map2Inner m a = [] := by
  induction m with
  | nil => rfl
  | cons x m ih =>
    obtain ⟨k, b⟩ := x
    by_cases h1 : k = a
    · subst h1; simp [map2Has] at h
    · have : map2Has m a = false := by simpa [map2Has, h1] using h
      simp [map2Inner, h1, ih this]

theorem map2Get_of_not_has (m : Map2) (a b : Text) (h : map2Has m a = false) : map2Get m a b = 0 := by
  simp [map2Get, map2Inner_of_not_has m a h, map1Get]

/-- `m[a][b] = v` on an existing inner map -/
def map2Put (m : Map2) (a b : Text) (v : Int) : Map2 := map2SetInner m a (map1Set (map2Inner m a) b v)

theorem map2Set_eq (m : Map2) (a b : Text) (v : Int) :
    map2Set m a b v = if map2Has m a then some (map2Put m a b v) else none := rfl

theorem map2Get_put (m : Map2) (a b a' b' : Text) (v : Int) :
    map2Get (map2Put m a b v) a' b' = if a' = a ∧ b' = b then v else map2Get m a' b' := by
  unfold map2Get map2Put
  rw [map2Inner_setInner]
  by_cases h1 : a' = a
  · subst h1
    simp [map1Get_map1Set]
  · simp [h1]

theorem map2Has_put (m : Map2) (a b a' : Text) (v : Int) :
    map2Has (map2Put m a b v) a' = (map2Has m a' || decide (a' = a)) := map2Has_setInner _ _ _ _

/-- creating an empty inner map where none exists changes no reading -/
theorem map2Get_setInner_nil (m : Map2) (a a' b' : Text) (h : map2Has m a = false) :
    map2Get (map2SetInner m a []) a' b' = map2Get m a' b' := by
  unfold map2Get
  rw [map2Inner_setInner]
  by_cases h1 : a' = a
  · subst h1; simp [map2Inner_of_not_has m a' h]
  · simp [h1]

/-- the format string read from the Go source (`"[%s - %d]"`), interpreted by the model's
    `sprintf`, writes exactly the bytes the transliteration concatenates -/
theorem sprintf_idFmt (name : Text) (k : Nat) :
    sprintf Generated.idFmt [.s name, .d k] =
      some (([91] : Text) ++ name ++ ([32, 45, 32] : Text) ++ natToText k ++ ([93] : Text)) := by
  have hp : parseFmt Generated.idFmt =
      some [.lit [91], .verb 115, .lit [32, 45, 32], .verb 100, .lit [93]] := by decide
  simp [sprintf, hp, fmtPieces, fmtVerb]

/-! ## the abstraction relation for `syncRegistry` -/

/-- the nested Go maps and the model's flat lists read the same counter at every key, and the inner
    maps of `running` and `cleanup` exist for the same paths -/
structure RegRel (r : Registry) (running cleanup : List (RegKey × Nat)) : Prop where
  running : ∀ p n : Text, map2Get r.running p n = (alGet running (p, n) : Int)
  cleanup : ∀ p n : Text, map2Get r.cleanup p n = (alGet cleanup (p, n) : Int)
  has : ∀ p : Text, map2Has r.running p = map2Has r.cleanup p

/-- `newRegistry()` -/
theorem RegRel_init : RegRel {} [] [] :=
  ⟨fun _ _ => rfl, fun _ _ => rfl, fun _ => rfl⟩

/-! ## `syncRegistry.getTestID` -/

/-- `if _, exists := s.running[snapPath]; !exists { s.running[snapPath] = make(…); s.cleanup[snapPath] = make(…) }` -/
def regEnsure (r : Registry) (p : Text) : Registry :=
  if map2Has r.running p then r
  else { running := map2SetInner r.running p [], cleanup := map2SetInner r.cleanup p [] }

/-- the registry after a `getTestID` that does not panic -/
def regBumped (r : Registry) (p n : Text) : Registry :=
  { running := map2Put (regEnsure r p).running p n (map2Get r.running p n + 1),
    cleanup := map2Put (regEnsure r p).cleanup p n (map2Get (regEnsure r p).cleanup p n + 1) }

/-- **Closed form, for every registry**: `getTestID` panics exactly when `running[snapPath]` exists
    and `cleanup[snapPath]` does not; otherwise it bumps both counters and returns
    `"[" + testName + " - " + itoa(old running counter + 1) + "]"`. -/
theorem syncRegistry_getTestID_eq (r : Registry) (p n : Text) :
    syncRegistry_getTestID r p n =
      if map2Has r.running p = true ∧ map2Has r.cleanup p = false then none
      else some (regBumped r p n,
        ([91] : Text) ++ n ++ ([32, 45, 32] : Text) ++ GoSem.itoa (map2Get r.running p n + 1) ++ ([93] : Text)) := by
  unfold syncRegistry_getTestID regBumped regEnsure
  by_cases h1 : map2Has r.running p = true
  · by_cases h2 : map2Has r.cleanup p = true
    · simp [h1, h2, map2Inc, map2Set_eq, ← map2Get.eq_1, map2Get_put]
    · have h2' : map2Has r.cleanup p = false := by simpa using h2
      simp [h1, h2', map2Inc, map2Set_eq]
  · have h1' : map2Has r.running p = false := by simpa using h1
    have h0 : map2Get r.running p n = 0 := map2Get_of_not_has _ _ _ h1'
    simp [h1', h0, map2Inc, map2Set_eq, map2Has_setInner, ← map2Get.eq_1, map2Get_put,
      map2Get_setInner_nil _ _ _ _ h1']

theorem syncRegistry_getTestID_panics_iff (r : Registry) (p n : Text) :
    syncRegistry_getTestID r p n = none ↔ (map2Has r.running p = true ∧ map2Has r.cleanup p = false) := by
  rw [syncRegistry_getTestID_eq]
  by_cases h : map2Has r.running p = true ∧ map2Has r.cleanup p = false
  · simp [h]
  · rw [if_neg h]; simp [h]

theorem syncRegistry_getTestID_some {r r' : Registry} {p n id : Text}
    (e : syncRegistry_getTestID r p n = some (r', id)) :
    r' = regBumped r p n ∧ id = ([91] : Text) ++ n ++ ([32, 45, 32] : Text) ++ GoSem.itoa (map2Get r.running p n + 1) ++ ([93] : Text) := by
  rw [syncRegistry_getTestID_eq] at e
  split at e
  · cases e
  · cases e; exact ⟨rfl, rfl⟩

theorem regEnsure_has_running (r : Registry) (p : Text) : map2Has (regEnsure r p).running p = true := by
  unfold regEnsure
  by_cases h : map2Has r.running p = true
  · simp [h]
  · simp [h, map2Has_setInner]

theorem regEnsure_get_running (r : Registry) (p p' n' : Text) :
    map2Get (regEnsure r p).running p' n' = map2Get r.running p' n' := by
  unfold regEnsure
  by_cases h : map2Has r.running p = true
  · simp [h]
  · have h' : map2Has r.running p = false := by simpa using h
    simp [h', map2Get_setInner_nil _ _ _ _ h']

/-- needs: an inner map of `cleanup` exists only where one of `running` does (otherwise the
    `make` would wipe it) -/
theorem regEnsure_get_cleanup (r : Registry) (p p' n' : Text)
    (hh : map2Has r.cleanup p = true → map2Has r.running p = true) :
    map2Get (regEnsure r p).cleanup p' n' = map2Get r.cleanup p' n' := by
  unfold regEnsure
  by_cases h : map2Has r.running p = true
  · simp [h]
  · have h' : map2Has r.running p = false := by simpa using h
    have hc : map2Has r.cleanup p = false := by
      cases hc : map2Has r.cleanup p with
      | false => rfl
      | true => exact absurd (hh hc) h
    simp [h', map2Get_setInner_nil _ _ _ _ hc]

theorem regEnsure_has (r : Registry) (p q : Text) (hh : ∀ q, map2Has r.running q = map2Has r.cleanup q) :
    map2Has (regEnsure r p).running q = map2Has (regEnsure r p).cleanup q := by
  unfold regEnsure
  by_cases h : map2Has r.running p = true
  · simp [h, hh q]
  · simp [h, map2Has_setInner, hh q]

theorem regBumped_has_running (r : Registry) (p n q : Text) :
    map2Has (regBumped r p n).running q = (map2Has r.running q || decide (q = p)) := by
  unfold regBumped
  rw [map2Has_put]
  unfold regEnsure
  by_cases h : map2Has r.running p = true
  · simp [h]
  · simp [h, map2Has_setInner]

theorem RegRel_regBumped (r : Registry) (run cl : List (RegKey × Nat)) (p n : Text) (h : RegRel r run cl) :
    RegRel (regBumped r p n) (alSet run (p, n) (alGet run (p, n) + 1))
      (alSet cl (p, n) (alGet cl (p, n) + 1)) := by
  have hcl : map2Has r.cleanup p = true → map2Has r.running p = true := fun e => by rw [h.has]; exact e
  refine ⟨fun p' n' => ?_, fun p' n' => ?_, fun q => ?_⟩
  · simp only [regBumped, map2Get_put, alGet_alSet, Prod.mk.injEq, regEnsure_get_running, h.running]
    by_cases hk : p' = p ∧ n' = n
    · simp [hk]
    · simp [hk]
  · simp only [regBumped, map2Get_put, alGet_alSet, Prod.mk.injEq,
      regEnsure_get_cleanup r p _ _ hcl, h.cleanup]
    by_cases hk : p' = p ∧ n' = n
    · simp [hk]
    · simp [hk]
  · simp only [regBumped, map2Has_put, regEnsure_has r p q h.has]

/-- **Tie**: from a state related to the model's lists, `syncRegistry.getTestID` does not panic,
    performs the model's `regBump` on the key `(snapPath, testName)` and returns the id that
    `matchEntry` formats with `sprintf Generated.idFmt`; afterwards `running[snapPath]` exists. -/
theorem syncRegistry_getTestID_tied (r : Registry) (run cl : List (RegKey × Nat)) (p n : Text)
    (h : RegRel r run cl) :
    ∃ r' id, syncRegistry_getTestID r p n = some (r', id) ∧
      RegRel r' (alSet run (p, n) (alGet run (p, n) + 1)) (alSet cl (p, n) (alGet cl (p, n) + 1)) ∧
      sprintf Generated.idFmt [.s n, .d (alGet run (p, n) + 1)] = some id ∧
      map2Has r'.running p = true := by
  refine ⟨regBumped r p n,
    ([91] : Text) ++ n ++ ([32, 45, 32] : Text) ++ GoSem.itoa (map2Get r.running p n + 1) ++ ([93] : Text),
    ?_, RegRel_regBumped r run cl p n h, ?_, ?_⟩
  · rw [syncRegistry_getTestID_eq, if_neg]
    intro ⟨h1, h2⟩
    rw [h.has, h2] at h1
    exact absurd h1 (by decide)
  · rw [sprintf_idFmt, h.running]
    have : ((alGet run (p, n) : Nat) : Int) + 1 = ((alGet run (p, n) + 1 : Nat) : Int) := by omega
    rw [this, GoSem.itoa_natCast]
  · simp [regBumped_has_running]

theorem syncRegistry_getTestID_no_panic (r : Registry) (run cl : List (RegKey × Nat)) (p n : Text)
    (h : RegRel r run cl) : syncRegistry_getTestID r p n ≠ none := by
  obtain ⟨r', id, e, _⟩ := syncRegistry_getTestID_tied r run cl p n h
  rw [e]; simp

/-- non-vacuity: the first two calls for test "a" in file "b", from `newRegistry()`:
    ids "[a - 1]" and "[a - 2]"; the empty registries are related, and the list update of one `regBump` on the
    model's empty list gives counter 1, formatted "[a - 1]" -/
example :
    RegRel {} [] [] ∧
    syncRegistry_getTestID {} [98] [97] =
      some ({ running := [([98], [([97], 1)])], cleanup := [([98], [([97], 1)])] },
            [91, 97, 32, 45, 32, 49, 93]) ∧
    syncRegistry_getTestID { running := [([98], [([97], 1)])], cleanup := [([98], [([97], 1)])] } [98] [97] =
      some ({ running := [([98], [([97], 2)])], cleanup := [([98], [([97], 2)])] },
            [91, 97, 32, 45, 32, 50, 93]) ∧
    alSet ([] : List (RegKey × Nat)) ([98], [97]) (alGet ([] : List (RegKey × Nat)) ([98], [97]) + 1)
      = [(([98], [97]), 1)] ∧
    sprintf Generated.idFmt [.s [97], .d 1] = some [91, 97, 32, 45, 32, 49, 93] := by
  refine ⟨RegRel_init, by decide +kernel, by decide +kernel, by decide +kernel, by decide +kernel⟩

/-- non-vacuity of the panic case: `running["b"]` exists, `cleanup["b"]` does not (not reachable) -/
example : syncRegistry_getTestID { running := [([98], [])], cleanup := [] } [98] [97] = none := by decide +kernel

/-! ## `syncRegistry.reset` -/

/-- **Closed form, for every registry**: `s.running[snapPath][testName] = 0` panics exactly when
    `running[snapPath]` does not exist -/
theorem syncRegistry_reset_eq (r : Registry) (p n : Text) :
    syncRegistry_reset r p n =
      if map2Has r.running p then some { r with running := map2Put r.running p n 0 } else none := by
  unfold syncRegistry_reset
  by_cases h : map2Has r.running p = true
  · simp [h, map2Set_eq]
  · simp [h, map2Set_eq]

theorem syncRegistry_reset_panics_iff (r : Registry) (p n : Text) :
    syncRegistry_reset r p n = none ↔ map2Has r.running p = false := by
  rw [syncRegistry_reset_eq]
  cases map2Has r.running p <;> simp

theorem syncRegistry_reset_some {r r' : Registry} {p n : Text} (e : syncRegistry_reset r p n = some r') :
    map2Has r.running p = true ∧ r' = { r with running := map2Put r.running p n 0 } := by
  rw [syncRegistry_reset_eq] at e
  split at e
  · cases e; exact ⟨‹_›, rfl⟩
  · cases e

theorem syncRegistry_reset_has (r r' : Registry) (p n q : Text)
    (e : syncRegistry_reset r p n = some r') : map2Has r'.running q = map2Has r.running q := by
  obtain ⟨hp, rfl⟩ := syncRegistry_reset_some e
  simp only [map2Has_put]
  by_cases hq : q = p
  · subst hq; simp [hp]
  · simp [hq]

/-- a reset for a path on which `getTestID` was never called panics (assignment to an entry of the
    nil inner map) -/
theorem syncRegistry_reset_panics (r : Registry) (p n : Text) (hp : map2Has r.running p = false) :
    syncRegistry_reset r p n = none :=
  (syncRegistry_reset_panics_iff r p n).mpr hp

/-- **Tie**: after a `getTestID` on that path (`running[snapPath]` exists) the reset does not panic
    and is the model's `alSet running (snapPath, testName) 0` of `endTest`; `cleanup` is untouched -/
theorem syncRegistry_reset_tied (r : Registry) (run cl : List (RegKey × Nat)) (p n : Text)
    (h : RegRel r run cl) (hp : map2Has r.running p = true) :
    ∃ r', syncRegistry_reset r p n = some r' ∧ RegRel r' (alSet run (p, n) 0) cl ∧
      r'.cleanup = r.cleanup ∧ ∀ q, map2Has r'.running q = map2Has r.running q := by
  have e : syncRegistry_reset r p n = some { r with running := map2Put r.running p n 0 } := by
    rw [syncRegistry_reset_eq, hp]; rfl
  refine ⟨_, e, ⟨fun p' n' => ?_, h.cleanup, fun q => ?_⟩, rfl, fun q => syncRegistry_reset_has r _ p n q e⟩
  · simp only [map2Get_put, alGet_alSet, Prod.mk.injEq, h.running]
    by_cases hk : p' = p ∧ n' = n
    · simp [hk]
    · simp [hk]
  · rw [← h.has]; exact syncRegistry_reset_has r _ p n q e

/-- `getTestID` establishes `running[snapPath]` exists, and never removes an inner map -/
theorem syncRegistry_getTestID_has (r r' : Registry) (p n q : Text) (id : Text)
    (e : syncRegistry_getTestID r p n = some (r', id)) :
    map2Has r'.running q = (map2Has r.running q || decide (q = p)) := by
  rw [(syncRegistry_getTestID_some e).1, regBumped_has_running]

/-- non-vacuity: after two calls for ("b", "a") and one for ("b", "c") the cleanup of test "a"
    resets its counter only; on the empty registry the reset panics -/
example :
    map2Has ([([98], [([97], 2), ([99], 1)])] : Map2) [98] = true ∧
    RegRel { running := [([98], [([97], 2), ([99], 1)])], cleanup := [([98], [([97], 2), ([99], 1)])] }
      [(([98], [97]), 2), (([98], [99]), 1)] [(([98], [97]), 2), (([98], [99]), 1)] ∧
    syncRegistry_reset
      { running := [([98], [([97], 2), ([99], 1)])], cleanup := [([98], [([97], 2), ([99], 1)])] } [98] [97] =
      some { running := [([98], [([97], 0), ([99], 1)])], cleanup := [([98], [([97], 2), ([99], 1)])] } ∧
    alSet [((([98], [97]) : RegKey), 2), (([98], [99]), 1)] ([98], [97]) 0 =
      [(([98], [97]), 0), (([98], [99]), 1)] ∧
    syncRegistry_reset {} [98] [97] = none := by
  -- the related state is the one reached by three `getTestID`s from `newRegistry()` (by computation)
  exact ⟨by decide +kernel,
    RegRel_regBumped _ _ _ [98] [99] (RegRel_regBumped _ _ _ [98] [97] (RegRel_regBumped {} [] [] [98] [97] RegRel_init)),
    by decide +kernel, by decide +kernel, by decide +kernel⟩

/-! ## the standalone registry -/

/-- the Go maps and the model's lists read the same counter at every path -/
structure SRegRel (s : SRegistry) (running cleanup : List (Text × Nat)) : Prop where
  running : ∀ p : Text, map1Get s.running p = (alGet running p : Int)
  cleanup : ∀ p : Text, map1Get s.cleanup p = (alGet cleanup p : Int)

/-- `newStandaloneRegistry()` -/
theorem SRegRel_init : SRegRel {} [] [] := ⟨fun _ => rfl, fun _ => rfl⟩

/-- the standalone registry after `getTestID` (the maps are updated before the formats are run) -/
def sregBumped (s : SRegistry) (p : Text) : SRegistry :=
  { running := map1Inc s.running p, cleanup := map1Inc s.cleanup p }

theorem syncStandaloneRegistry_getTestID_eq (s : SRegistry) (p rel : Text) :
    syncStandaloneRegistry_getTestID s p rel =
      match sprintfInt p (map1Get s.running p + 1), sprintfInt rel (map1Get s.running p + 1) with
      | some a, some b => some (sregBumped s p, a, b)
      | _, _ => none := by
  unfold syncStandaloneRegistry_getTestID sregBumped
  simp only [map1Get_map1Inc, if_true]
  cases sprintfInt p (map1Get s.running p + 1) with
  | none => rfl
  | some a =>
    cases sprintfInt rel (map1Get s.running p + 1) with
    | none => rfl
    | some b => rfl

theorem syncStandaloneRegistry_getTestID_eq_some {s s' : SRegistry} {p rel a b : Text}
    (e : syncStandaloneRegistry_getTestID s p rel = some (s', a, b)) :
    s' = sregBumped s p ∧ sprintfInt p (map1Get s.running p + 1) = some a ∧
      sprintfInt rel (map1Get s.running p + 1) = some b := by
  rw [syncStandaloneRegistry_getTestID_eq] at e
  split at e
  · cases e; exact ⟨rfl, ‹_›, ‹_›⟩
  · cases e

theorem SRegRel_sregBumped (s : SRegistry) (run cl : List (Text × Nat)) (p : Text) (h : SRegRel s run cl) :
    SRegRel (sregBumped s p) (alSet run p (alGet run p + 1)) (alSet cl p (alGet cl p + 1)) := by
  refine ⟨fun q => ?_, fun q => ?_⟩
  · simp only [sregBumped, map1Get_map1Inc, alGet_alSet, h.running]
    by_cases hq : q = p
    · simp [hq]
    · simp [hq]
  · simp only [sregBumped, map1Get_map1Inc, alGet_alSet, h.cleanup]
    by_cases hq : q = p
    · simp [hq]
    · simp [hq]

theorem sprintfInt_succ (f : Text) (k : Nat) : sprintfInt f ((k : Int) + 1) = sprintf f [.d (k + 1)] := by
  unfold sprintfInt
  rw [if_neg (by omega)]
  have : ((k : Int) + 1).toNat = k + 1 := by omega
  rw [this]

/-- **Tie**: from a related state, `syncStandaloneRegistry.getTestID` is the model's `sregBump`
    followed by the two `sprintf`s of `matchStandalone`, in every case: both formats in the
    modelled fragment = the two texts and the bumped registry; otherwise `none`. -/
theorem syncStandaloneRegistry_getTestID_tied (s : SRegistry) (run cl : List (Text × Nat)) (p rel : Text)
    (h : SRegRel s run cl) :
    syncStandaloneRegistry_getTestID s p rel =
      (match sprintf p [.d (alGet run p + 1)], sprintf rel [.d (alGet run p + 1)] with
       | some a, some b => some (sregBumped s p, a, b)
       | _, _ => none) ∧
    SRegRel (sregBumped s p) (alSet run p (alGet run p + 1)) (alSet cl p (alGet cl p + 1)) := by
  refine ⟨?_, SRegRel_sregBumped s run cl p h⟩
  rw [syncStandaloneRegistry_getTestID_eq, h.running, sprintfInt_succ, sprintfInt_succ]

theorem syncStandaloneRegistry_getTestID_some (s : SRegistry) (run cl : List (Text × Nat)) (p rel a b : Text)
    (h : SRegRel s run cl)
    (ha : sprintf p [.d (alGet run p + 1)] = some a) (hb : sprintf rel [.d (alGet run p + 1)] = some b) :
    ∃ s', syncStandaloneRegistry_getTestID s p rel = some (s', a, b) ∧
      SRegRel s' (alSet run p (alGet run p + 1)) (alSet cl p (alGet cl p + 1)) := by
  refine ⟨sregBumped s p, ?_, SRegRel_sregBumped s run cl p h⟩
  rw [(syncStandaloneRegistry_getTestID_tied s run cl p rel h).1, ha, hb]

/-- … and its converse: whatever the method returns are the model's two texts and a state related
    to the model's `sregBump` -/
theorem syncStandaloneRegistry_getTestID_inv (s s' : SRegistry) (run cl : List (Text × Nat)) (p rel a b : Text)
    (h : SRegRel s run cl) (e : syncStandaloneRegistry_getTestID s p rel = some (s', a, b)) :
    sprintf p [.d (alGet run p + 1)] = some a ∧ sprintf rel [.d (alGet run p + 1)] = some b ∧
      SRegRel s' (alSet run p (alGet run p + 1)) (alSet cl p (alGet cl p + 1)) := by
  obtain ⟨rfl, ha, hb⟩ := syncStandaloneRegistry_getTestID_eq_some e
  rw [h.running, sprintfInt_succ] at ha hb
  exact ⟨ha, hb, SRegRel_sregBumped s run cl p h⟩

theorem syncStandaloneRegistry_getTestID_none_iff (s : SRegistry) (run cl : List (Text × Nat)) (p rel : Text)
    (h : SRegRel s run cl) :
    syncStandaloneRegistry_getTestID s p rel = none ↔
      (sprintf p [.d (alGet run p + 1)] = none ∨ sprintf rel [.d (alGet run p + 1)] = none) := by
  rw [(syncStandaloneRegistry_getTestID_tied s run cl p rel h).1]
  cases sprintf p [.d (alGet run p + 1)] with
  | none => simp
  | some a =>
    cases sprintf rel [.d (alGet run p + 1)] with
    | none => simp
    | some b => simp

/-- non-vacuity: generic paths "a_%d" / "b_%d", first call: "a_1", "b_1"; a format outside the
    modelled fragment ("%5d") gives `none` -/
example :
    SRegRel {} [] [] ∧
    syncStandaloneRegistry_getTestID {} [97, 95, 37, 100] [98, 95, 37, 100] =
      some ({ running := [([97, 95, 37, 100], 1)], cleanup := [([97, 95, 37, 100], 1)] },
        [97, 95, 49], [98, 95, 49]) ∧
    sprintf [97, 95, 37, 100] [.d (alGet ([] : List (Text × Nat)) [97, 95, 37, 100] + 1)] = some [97, 95, 49] ∧
    syncStandaloneRegistry_getTestID {} [37, 53, 100] [98, 95, 37, 100] = none ∧
    sprintf [37, 53, 100] [.d 1] = none := by
  refine ⟨SRegRel_init, by decide +kernel, by decide +kernel, by decide +kernel, by decide +kernel⟩

/-- **Tie**: `syncStandaloneRegistry.reset` is the model's `alSet srunning snapPath 0` of `endTest`
    (a plain map: it cannot panic) -/
theorem syncStandaloneRegistry_reset_tied (s : SRegistry) (run cl : List (Text × Nat)) (p : Text)
    (h : SRegRel s run cl) :
    SRegRel (syncStandaloneRegistry_reset s p) (alSet run p 0) cl := by
  have e : syncStandaloneRegistry_reset s p = { s with running := map1Set s.running p 0 } := rfl
  rw [e]
  refine ⟨fun q => ?_, h.cleanup⟩
  simp only [map1Get_map1Set, alGet_alSet, h.running]
  by_cases hq : q = p
  · simp [hq]
  · simp [hq]

example :
    SRegRel { running := [([97], 2), ([98], 1)], cleanup := [([97], 2), ([98], 1)] }
      [([97], 2), ([98], 1)] [([97], 2), ([98], 1)] ∧
    syncStandaloneRegistry_reset { running := [([97], 2), ([98], 1)], cleanup := [([97], 2), ([98], 1)] } [97] =
      { running := [([97], 0), ([98], 1)], cleanup := [([97], 2), ([98], 1)] } ∧
    alSet [(([97] : Text), 2), ([98], 1)] [97] 0 = [([97], 0), ([98], 1)] := by
  refine ⟨⟨fun q => ?_, fun q => ?_⟩, by decide +kernel, by decide +kernel⟩ <;>
  · by_cases h1 : ([97] : Text) = q
    · subst h1; decide +kernel
    · by_cases h2 : ([98] : Text) = q
      · subst h2; decide +kernel
      · simp [map1Get, alGet, h1, h2]

/-! ## isolation, directly about the transliterated code (no model state) -/

/-- the ordinal in the returned id is the old counter plus one, and it is the new counter -/
theorem syncRegistry_getTestID_ordinal (r r' : Registry) (p n id : Text)
    (e : syncRegistry_getTestID r p n = some (r', id)) :
    id = ([91] : Text) ++ n ++ ([32, 45, 32] : Text) ++ GoSem.itoa (map2Get r.running p n + 1) ++ ([93] : Text) ∧
    map2Get r'.running p n = map2Get r.running p n + 1 := by
  obtain ⟨rfl, rfl⟩ := syncRegistry_getTestID_some e
  exact ⟨rfl, by simp [regBumped, map2Get_put]⟩

/-- `getTestID` for `(p, n)` leaves the `running` counter of every other key alone -/
theorem syncRegistry_getTestID_running_other (r r' : Registry) (p n id p' n' : Text)
    (e : syncRegistry_getTestID r p n = some (r', id)) (hk : (p', n') ≠ (p, n)) :
    map2Get r'.running p' n' = map2Get r.running p' n' := by
  obtain ⟨rfl, _⟩ := syncRegistry_getTestID_some e
  have : ¬ (p' = p ∧ n' = n) := fun ⟨a, b⟩ => hk (by rw [a, b])
  simp [regBumped, map2Get_put, this, regEnsure_get_running]

/-- … and the `cleanup` counter of every other key, provided `cleanup[p]` exists only if
    `running[p]` does (true whenever `RegRel` holds: `RegRel.has`) -/
theorem syncRegistry_getTestID_cleanup_other (r r' : Registry) (p n id p' n' : Text)
    (e : syncRegistry_getTestID r p n = some (r', id)) (hk : (p', n') ≠ (p, n))
    (hh : map2Has r.cleanup p = true → map2Has r.running p = true) :
    map2Get r'.cleanup p' n' = map2Get r.cleanup p' n' := by
  obtain ⟨rfl, _⟩ := syncRegistry_getTestID_some e
  have : ¬ (p' = p ∧ n' = n) := fun ⟨a, b⟩ => hk (by rw [a, b])
  simp [regBumped, map2Get_put, this, regEnsure_get_cleanup r p _ _ hh]

/-- … while the `cleanup` counter of the key itself grows by one -/
theorem syncRegistry_getTestID_cleanup_self (r r' : Registry) (p n id : Text)
    (e : syncRegistry_getTestID r p n = some (r', id))
    (hh : map2Has r.cleanup p = true → map2Has r.running p = true) :
    map2Get r'.cleanup p n = map2Get r.cleanup p n + 1 := by
  obtain ⟨rfl, _⟩ := syncRegistry_getTestID_some e
  simp [regBumped, map2Get_put, regEnsure_get_cleanup r p _ _ hh]

/-- `reset` for `(p, n)` zeroes that `running` counter, leaves every other one alone and does not
    touch `cleanup` -/
theorem syncRegistry_reset_isolated (r r' : Registry) (p n : Text) (e : syncRegistry_reset r p n = some r') :
    map2Get r'.running p n = 0 ∧
    (∀ p' n', (p', n') ≠ (p, n) → map2Get r'.running p' n' = map2Get r.running p' n') ∧
    r'.cleanup = r.cleanup := by
  obtain ⟨_, rfl⟩ := syncRegistry_reset_some e
  refine ⟨by simp [map2Get_put], fun p' n' hk => ?_, rfl⟩
  have : ¬ (p' = p ∧ n' = n) := fun ⟨a, b⟩ => hk (by rw [a, b])
  simp [map2Get_put, this]

/-- the standalone registry: the ordinal is the old counter plus one; other paths are not touched -/
theorem syncStandaloneRegistry_getTestID_isolated (s s' : SRegistry) (p rel a b : Text)
    (e : syncStandaloneRegistry_getTestID s p rel = some (s', a, b)) :
    map1Get s'.running p = map1Get s.running p + 1 ∧
    map1Get s'.cleanup p = map1Get s.cleanup p + 1 ∧
    (∀ q, q ≠ p → map1Get s'.running q = map1Get s.running q ∧ map1Get s'.cleanup q = map1Get s.cleanup q) ∧
    sprintfInt p (map1Get s.running p + 1) = some a ∧ sprintfInt rel (map1Get s.running p + 1) = some b := by
  obtain ⟨rfl, ha, hb⟩ := syncStandaloneRegistry_getTestID_eq_some e
  exact ⟨by simp [sregBumped, map1Get_map1Inc], by simp [sregBumped, map1Get_map1Inc],
    fun q hq => by simp [sregBumped, map1Get_map1Inc, hq], ha, hb⟩

theorem syncStandaloneRegistry_reset_isolated (s : SRegistry) (p : Text) :
    map1Get (syncStandaloneRegistry_reset s p).running p = 0 ∧
    (∀ q, q ≠ p → map1Get (syncStandaloneRegistry_reset s p).running q = map1Get s.running q) ∧
    (syncStandaloneRegistry_reset s p).cleanup = s.cleanup := by
  have e : syncStandaloneRegistry_reset s p = { s with running := map1Set s.running p 0 } := rfl
  rw [e]
  exact ⟨by simp [map1Get_map1Set], fun q hq => by simp [map1Get_map1Set, hq], rfl⟩

/-- non-vacuity of the isolation statements: two tests in one file, a third key in another file -/
example :
    syncRegistry_getTestID
      { running := [([98], [([97], 2), ([99], 1)]), ([100], [([97], 5)])],
        cleanup := [([98], [([97], 2), ([99], 1)]), ([100], [([97], 5)])] } [98] [97] =
    some ({ running := [([98], [([97], 3), ([99], 1)]), ([100], [([97], 5)])],
            cleanup := [([98], [([97], 3), ([99], 1)]), ([100], [([97], 5)])] },
          [91, 97, 32, 45, 32, 51, 93]) := by decide +kernel

end GoSnaps.Tie
