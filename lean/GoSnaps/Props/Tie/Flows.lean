/-
Tie by proof: the Match* FLOWS (`Generated/FuncsIO.lean`): `handleError`, `takeSnapshot`,
`takeYAMLSnapshot`, `applyJSONMatchers`, `applyYAMLMatchers`, `matchSnapshot`,
`matchStandaloneSnapshot`, `matchJSON`, `matchYAML`, `matchStandaloneJSON`.

They act on `GoIO.St`; the model (`Model.lean`) acts on `World`; `StRel st w` is the simulation relation.
Every flow is, for EVERY failure oracle `io` and build mode (`…_eq`), the registry step, the cleanup
registration and then one of two shared tails (`entryFlow`, `standaloneFlow`: plain, total Lean
functions with the Go control flow) applied to `pre`, the result of validation + matchers +
formatting (`docPre`; for matchSnapshot `.ok (escape (unlines values))`).  As functions of `pre` these
closed forms are `entryCall` (three flows) and `standaloneCall` (two); what is said of a flow is
proved about them and read off through `…_eq`:
* `…_tied`    : under `IOFail.never`, from related states, whenever the model covers the call
                (`Out.unsupported = none`) the flow does not panic, does the model's step
                (`matchEntry` / `matchStandalone`) and reports the model's `Out.events` to its
                `testing.T` (for any build mode, once the path is known: `entry_tied`, `standalone_tied`);
* `…_outcome` : about the transliterated code alone, for every oracle (these cover the I/O-error
                branches the model does not have): exactly one counter moves and the report matches it
                (`Outcome.counters`), a reported error never comes with a byte of the entry
                (`matchSnapshot_error_no_entry`), the ordinal is consumed in every case, before
                validation (`Entered`, `matchSnapshot_registry`, `matchJSON_pre_error`);
* panics (`none`): never for the entry flows from a related state; for the standalone flows exactly
                when a run-time path format is outside the modelled fragment;
* the second error check after the lookup is dead code, also under I/O failures.
The `example`s run the flows on small concrete states (non-vacuity).

Byte legend: "erred" = [101,114,114,101,100], "added" = [97,100,100,101,100],
"updated" = [117,112,100,97,116,101,100], "passed" = [112,97,115,115,101,100].
-/
import GoSnaps.GoIO
import GoSnaps.Model
import GoSnaps.Generated.FuncsIO
import GoSnaps.Lemmas.World
import GoSnaps.Props.C17
import GoSnaps.Props.Tie.Registry
import GoSnaps.Props.Tie.SnapshotIO
import GoSnaps.Props.Tie.Snapshot
import GoSnaps.Props.Tie.Path
import GoSnaps.Props.Tie.Escape
namespace GoSnaps.Tie
open GoSnaps GoSnaps.GoIO
open GoSnaps.Generated.FuncsIO

/-! ## the simulation relation -/

/-- the keys of `testEvents.items` the transliteration uses: the byte strings of the identifiers -/
def kErred : Text := [101, 114, 114, 101, 100]
def kAdded : Text := [97, 100, 100, 101, 100]
def kUpdated : Text := [117, 112, 100, 97, 116, 101, 100]
def kPassed : Text := [112, 97, 115, 115, 101, 100]

theorem kErred_eq : kErred = ofString "erred" := by decide +kernel
theorem kAdded_eq : kAdded = ofString "added" := by decide +kernel
theorem kUpdated_eq : kUpdated = ofString "updated" := by decide +kernel
theorem kPassed_eq : kPassed = ofString "passed" := by decide +kernel

/-- the closure passed to `t.Cleanup` as the model's pending reset -/
def pendOf : Nat × Cleanup → Nat × Pending
  | (i, .resetReg p n) => (i, .reg (p, n))
  | (i, .resetSReg p) => (i, .sreg p)

structure StRel (st : St) (w : World) : Prop where
  env : st.env = w.env
  fs : st.fs = w.fs
  reg : RegRel st.reg w.running w.cleanup
  sreg : SRegRel st.sreg w.srunning w.scleanup
  erred : map1Get st.events kErred = (w.events.erred : Int)
  added : map1Get st.events kAdded = (w.events.added : Int)
  updated : map1Get st.events kUpdated = (w.events.updated : Int)
  passed : map1Get st.events kPassed = (w.events.passed : Int)
  skipped : st.skipped = w.skipped
  pending : st.cleanups.map pendOf = w.pending
  /-- what `syncRegistry.reset` needs in order not to panic when the cleanup runs -/
  resetOK : ∀ i p n, (i, Cleanup.resetReg p n) ∈ st.cleanups → map2Has st.reg.running p = true

/-- the relation with the keys as `ofString` and the pending list by `match` -/
theorem StRel_iff (st : St) (w : World) :
    StRel st w ↔
      (st.env = w.env ∧ st.fs = w.fs ∧ RegRel st.reg w.running w.cleanup ∧
       SRegRel st.sreg w.srunning w.scleanup ∧
       map1Get st.events (ofString "erred") = (w.events.erred : Int) ∧
       map1Get st.events (ofString "added") = (w.events.added : Int) ∧
       map1Get st.events (ofString "updated") = (w.events.updated : Int) ∧
       map1Get st.events (ofString "passed") = (w.events.passed : Int) ∧
       st.skipped = w.skipped ∧
       st.cleanups.map (fun ic => (ic.1, match ic.2 with
          | .resetReg p n => Pending.reg (p, n)
          | .resetSReg p => Pending.sreg p)) = w.pending ∧
       ∀ i p n, (i, Cleanup.resetReg p n) ∈ st.cleanups → map2Has st.reg.running p = true) := by
  have hp : (fun ic : Nat × Cleanup => (ic.1, match ic.2 with
          | .resetReg p n => Pending.reg (p, n)
          | .resetSReg p => Pending.sreg p)) = pendOf := by
    funext ic
    obtain ⟨i, c⟩ := ic
    cases c <;> rfl
  rw [hp, ← kErred_eq, ← kAdded_eq, ← kUpdated_eq, ← kPassed_eq]
  constructor
  · intro h
    exact ⟨h.env, h.fs, h.reg, h.sreg, h.erred, h.added, h.updated, h.passed, h.skipped, h.pending, h.resetOK⟩
  · intro ⟨a, b, c, d, e, f, g, h, i, j, k⟩
    exact ⟨a, b, c, d, e, f, g, h, i, j, k⟩

/-- the initial state: `newRegistry()`, no events, nothing pending -/
theorem StRel_init (env : Generated.Env) (fs : FS) : StRel { env := env, fs := fs } { env := env, fs := fs } :=
  ⟨rfl, rfl, RegRel_init, SRegRel_init, rfl, rfl, rfl, rfl, rfl, rfl, fun _ _ _ h => by cases h⟩

/-! ### `StRel` is preserved by each kind of field update -/

theorem StRel.set_fs {st : St} {w : World} (h : StRel st w) (fs : FS) :
    StRel { st with fs := fs } { w with fs := fs } :=
  ⟨h.env, rfl, h.reg, h.sreg, h.erred, h.added, h.updated, h.passed, h.skipped, h.pending, h.resetOK⟩

theorem StRel.set_tev {st : St} {w : World} (h : StRel st w) (tev : List TEvent) :
    StRel { st with tev := tev } w :=
  ⟨h.env, h.fs, h.reg, h.sreg, h.erred, h.added, h.updated, h.passed, h.skipped, h.pending, h.resetOK⟩

theorem StRel.tLog {st : St} {w : World} (h : StRel st w) (t : T) (x : Text) : StRel (st.tLog t x) w :=
  h.set_tev _

theorem StRel.tError {st : St} {w : World} (h : StRel st w) (t : T) (x : Text) : StRel (st.tError t x) w :=
  h.set_tev _

/-- `testEvents.register(k)` moves the counter of `k` and no other: the model's events `ev` need only
    read, at each of the four keys, one more if it is `k` and the same otherwise -/
theorem StRel.register {st : St} {w : World} (h : StRel st w) (k : Text) (ev : Events)
    (he : (ev.erred : Int) = if kErred = k then (w.events.erred : Int) + 1 else w.events.erred)
    (ha : (ev.added : Int) = if kAdded = k then (w.events.added : Int) + 1 else w.events.added)
    (hu : (ev.updated : Int) = if kUpdated = k then (w.events.updated : Int) + 1 else w.events.updated)
    (hp : (ev.passed : Int) = if kPassed = k then (w.events.passed : Int) + 1 else w.events.passed) :
    StRel (st.register k) { w with events := ev } :=
  ⟨h.env, h.fs, h.reg, h.sreg,
    (map1Get_map1Inc _ _ _).trans (by rw [h.erred]; exact he.symm),
    (map1Get_map1Inc _ _ _).trans (by rw [h.added]; exact ha.symm),
    (map1Get_map1Inc _ _ _).trans (by rw [h.updated]; exact hu.symm),
    (map1Get_map1Inc _ _ _).trans (by rw [h.passed]; exact hp.symm), h.skipped, h.pending, h.resetOK⟩

theorem StRel.register_erred {st : St} {w : World} (h : StRel st w) :
    StRel (st.register kErred) { w with events := { w.events with erred := w.events.erred + 1 } } :=
  h.register kErred _ rfl rfl rfl rfl

theorem StRel.register_added {st : St} {w : World} (h : StRel st w) :
    StRel (st.register kAdded) { w with events := { w.events with added := w.events.added + 1 } } :=
  h.register kAdded _ rfl rfl rfl rfl

theorem StRel.register_updated {st : St} {w : World} (h : StRel st w) :
    StRel (st.register kUpdated) { w with events := { w.events with updated := w.events.updated + 1 } } :=
  h.register kUpdated _ rfl rfl rfl rfl

theorem StRel.register_passed {st : St} {w : World} (h : StRel st w) :
    StRel (st.register kPassed) { w with events := { w.events with passed := w.events.passed + 1 } } :=
  h.register kPassed _ rfl rfl rfl rfl

/-! ## `handleError` -/

theorem handleError_eq (io : IOFail) (st : St) (t : T) (msg : Text) :
    Generated.FuncsIO.handleError io st t msg = (st.tError t msg).register kErred := rfl

/-- **Tie**: `t.Error(err)` then `testEvents.register(erred)` is the model's `handleError` -/
theorem handleError_tied (io : IOFail) (st : St) (w : World) (t : T) (msg : Text) (h : StRel st w) :
    StRel (Generated.FuncsIO.handleError io st t msg) (GoSnaps.handleError w msg).1 ∧
    (Generated.FuncsIO.handleError io st t msg).tev = st.tev ++ [.error msg] ∧
    (GoSnaps.handleError w msg).2.events = [.error msg] :=
  ⟨(h.tError t msg).register_erred, rfl, rfl⟩

/-- non-vacuity: one error on the initial state -/
example :
    let st : St := { env := ⟨false, ""⟩ }
    let st' := Generated.FuncsIO.handleError IOFail.never st ⟨[84], 0⟩ [109]
    st'.tev = [.error [109]] ∧ st'.events = [(kErred, 1)] ∧
    (GoSnaps.handleError { env := ⟨false, ""⟩ } [109]).1.events.erred = 1 := by decide +kernel

/-! ## `takeSnapshot`, `takeYAMLSnapshot` -/

/-- `snapshots := make([]string, len(objects)); for i, object := range objects { snapshots[i] = object }`
    copies the slice (and no index is out of range) -/
theorem forIn_enum_setIndex (l pre : List Text) :
    forIn (m := Option) (GoSem.enumFrom (pre.length : Int) l) (pre ++ List.replicate l.length ([] : Text))
      (fun x r => do
        let v ← GoSem.setIndex r x.fst x.snd
        pure (ForInStep.yield v)) = some (pre ++ l) := by
  induction l generalizing pre with
  | nil => simp [GoSem.enumFrom]
  | cons x xs ih =>
    have h := ih (pre ++ [x])
    simp only [List.length_append, List.length_singleton, List.append_assoc, List.singleton_append,
      Int.natCast_add, Int.cast_ofNat_Int] at h
    simp only [GoSem.enumFrom, List.length_cons, List.replicate_succ, List.forIn_cons,
      GoSem.setIndex_append_length, Option.bind_eq_bind, Option.bind_some, Option.pure_def]
    exact h

/-- **Tie**: `takeSnapshot` never panics and is `escapeEndChars(strings.Join(values, "\n"))`, the
    model's `escape (unlines vals)` -/
theorem takeSnapshot_tied (vals : List Text) : takeSnapshot vals = some (GoSnaps.escape (unlines vals)) := by
  unfold takeSnapshot
  have h := forIn_enum_setIndex vals []
  simp only [List.length_nil, Int.natCast_zero, List.nil_append] at h
  simp only [GoSem.enum, GoSem.makeTexts, GoSem.len, Int.toNat_natCast, h, escapeEndChars_tied]
  rfl

theorem takeYAMLSnapshot_tied (b : Text) : takeYAMLSnapshot b = GoSnaps.escape b :=
  escapeEndChars_tied b

/-- non-vacuity: two values, the second one is the end sequence and gets escaped -/
example : takeSnapshot [[120], [45, 45, 45]] = some [120, 10, 47, 45, 47, 45, 47, 45, 47] := by decide +kernel
example : takeSnapshot [[120], [45, 45, 45]] = some [120, 10, 47, 45, 47, 45, 47, 45, 47] := by
  rw [takeSnapshot_tied]; decide +kernel
example : takeYAMLSnapshot [45, 45, 45, 10, 97] = [47, 45, 47, 45, 47, 45, 47, 10, 97] := by decide +kernel


/-! ## the shared tail of `matchSnapshot`, `matchJSON`, `matchYAML` -/

/-- Everything after the snapshot text is known (`getPrevSnapshot` … `updateSnapshot`), with the Go
    control flow, for every failure oracle; `un` is what both sides of the comparison go through
    (`unescapeEndChars` in matchSnapshot and matchYAML, nothing in matchJSON).  The three
    transliterations are proved to END with this function (`matchSnapshot_eq`, `matchJSON_eq`,
    `matchYAML_eq`). -/
def entryFlow (io : IOFail) (st : St) (t : T) (c : Cfg) (snapPath rel testID snapshot : Text)
    (un : Text → Text) : St :=
  let r := getPrevSnapshot io st.fs testID snapPath
  if r.2.2.isSnapNotFound then
    if !Generated.shouldCreate st.env c.update then Generated.FuncsIO.handleError io st t r.2.2.text
    else
      let a := addNewSnapshot io st.fs testID snapshot snapPath
      if a.2.notNil then Generated.FuncsIO.handleError io { st with fs := a.1 } t a.2.text
      else (({ st with fs := a.1 } : St).tLog t Generated.go_addedMsg).register kAdded
  else if r.2.2.notNil then Generated.FuncsIO.handleError io st t r.2.2.text
  else
    let diff := prettyDiffI (un r.1) (un snapshot) rel r.2.1
    if diff == [] then st.register kPassed
    else if !Generated.shouldUpdate st.env c.update then Generated.FuncsIO.handleError io st t diff
    else
      let u := updateSnapshot io st.fs testID snapshot snapPath
      if u.2.notNil then Generated.FuncsIO.handleError io { st with fs := u.1 } t u.2.text
      else (({ st with fs := u.1 } : St).tLog t Generated.go_updatedMsg).register kUpdated

/-- `"[warning] MatchSnapshot call without params\n"` -/
def warnNoParams : Text :=
  [91, 119, 97, 114, 110, 105, 110, 103, 93, 32, 77, 97, 116, 99, 104, 83, 110, 97, 112, 115, 104, 111, 116, 32, 99,
   97, 108, 108, 32, 119, 105, 116, 104, 111, 117, 116, 32, 112, 97, 114, 97, 109, 115, 10]

theorem warnNoParams_eq : warnNoParams = ofString "[warning] MatchSnapshot call without params\n" := by
  decide +kernel

/-- the state after `getTestID` + `t.Cleanup(...)` -/
def enterSt (st : St) (t : T) (p : Text) (r' : Registry) : St :=
  ({ st with reg := r' } : St).tCleanup t (.resetReg p t.name)

/-- what the three entry flows do once the registry step is done and `pre` (validation, matchers,
    formatting) is known: report the failure, or run the shared tail -/
def preFlow (io : IOFail) (st : St) (t : T) (c : Cfg) (snapPath rel testID : Text) (pre : Except Text Text)
    (un : Text → Text) : St :=
  match pre with
  | .error msg => Generated.FuncsIO.handleError io st t msg
  | .ok s => entryFlow io st t c snapPath rel testID s un

/-- the closed form the three entry flows have in common (`matchSnapshot_eq` for a call with values,
    `matchJSON_eq`, `matchYAML_eq`): registry step, cleanup registration, then `preFlow` -/
def entryCall (io : IOFail) (st : St) (trimpath : Bool) (caller : Text) (c : Cfg) (t : T)
    (pre : Except Text Text) (un : Text → Text) : Option St :=
  match syncRegistry_getTestID st.reg (Generated.Funcs.snapshotPath trimpath caller c t.name false).1 t.name with
  | none => none
  | some (r', id) =>
    some (preFlow io (enterSt st t (Generated.Funcs.snapshotPath trimpath caller c t.name false).1 r') t c
      (Generated.Funcs.snapshotPath trimpath caller c t.name false).1
      (Generated.Funcs.snapshotPath trimpath caller c t.name false).2 id pre un)

theorem len_eq_zero_iff {α : Type} (l : List α) : (GoSem.len l == 0) = true ↔ l = [] := by
  cases l <;> simp [GoSem.len] ; omega

theorem matchSnapshot_eq (io : IOFail) (st : St) (trimpath : Bool) (caller : Text) (c : Cfg) (t : T)
    (vals : List Text) :
    matchSnapshot io st trimpath caller c t vals =
      if vals = [] then some (st.tLog t warnNoParams)
      else entryCall io st trimpath caller c t (.ok (GoSnaps.escape (unlines vals))) GoSnaps.unescape := by
  unfold matchSnapshot entryCall
  dsimp only
  by_cases hv : vals = []
  · subst hv; rfl
  · rw [if_neg hv, if_neg (mt (len_eq_zero_iff vals).mp hv)]
    cases hg : syncRegistry_getTestID st.reg (Generated.Funcs.snapshotPath trimpath caller c t.name false).1 t.name with
    | none => rfl
    | some ri =>
      -- only the registry step can fail: every `return st` is `some st`; with `some` moved out of the
      -- conditionals what is left is `some` of a plain decision tree, the shared tail by `rfl`
      simp only [Option.bind_eq_bind, Option.bind_some, takeSnapshot_tied, unescapeEndChars_tied, Option.pure_def,
        ← apply_ite some]
      rfl

theorem prettyDiffI_natCast (a b rel : Text) (n : Nat) : prettyDiffI a b rel (n : Int) = prettyDiff a b rel n := by
  simp [prettyDiffI]

/-- **Tie of the shared tail**: under `IOFail.never`, from related states, `entryFlow` does the
    model's `entryTail` (whose `unsupported` answers cannot occur), and reports its events -/
theorem entryFlow_tied (st : St) (w : World) (h : StRel st w) (t : T) (c : Cfg) (p rel id s : Text) (cmp : Cmp) :
    StRel (entryFlow IOFail.never st t c p rel id s (Wld.cmpText cmp)) (entryTail w c p rel id s cmp).1 ∧
    (entryFlow IOFail.never st t c p rel id s (Wld.cmpText cmp)).tev =
      st.tev ++ (entryTail w c p rel id s cmp).2.events ∧
    (entryTail w c p rel id s cmp).2.unsupported = none := by
  have hce : Generated.shouldCreate st.env c.update = Generated.shouldCreate w.env c.update := by rw [h.env]
  have hue : Generated.shouldUpdate st.env c.update = Generated.shouldUpdate w.env c.update := by rw [h.env]
  unfold entryFlow
  rw [getPrevSnapshot_tied, h.fs, hce, hue]
  cases hq : (fsRead w.fs p).bind (getPrev id) with
  | none =>
    simp only [Err.isSnapNotFound, ↓reduceIte]
    cases hc : Generated.shouldCreate w.env c.update with
    | false =>
      rw [Wld.entryTail_absent_ro w c p rel id s cmp hq hc]
      exact ⟨(handleError_tied IOFail.never st w t _ h).1, rfl, rfl⟩
    | true =>
      rw [Wld.entryTail_absent w c p rel id s cmp hq hc, addNewSnapshot_tied]
      exact ⟨((h.set_fs _).tLog t _).register_added, rfl, rfl⟩
  | some pl =>
    obtain ⟨prev, line⟩ := pl
    rw [Wld.entryTail_found w c p rel id s cmp prev line hq]
    simp only [Err.isSnapNotFound, Err.notNil, Bool.false_eq_true, ↓reduceIte, prettyDiffI_natCast, beq_iff_eq]
    by_cases hd : prettyDiff (Wld.cmpText cmp prev) (Wld.cmpText cmp s) rel line = []
    · rw [if_pos hd, if_pos hd]
      exact ⟨h.register_passed, (List.append_nil _).symm, rfl⟩
    · rw [if_neg hd, if_neg hd]
      cases hu : Generated.shouldUpdate w.env c.update with
      | false => exact ⟨(handleError_tied IOFail.never st w t _ h).1, rfl, rfl⟩
      | true =>
        cases hf : fsRead w.fs p with
        | none => rw [hf] at hq; cases hq
        | some file =>
          rw [updateSnapshot_tied w.fs id s p file hf]
          exact ⟨((h.set_fs _).tLog t _).register_updated, rfl, rfl⟩

/-- `getTestID` + `t.Cleanup` from related states: the model's `regBump` and pending entry; the id is
    the model's header `[name - n]` -/
theorem enter_tied (st : St) (w : World) (h : StRel st w) (t : T) (p : Text) :
    ∃ r', syncRegistry_getTestID st.reg p t.name =
        some (r', C03.testID t.name (alGet w.running (p, t.name) + 1)) ∧
      StRel (enterSt st t p r') (Wld.bumped w p t.name t.id) ∧ (enterSt st t p r').tev = st.tev := by
  obtain ⟨r', id, hreg, hrel, hid, _⟩ := syncRegistry_getTestID_tied st.reg w.running w.cleanup p t.name h.reg
  have hid' : id = C03.testID t.name (alGet w.running (p, t.name) + 1) := by
    have := C03.testID_eq t.name (alGet w.running (p, t.name) + 1)
    rw [this] at hid
    exact (Option.some.inj hid).symm
  subst hid'
  refine ⟨r', hreg, ⟨h.env, h.fs, hrel, h.sreg, h.erred, h.added, h.updated, h.passed, h.skipped, ?_, ?_⟩, rfl⟩
  · simp only [enterSt, St.tCleanup, List.map_cons, h.pending]; rfl
  · -- `StRel.resetOK`: `running[p]` exists after `getTestID`, and no inner map is ever removed
    intro i q n hm
    simp only [enterSt, St.tCleanup, List.mem_cons, Prod.mk.injEq, Cleanup.resetReg.injEq] at hm
    rcases hm with ⟨_, rfl, _⟩ | hm
    · show map2Has r'.running _ = true
      simp [syncRegistry_getTestID_has _ _ _ _ _ _ hreg]
    · show map2Has r'.running q = true
      simp [syncRegistry_getTestID_has _ _ _ _ _ _ hreg, h.resetOK i q n hm]

/-- **Tie of an entry flow after the path is known**: registry step, cleanup registration and
    `preFlow` are the model's `matchEntry` -/
theorem entry_tied (st : St) (w : World) (h : StRel st w) (caller : Text) (c : Cfg) (t : T) (cmp : Cmp)
    (pre : Except Text Text) (p rel : Text) (hm : GoSnaps.snapshotPath c caller t.name false = (p, some rel)) :
    ∃ r' id, syncRegistry_getTestID st.reg p t.name = some (r', id) ∧
      StRel (preFlow IOFail.never (enterSt st t p r') t c p rel id pre (Wld.cmpText cmp))
        (matchEntry w c caller t.name t.id cmp pre).1 ∧
      (preFlow IOFail.never (enterSt st t p r') t c p rel id pre (Wld.cmpText cmp)).tev =
        st.tev ++ (matchEntry w c caller t.name t.id cmp pre).2.events ∧
      (matchEntry w c caller t.name t.id cmp pre).2.unsupported = none := by
  obtain ⟨r', hreg, hrel, htev⟩ := enter_tied st w h t p
  refine ⟨r', _, hreg, ?_⟩
  cases pre with
  | error msg =>
    rw [Wld.matchEntry_error_eq w c caller t.name t.id cmp msg p rel hm]
    exact ⟨(handleError_tied IOFail.never _ _ t msg hrel).1, by rw [← htev]; rfl, rfl⟩
  | ok s =>
    rw [Wld.matchEntry_eq w c caller t.name t.id cmp s p rel hm]
    obtain ⟨h1, h2, h3⟩ := entryFlow_tied _ _ hrel t c p rel (C03.testID t.name (alGet w.running (p, t.name) + 1)) s cmp
    exact ⟨h1, by rw [← htev]; exact h2, h3⟩

/-- when the model covers an entry call, the relative path exists -/
theorem matchEntry_supported_rel (w : World) (c : Cfg) (caller tName : Text) (texec : Nat) (cmp : Cmp)
    (pre : Except Text Text) (hs : (matchEntry w c caller tName texec cmp pre).2.unsupported = none) :
    ∃ rel, GoSnaps.snapshotPath c caller tName false = ((GoSnaps.snapshotPath c caller tName false).1, some rel) := by
  cases hr : (GoSnaps.snapshotPath c caller tName false).2 with
  | some rel => exact ⟨rel, by rw [← hr]⟩
  | none =>
    exfalso
    unfold matchEntry at hs
    generalize GoSnaps.snapshotPath c caller tName false = sp at hs hr
    obtain ⟨a, b⟩ := sp
    simp only at hr
    subst hr
    simp only [regBump] at hs
    split at hs <;> simp_all [unsup]

/-- **Tie of an entry flow** (the model's build mode, `isTrimBathBuild = false`): whenever the model
    covers the call (`unsupported = none`), the flow does not panic, ends in a state related to the
    model's world, and reports exactly the model's events to its `testing.T`.  Since the registry step
    of `matchEntry` precedes the inspection of `pre`, the ordinal is consumed and the cleanup
    registered whatever validation and matchers say. -/
theorem entryCall_tied (st : St) (w : World) (h : StRel st w) (caller : Text) (c : Cfg) (t : T) (cmp : Cmp)
    (pre : Except Text Text) (w' : World) (out : Out)
    (hmod : matchEntry w c caller t.name t.id cmp pre = (w', out)) (hs : out.unsupported = none) :
    ∃ st', entryCall IOFail.never st false caller c t pre (Wld.cmpText cmp) = some st' ∧ StRel st' w' ∧
      st'.tev = st.tev ++ out.events := by
  have hs' : (matchEntry w c caller t.name t.id cmp pre).2.unsupported = none := by rw [hmod]; exact hs
  obtain ⟨rel, hm⟩ := matchEntry_supported_rel _ _ _ _ _ _ _ hs'
  obtain ⟨r', id, hreg, h1, h2, _⟩ := entry_tied st w h caller c t cmp pre _ rel hm
  rw [hmod] at h1 h2
  refine ⟨_, ?_, h1, h2⟩
  unfold entryCall
  rw [snapshotPath_rel caller c t.name false rel (by rw [hm])]
  simp only [hreg]

/-- from a state related to a model world an entry flow never panics, whatever the oracle: the only
    statement that can is `cleanup[snapPath][testName]++` inside `getTestID`, and `RegRel` excludes it -/
theorem entryCall_no_panic (io : IOFail) (st : St) (w : World) (h : StRel st w) (trimpath : Bool)
    (caller : Text) (c : Cfg) (t : T) (pre : Except Text Text) (un : Text → Text) :
    entryCall io st trimpath caller c t pre un ≠ none := by
  obtain ⟨r', hreg, _⟩ := enter_tied st w h t (Generated.Funcs.snapshotPath trimpath caller c t.name false).1
  unfold entryCall
  rw [hreg]
  exact Option.some_ne_none _

/-! ## `matchSnapshot` -/

/-- **Tie** of `MatchSnapshot` with at least one value against `matchEntry … .escaped (.ok (escape (unlines vals)))` -/
theorem matchSnapshot_tied (st : St) (w : World) (h : StRel st w) (caller : Text) (c : Cfg) (t : T)
    (vals : List Text) (hv : vals ≠ []) (w' : World) (out : Out)
    (hmod : matchEntry w c caller t.name t.id .escaped (.ok (GoSnaps.escape (unlines vals))) = (w', out))
    (hs : out.unsupported = none) :
    ∃ st', matchSnapshot IOFail.never st false caller c t vals = some st' ∧ StRel st' w' ∧
      st'.tev = st.tev ++ out.events := by
  rw [matchSnapshot_eq, if_neg hv]
  exact entryCall_tied st w h caller c t .escaped _ w' out hmod hs

/-- the empty call: one warning is logged, nothing else changes (no ordinal is consumed) -/
theorem matchSnapshot_no_values (io : IOFail) (st : St) (trimpath : Bool) (caller : Text) (c : Cfg) (t : T) :
    matchSnapshot io st trimpath caller c t [] = some { st with tev := st.tev ++ [.log warnNoParams] } := by
  rw [matchSnapshot_eq, if_pos rfl]; rfl

theorem matchSnapshot_no_values_rel (io : IOFail) (st : St) (w : World) (h : StRel st w) (trimpath : Bool)
    (caller : Text) (c : Cfg) (t : T) :
    ∃ st', matchSnapshot io st trimpath caller c t [] = some st' ∧ StRel st' w ∧
      st'.tev = st.tev ++ [.log warnNoParams] :=
  ⟨_, matchSnapshot_no_values io st trimpath caller c t, h.set_tev _, rfl⟩

/-! ### fixtures of the examples -/

def exEnv : Generated.Env := ⟨false, ""⟩
/-- "/a/b_test.go" -/
def exCaller : Text := [47, 97, 47, 98, 95, 116, 101, 115, 116, 46, 103, 111]
/-- "/a/__snapshots__/b_test.snap" -/
def exSnap : Text := [47, 97, 47, 95, 95, 115, 110, 97, 112, 115, 104, 111, 116, 115, 95, 95, 47,
  98, 95, 116, 101, 115, 116, 46, 115, 110, 97, 112]
/-- test "T", execution 0 -/
def exT : T := ⟨[84], 0⟩
def exSt0 : St := { env := exEnv }
def exW0 : World := { env := exEnv }
/-- what the examples look at -/
def St.view (s : St) : FS × Map1 × List TEvent × Registry × SRegistry × List (Nat × Cleanup) :=
  (s.fs, s.events, s.tev, s.reg, s.sreg, s.cleanups)

theorem exSt0_rel : StRel exSt0 exW0 := StRel_init exEnv []

/-- (a six-component product needs more than the default instance size) -/
instance : DecidableEq (FS × Map1 × List TEvent × Registry × SRegistry × List (Nat × Cleanup)) :=
  have : DecidableEq (Registry × SRegistry × List (Nat × Cleanup)) := inferInstance
  have : DecidableEq (List TEvent × Registry × SRegistry × List (Nat × Cleanup)) := inferInstance
  have : DecidableEq (Map1 × List TEvent × Registry × SRegistry × List (Nat × Cleanup)) := inferInstance
  inferInstance

/-- non-vacuity, by evaluation: on the empty world the first `MatchSnapshot(t, "x")` of test "T" adds
    "\n[T - 1]\nx\n---\n" to /a/__snapshots__/b_test.snap and logs "added"; the identical call from a
    fresh execution of the test (registry reset by the cleanup) passes silently; a call from the SAME
    execution is slot 2 and adds a second entry -/
example :
    (matchSnapshot IOFail.never exSt0 false exCaller {} exT [[120]]).map St.view =
      some ([(exSnap, [10, 91, 84, 32, 45, 32, 49, 93, 10, 120, 10, 45, 45, 45, 10])], [(kAdded, 1)],
        [.log Generated.go_addedMsg],
        { running := [(exSnap, [([84], 1)])], cleanup := [(exSnap, [([84], 1)])] }, {},
        [(0, .resetReg exSnap [84])]) ∧
    ((matchSnapshot IOFail.never exSt0 false exCaller {} exT [[120]]).bind (fun s =>
        (syncRegistry_reset s.reg exSnap [84]).bind (fun r =>
          matchSnapshot IOFail.never { s with reg := r, cleanups := [] } false exCaller {} ⟨[84], 1⟩ [[120]]))).map St.view =
      some ([(exSnap, [10, 91, 84, 32, 45, 32, 49, 93, 10, 120, 10, 45, 45, 45, 10])], [(kAdded, 1), (kPassed, 1)],
        [.log Generated.go_addedMsg],
        { running := [(exSnap, [([84], 1)])], cleanup := [(exSnap, [([84], 2)])] }, {},
        [(1, .resetReg exSnap [84])]) ∧
    ((matchSnapshot IOFail.never exSt0 false exCaller {} exT [[120]]).bind (fun s =>
        matchSnapshot IOFail.never s false exCaller {} exT [[120]])).map (fun s => (s.fs, s.events)) =
      some ([(exSnap, [10, 91, 84, 32, 45, 32, 49, 93, 10, 120, 10, 45, 45, 45, 10,
                       10, 91, 84, 32, 45, 32, 50, 93, 10, 120, 10, 45, 45, 45, 10])], [(kAdded, 2)]) := by
  decide +kernel

/-- the same first call through the theorem: the model's step, and the related end state -/
example : ∃ st', matchSnapshot IOFail.never exSt0 false exCaller {} exT [[120]] = some st' ∧
    StRel st' (matchEntry exW0 {} exCaller [84] 0 .escaped (.ok [120])).1 ∧
    st'.tev = [.log Generated.go_addedMsg] ∧
    (matchEntry exW0 {} exCaller [84] 0 .escaped (.ok [120])).1.fs =
      [(exSnap, [10, 91, 84, 32, 45, 32, 49, 93, 10, 120, 10, 45, 45, 45, 10])] := by
  obtain ⟨st', e, h1, h2⟩ := matchSnapshot_tied exSt0 exW0 exSt0_rel exCaller {} exT [[120]] (by decide +kernel)
    _ _ rfl (by decide +kernel)
  refine ⟨st', e, h1, ?_, by decide +kernel⟩
  rw [h2]; decide +kernel

example : matchSnapshot IOFail.never exSt0 false exCaller {} exT [] =
    some { exSt0 with tev := [.log warnNoParams] } := matchSnapshot_no_values _ _ _ _ _ _

/-! ## the shared tail of `matchStandaloneSnapshot` and `matchStandaloneJSON` -/

/-- Everything after the snapshot text is known (`getPrevStandaloneSnapshot` …
    `upsertStandaloneSnapshot`), with the Go control flow, for every failure oracle -/
def standaloneFlow (io : IOFail) (st : St) (t : T) (c : Cfg) (snapPath rel snapshot : Text) : St :=
  let r := getPrevStandaloneSnapshot io st.fs snapPath
  if r.2.isSnapNotFound then
    if !Generated.shouldCreate st.env c.update then Generated.FuncsIO.handleError io st t r.2.text
    else
      let a := upsertStandaloneSnapshot io st.fs snapshot snapPath
      if a.2.notNil then Generated.FuncsIO.handleError io { st with fs := a.1 } t a.2.text
      else (({ st with fs := a.1 } : St).tLog t Generated.go_addedMsg).register kAdded
  else if r.2.notNil then Generated.FuncsIO.handleError io st t r.2.text
  else
    let diff := prettyDiffI r.1 snapshot rel 1
    if diff == [] then st.register kPassed
    else if !Generated.shouldUpdate st.env c.update then Generated.FuncsIO.handleError io st t diff
    else
      let u := upsertStandaloneSnapshot io st.fs snapshot snapPath
      if u.2.notNil then Generated.FuncsIO.handleError io { st with fs := u.1 } t u.2.text
      else (({ st with fs := u.1 } : St).tLog t Generated.go_updatedMsg).register kUpdated

def preSAFlow (io : IOFail) (st : St) (t : T) (c : Cfg) (snapPath rel : Text) (pre : Except Text Text) : St :=
  match pre with
  | .error msg => Generated.FuncsIO.handleError io st t msg
  | .ok s => standaloneFlow io st t c snapPath rel s

/-- the state after `standaloneTestsRegistry.getTestID` + `t.Cleanup(...)` -/
def enterSASt (st : St) (t : T) (g : Text) (s' : SRegistry) : St :=
  ({ st with sreg := s' } : St).tCleanup t (.resetSReg g)

/-- the closed form the two standalone flows have in common (`matchStandaloneSnapshot_eq`,
    `matchStandaloneJSON_eq`) -/
def standaloneCall (io : IOFail) (st : St) (trimpath : Bool) (caller : Text) (c : Cfg) (t : T)
    (pre : Except Text Text) : Option St :=
  match syncStandaloneRegistry_getTestID st.sreg (Generated.Funcs.snapshotPath trimpath caller c t.name true).1
      (Generated.Funcs.snapshotPath trimpath caller c t.name true).2 with
  | none => none
  | some (s', p, rel) =>
    some (preSAFlow io (enterSASt st t (Generated.Funcs.snapshotPath trimpath caller c t.name true).1 s') t c p rel pre)

theorem matchStandaloneSnapshot_eq (io : IOFail) (st : St) (trimpath : Bool) (caller : Text) (c : Cfg) (t : T)
    (input : Text) :
    matchStandaloneSnapshot io st trimpath caller c t input =
      standaloneCall io st trimpath caller c t (.ok input) := by
  unfold matchStandaloneSnapshot standaloneCall
  dsimp only
  cases hg : syncStandaloneRegistry_getTestID st.sreg (Generated.Funcs.snapshotPath trimpath caller c t.name true).1
      (Generated.Funcs.snapshotPath trimpath caller c t.name true).2 with
  | none => rfl
  | some ri =>
    simp only [Option.bind_eq_bind, Option.bind_some, Option.pure_def, ← apply_ite some]
    rfl

theorem prettyDiffI_one (a b rel : Text) : prettyDiffI a b rel 1 = prettyDiff a b rel 1 := rfl

/-- **Tie of the shared tail**: under `IOFail.never`, from related states, `standaloneFlow` does the
    model's `standaloneTail` and reports its events -/
theorem standaloneFlow_tied (st : St) (w : World) (h : StRel st w) (t : T) (c : Cfg) (p rel s : Text) :
    StRel (standaloneFlow IOFail.never st t c p rel s) (standaloneTail w c p rel s).1 ∧
    (standaloneFlow IOFail.never st t c p rel s).tev = st.tev ++ (standaloneTail w c p rel s).2.events ∧
    (standaloneTail w c p rel s).2.unsupported = none := by
  have hce : Generated.shouldCreate st.env c.update = Generated.shouldCreate w.env c.update := by rw [h.env]
  have hue : Generated.shouldUpdate st.env c.update = Generated.shouldUpdate w.env c.update := by rw [h.env]
  unfold standaloneFlow standaloneTail
  rw [getPrevStandaloneSnapshot_tied, upsertStandaloneSnapshot_tied, h.fs, hce, hue]
  cases hf : fsRead w.fs p with
  | none =>
    simp only [Err.isSnapNotFound, ↓reduceIte]
    cases hc : Generated.shouldCreate w.env c.update with
    | false => exact ⟨(handleError_tied IOFail.never st w t _ h).1, rfl, rfl⟩
    | true => exact ⟨((h.set_fs _).tLog t _).register_added, rfl, rfl⟩
  | some prev =>
    simp only [Err.isSnapNotFound, Err.notNil, Bool.false_eq_true, ↓reduceIte, prettyDiffI_one, beq_iff_eq]
    by_cases hd : prettyDiff prev s rel 1 = []
    · rw [if_pos hd, if_pos hd]
      exact ⟨h.register_passed, (List.append_nil _).symm, rfl⟩
    · rw [if_neg hd, if_neg hd]
      cases hu : Generated.shouldUpdate w.env c.update with
      | false => exact ⟨(handleError_tied IOFail.never st w t _ h).1, rfl, rfl⟩
      | true => exact ⟨((h.set_fs _).tLog t _).register_updated, rfl, rfl⟩

/-- **Tie of a standalone flow after the generic path is known**: registry step (including the two
    run-time `Sprintf`s of the numbered paths), cleanup registration and `preSAFlow` are the model's
    `matchStandalone` -/
theorem standalone_tied (st : St) (w : World) (h : StRel st w) (caller : Text) (c : Cfg) (t : T)
    (pre : Except Text Text) (g grel pth rel : Text)
    (hm : GoSnaps.snapshotPath c caller t.name true = (g, some grel))
    (hp : sprintf g [.d (alGet w.srunning g + 1)] = some pth)
    (hr : sprintf grel [.d (alGet w.srunning g + 1)] = some rel) :
    syncStandaloneRegistry_getTestID st.sreg g grel = some (sregBumped st.sreg g, pth, rel) ∧
      StRel (preSAFlow IOFail.never (enterSASt st t g (sregBumped st.sreg g)) t c pth rel pre)
        (matchStandalone w c caller t.name t.id pre).1 ∧
      (preSAFlow IOFail.never (enterSASt st t g (sregBumped st.sreg g)) t c pth rel pre).tev =
        st.tev ++ (matchStandalone w c caller t.name t.id pre).2.events ∧
      (matchStandalone w c caller t.name t.id pre).2.unsupported = none := by
  have hreg := (syncStandaloneRegistry_getTestID_tied st.sreg w.srunning w.scleanup g grel h.sreg).1
  simp only [hp, hr] at hreg
  have hrel : StRel (enterSASt st t g (sregBumped st.sreg g)) (Wld.sbumped w g t.id) := by
    refine ⟨h.env, h.fs, h.reg, SRegRel_sregBumped _ _ _ g h.sreg, h.erred, h.added, h.updated, h.passed,
      h.skipped, ?_, ?_⟩
    · simp only [enterSASt, St.tCleanup, List.map_cons, h.pending]; rfl
    · intro i q n hm
      simp only [enterSASt, St.tCleanup, List.mem_cons, Prod.mk.injEq, reduceCtorEq, and_false, false_or] at hm
      exact h.resetOK i q n hm
  refine ⟨hreg, ?_⟩
  have hmod : matchStandalone w c caller t.name t.id pre =
      match pre with
      | .error msg => GoSnaps.handleError (Wld.sbumped w g t.id) msg
      | .ok s => standaloneTail (Wld.sbumped w g t.id) c pth rel s := by
    unfold matchStandalone
    rw [hm]
    simp only [sregBump, hp, hr]
    rfl
  rw [hmod]
  cases pre with
  | error msg => exact ⟨(handleError_tied IOFail.never _ _ t msg hrel).1, rfl, rfl⟩
  | ok s => exact standaloneFlow_tied _ _ hrel t c pth rel s

/-- when the model covers a standalone call, the relative path exists and both run-time
    formats are inside the modelled fragment -/
theorem matchStandalone_supported (w : World) (c : Cfg) (caller tName : Text) (texec : Nat)
    (pre : Except Text Text) (hs : (matchStandalone w c caller tName texec pre).2.unsupported = none) :
    ∃ grel pth rel,
      GoSnaps.snapshotPath c caller tName true = ((GoSnaps.snapshotPath c caller tName true).1, some grel) ∧
      sprintf (GoSnaps.snapshotPath c caller tName true).1
        [.d (alGet w.srunning (GoSnaps.snapshotPath c caller tName true).1 + 1)] = some pth ∧
      sprintf grel [.d (alGet w.srunning (GoSnaps.snapshotPath c caller tName true).1 + 1)] = some rel := by
  unfold matchStandalone at hs
  generalize GoSnaps.snapshotPath c caller tName true = sp at hs ⊢
  obtain ⟨g, grel?⟩ := sp
  cases grel? with
  | none => simp [unsup] at hs
  | some grel =>
    simp only [sregBump] at hs
    cases hp : sprintf g [.d (alGet w.srunning g + 1)] with
    | none => simp [hp, unsup] at hs
    | some pth =>
      cases hr : sprintf grel [.d (alGet w.srunning g + 1)] with
      | none => simp [hp, hr, unsup] at hs
      | some rel => exact ⟨grel, pth, rel, rfl, rfl, hr⟩

/-! ## `matchStandaloneSnapshot` -/

/-- **Tie of a standalone flow** (the model's build mode): whenever the model covers the call, the flow
    does not panic (in particular both run-time format strings are well-formed), ends in a state
    related to the model's world, and reports exactly the model's events -/
theorem standaloneCall_tied (st : St) (w : World) (h : StRel st w) (caller : Text) (c : Cfg) (t : T)
    (pre : Except Text Text) (w' : World) (out : Out)
    (hmod : matchStandalone w c caller t.name t.id pre = (w', out)) (hs : out.unsupported = none) :
    ∃ st', standaloneCall IOFail.never st false caller c t pre = some st' ∧ StRel st' w' ∧
      st'.tev = st.tev ++ out.events := by
  have hs' : (matchStandalone w c caller t.name t.id pre).2.unsupported = none := by rw [hmod]; exact hs
  obtain ⟨grel, pth, rel, hm, hp, hr⟩ := matchStandalone_supported _ _ _ _ _ _ hs'
  obtain ⟨hreg, h1, h2, _⟩ := standalone_tied st w h caller c t pre _ grel pth rel hm hp hr
  rw [hmod] at h1 h2
  refine ⟨_, ?_, h1, h2⟩
  unfold standaloneCall
  rw [snapshotPath_rel caller c t.name true grel (by rw [hm])]
  simp only [hreg]

/-- a standalone flow returns `none` exactly when one of the two run-time format strings
    (`fmt.Sprintf(snapPath, n)`, `fmt.Sprintf(snapPathRel, n)`) is outside the modelled fragment —
    where the model answers `unsupported` as well -/
theorem standaloneCall_none_iff (io : IOFail) (st : St) (w : World) (h : StRel st w) (trimpath : Bool)
    (caller : Text) (c : Cfg) (t : T) (pre : Except Text Text) :
    standaloneCall io st trimpath caller c t pre = none ↔
      (sprintf (Generated.Funcs.snapshotPath trimpath caller c t.name true).1
          [.d (alGet w.srunning (Generated.Funcs.snapshotPath trimpath caller c t.name true).1 + 1)] = none ∨
       sprintf (Generated.Funcs.snapshotPath trimpath caller c t.name true).2
          [.d (alGet w.srunning (Generated.Funcs.snapshotPath trimpath caller c t.name true).1 + 1)] = none) := by
  unfold standaloneCall
  rw [← syncStandaloneRegistry_getTestID_none_iff st.sreg _ _ _ _ h.sreg]
  cases syncStandaloneRegistry_getTestID st.sreg (Generated.Funcs.snapshotPath trimpath caller c t.name true).1
    (Generated.Funcs.snapshotPath trimpath caller c t.name true).2 <;> simp

/-- **Tie** of `MatchStandaloneSnapshot` against `matchStandalone … (.ok input)` -/
theorem matchStandaloneSnapshot_tied (st : St) (w : World) (h : StRel st w) (caller : Text) (c : Cfg) (t : T)
    (input : Text) (w' : World) (out : Out)
    (hmod : matchStandalone w c caller t.name t.id (.ok input) = (w', out)) (hs : out.unsupported = none) :
    ∃ st', matchStandaloneSnapshot IOFail.never st false caller c t input = some st' ∧ StRel st' w' ∧
      st'.tev = st.tev ++ out.events := by
  rw [matchStandaloneSnapshot_eq]
  exact standaloneCall_tied st w h caller c t _ w' out hmod hs

/-- "/a/__snapshots__/T_1.snap" -/
def exSASnap : Text := [47, 97, 47, 95, 95, 115, 110, 97, 112, 115, 104, 111, 116, 115, 95, 95, 47, 84, 95, 49, 46,
  115, 110, 97, 112]
/-- "/a/__snapshots__/T_%d.snap" -/
def exSAGeneric : Text := [47, 97, 47, 95, 95, 115, 110, 97, 112, 115, 104, 111, 116, 115, 95, 95, 47, 84, 95, 37, 100,
  46, 115, 110, 97, 112]

/-- non-vacuity, by evaluation: the first `MatchStandaloneSnapshot(t, "x")` of test "T" creates
    /a/__snapshots__/T_1.snap holding "x"; the identical call from a fresh execution passes; with
    different content and updates off (the default) it is an error and the file stays -/
example :
    (matchStandaloneSnapshot IOFail.never exSt0 false exCaller {} exT [120]).map St.view =
      some ([(exSASnap, [120])], [(kAdded, 1)], [.log Generated.go_addedMsg], {},
        { running := [(exSAGeneric, 1)], cleanup := [(exSAGeneric, 1)] }, [(0, .resetSReg exSAGeneric)]) ∧
    ((matchStandaloneSnapshot IOFail.never exSt0 false exCaller {} exT [120]).bind (fun s =>
        matchStandaloneSnapshot IOFail.never
          { s with sreg := syncStandaloneRegistry_reset s.sreg exSAGeneric, cleanups := [] }
          false exCaller {} ⟨[84], 1⟩ [120])).map (fun s => (s.fs, s.events, s.tev)) =
      some ([(exSASnap, [120])], [(kAdded, 1), (kPassed, 1)], [.log Generated.go_addedMsg]) ∧
    ((matchStandaloneSnapshot IOFail.never exSt0 false exCaller {} exT [120]).bind (fun s =>
        matchStandaloneSnapshot IOFail.never
          { s with sreg := syncStandaloneRegistry_reset s.sreg exSAGeneric, cleanups := [] }
          false exCaller {} ⟨[84], 1⟩ [121])).map (fun s => (s.fs, s.events, s.tev.length)) =
      some ([(exSASnap, [120])], [(kAdded, 1), (kErred, 1)], 2) := by
  refine ⟨by decide +kernel, by decide +kernel, by decide +kernel⟩

/-- the same first call through the theorem -/
example : ∃ st', matchStandaloneSnapshot IOFail.never exSt0 false exCaller {} exT [120] = some st' ∧
    StRel st' (matchStandalone exW0 {} exCaller [84] 0 (.ok [120])).1 ∧
    st'.tev = [.log Generated.go_addedMsg] ∧
    (matchStandalone exW0 {} exCaller [84] 0 (.ok [120])).1.fs = [(exSASnap, [120])] := by
  obtain ⟨st', e, h1, h2⟩ := matchStandaloneSnapshot_tied exSt0 exW0 exSt0_rel exCaller {} exT [120] _ _ rfl
    (by decide +kernel)
  refine ⟨st', e, h1, ?_, by decide +kernel⟩
  rw [h2]; decide +kernel

/-! ## the matcher loops: `applyJSONMatchers`, `applyYAMLMatchers`, the error message -/

theorem len_pos_iff {α : Type} (l : List α) : decide (GoSem.len l > 0) = true ↔ l ≠ [] := by
  cases l <;> simp [GoSem.len] <;> omega

/-- one iteration of `applyJSONMatchers` / `applyYAMLMatchers` on the state (document, errors):
    a matcher that reports errors is skipped (`continue`: its output is dropped, its errors are
    appended); otherwise its output is the next document -/
def matcherStep (run : Matcher → Text → Text × List MErr) (s : Text × List MErr) (m : Matcher) : Text × List MErr :=
  if (run m s.1).2 ≠ [] then (s.1, s.2 ++ (run m s.1).2) else ((run m s.1).1, s.2)

def applyMatchers (run : Matcher → Text → Text × List MErr) (b : Text) (ms : List Matcher) : Text × List MErr :=
  ms.foldl (matcherStep run) (b, [])

theorem foldl_matcherStep_eq_C15 (run : Matcher → Text → Text × List MErr) (ms : List Matcher) (b : Text)
    (errs : List MErr) :
    ms.foldl (matcherStep run) (b, errs) = C15.applyMatchers (ms.map run) b errs := by
  induction ms generalizing b errs with
  | nil => rfl
  | cons m ms ih =>
    simp only [List.foldl_cons, List.map_cons, C15.applyMatchers, matcherStep]
    by_cases h : (run m b).2 = []
    · simp only [h, ne_eq, not_true_eq_false, ↓reduceIte]; exact ih _ _
    · simp only [h, ne_eq, not_false_eq_true, ↓reduceIte]; exact ih _ _

theorem applyMatchers_eq_C15 (run : Matcher → Text → Text × List MErr) (b : Text) (ms : List Matcher) :
    applyMatchers run b ms = C15.applyMatchers (ms.map run) b [] :=
  foldl_matcherStep_eq_C15 run ms b []

theorem applyJSONMatchers_eq (run : Matcher → Text → Text × List MErr) (b : Text) (ms : List Matcher) :
    applyJSONMatchers run b ms = applyMatchers run b ms := by
  unfold applyJSONMatchers applyMatchers
  simp only [Id.run, bind, pure]
  rw [GoSem.forIn_yield_foldl ms _ (matcherStep run)]
  · rfl
  · intro m s
    unfold matcherStep
    by_cases h : (run m s.1).2 = []
    · simp [h, GoSem.len]; rfl
    · have := (len_pos_iff (run m s.1).2).mpr h
      simp only [this, h, ne_eq, not_false_eq_true, ↓reduceIte]; rfl

/-- the YAML loop is the same text -/
theorem applyYAMLMatchers_eq (run : Matcher → Text → Text × List MErr) (b : Text) (ms : List Matcher) :
    applyYAMLMatchers run b ms = applyMatchers run b ms := applyJSONMatchers_eq run b ms

theorem applyMatchers_nil (run : Matcher → Text → Text × List MErr) (b : Text) : applyMatchers run b [] = (b, []) := rfl

theorem foldl_matcherStep_errs (run : Matcher → Text → Text × List MErr) (ms : List Matcher) (b : Text)
    (errs : List MErr) :
    ms.foldl (matcherStep run) (b, errs) =
      ((ms.foldl (matcherStep run) (b, [])).1, errs ++ (ms.foldl (matcherStep run) (b, [])).2) := by
  induction ms generalizing b errs with
  | nil => simp
  | cons m ms ih =>
    simp only [List.foldl_cons, matcherStep]
    by_cases h : (run m b).2 = []
    · simp only [h, ne_eq, not_true_eq_false, ↓reduceIte]; exact ih _ _
    · simp only [h, ne_eq, not_false_eq_true, ↓reduceIte, List.nil_append]
      rw [ih b (errs ++ (run m b).2), ih b (run m b).2]
      simp

/-- the fold, spelled out: the result document is the document after applying, left to right, every
    matcher that returned no error; the errors are those of the failing matchers, in order -/
theorem applyMatchers_cons (run : Matcher → Text → Text × List MErr) (b : Text) (m : Matcher) (ms : List Matcher) :
    applyMatchers run b (m :: ms) =
      if (run m b).2 = [] then applyMatchers run (run m b).1 ms
      else ((applyMatchers run b ms).1, (run m b).2 ++ (applyMatchers run b ms).2) := by
  unfold applyMatchers
  simp only [List.foldl_cons, matcherStep]
  by_cases h : (run m b).2 = []
  · simp only [h, ne_eq, not_true_eq_false, ↓reduceIte]
  · simp only [h, ne_eq, not_false_eq_true, ↓reduceIte, List.nil_append]
    exact foldl_matcherStep_errs run ms b _

/-- `Matcher`, `Path`, `Reason.Error()` of a `match.MatcherError` -/
def merrTriple (e : MErr) : Text × Text × Text := (e.matcher, e.path, e.reason.text)

/-- the message built by the loop over `matchersErrors`: for each error
    `"\n" + errorSymbol + "match." + Matcher + "(\"" + Path + "\") - " + Reason` — the C17 model's
    `errText` -/
def matcherMsg (errs : List MErr) : Text := C17.errText (errs.map merrTriple)

/-- the message is what the model's driver builds with the format string read from the source -/
theorem matcherMsg_eq_fmt (errs : List MErr) : C17.matcherErrMsg (errs.map merrTriple) = some (matcherMsg errs) :=
  C17.matcherErrMsg_eq _

/-- what `matchJSON` / `matchYAML` / `matchStandaloneJSON` compute before they look at the file
    system: `.error` = the text handed to `handleError`, `.ok` = the snapshot text -/
def docPre (validate : Text → Text × Err) (run : Matcher → Text → Text × List MErr) (render : Text → Text)
    (input : Text) (ms : List Matcher) : Except Text Text :=
  if (validate input).2.notNil then .error (validate input).2.text
  else if (applyMatchers run (validate input).1 ms).2 ≠ [] then
    .error (matcherMsg (applyMatchers run (validate input).1 ms).2)
  else .ok (render (applyMatchers run (validate input).1 ms).1)

theorem docPre_eq_pipeline (validate : Text → Text × Err) (run : Matcher → Text → Text × List MErr)
    (render : Text → Text) (input : Text) (ms : List Matcher) :
    docPre validate run render input ms =
      C17.pipeline (fun i => if (validate i).2.notNil then .error (validate i).2.text else .ok (validate i).1)
        (ms.map (fun m d => ((run m d).1, (run m d).2.map merrTriple))) render input := by
  have key : ∀ (ms : List Matcher) (b : Text) (errs : List MErr),
      C15.applyMatchers (ms.map (fun m d => ((run m d).1, (run m d).2.map merrTriple))) b (errs.map merrTriple) =
        ((C15.applyMatchers (ms.map run) b errs).1, (C15.applyMatchers (ms.map run) b errs).2.map merrTriple) := by
    intro ms
    induction ms with
    | nil => intro b errs; rfl
    | cons m ms ih =>
      intro b errs
      simp only [List.map_cons, C15.applyMatchers]
      by_cases h : (run m b).2 = []
      · simp only [h, List.map_nil, ne_eq, not_true_eq_false, ↓reduceIte]; exact ih _ _
      · have h' : (run m b).2.map merrTriple ≠ [] := by simpa using h
        simp only [h, h', ne_eq, not_false_eq_true, ↓reduceIte, ← List.map_append]; exact ih _ _
  unfold docPre C17.pipeline
  by_cases hv : (validate input).2.notNil = true
  · simp only [hv, ↓reduceIte]
  · simp only [hv, Bool.false_eq_true, ↓reduceIte]
    have := key ms (validate input).1 []
    simp only [List.map_nil] at this
    rw [this, applyMatchers_eq_C15]
    by_cases he : (C15.applyMatchers (ms.map run) (validate input).1 []).2 = []
    · simp [he]
    · simp [he, matcherMsg]

/-- non-vacuity: three matchers on the document "d": the first appends "1", the second fails,
    the third appends "3": document "d13", the second's error; the message names it -/
example :
    let run : Matcher → Text → Text × List MErr := fun m d =>
      if m = 2 then (d ++ [50], [⟨.other [120], [65, 110, 121], [97]⟩]) else (d ++ [UInt8.ofNat (48 + m)], [])
    applyJSONMatchers run [100] [1, 2, 3] = ([100, 49, 51], [⟨.other [120], [65, 110, 121], [97]⟩]) ∧
    applyYAMLMatchers run [100] [1, 3] = ([100, 49, 51], []) ∧
    docPre (fun i => (i, .nil)) run id [100] [1, 2, 3] =
      .error [10, 226, 156, 149, 32, 109, 97, 116, 99, 104, 46, 65, 110, 121, 40, 34, 97, 34, 41, 32, 45, 32, 120] ∧
    docPre (fun i => (i, .nil)) run id [100] [1, 3] = .ok [100, 49, 51] ∧
    docPre (fun i => (i, .other [101])) run id [100] [1, 3] = .error [101] := by
  refine ⟨by decide +kernel, by decide +kernel, by rfl, by rfl, by rfl⟩

/-! ## `matchJSON`, `matchYAML`, `matchStandaloneJSON` -/

theorem ite_len_pos {β : Type} (l : List MErr) (a b : β) :
    (if decide (GoSem.len l > 0) = true then a else b) = if l ≠ [] then a else b := by
  cases l with
  | nil => rfl
  | cons x xs => rw [if_pos ((len_pos_iff _).mpr (List.cons_ne_nil x xs)), if_pos (List.cons_ne_nil x xs)]

theorem apply_docPre {α : Type} (k : Except Text Text → α) (validate : Text → Text × Err)
    (run : Matcher → Text → Text × List MErr) (render : Text → Text) (input : Text) (ms : List Matcher) :
    k (docPre validate run render input ms) =
      if (validate input).2.notNil then k (.error (validate input).2.text)
      else if (applyMatchers run (validate input).1 ms).2 ≠ [] then
        k (.error (matcherMsg (applyMatchers run (validate input).1 ms).2))
      else k (.ok (render (applyMatchers run (validate input).1 ms).1)) := by
  unfold docPre
  rw [apply_ite k, apply_ite k]

/-- the `strings.Builder` loop over `matchersErrors` (it cannot panic): each round appends the
    `C17.errLine` of one error -/
theorem msg_loop (errs : List MErr) :
    forIn (m := Option) errs ([] : Text) (fun err_6 s => some (ForInStep.yield
      (s ++ (([10] : Text) ++ Generated.go_errorSymbol ++ ([109, 97, 116, 99, 104, 46] : Text) ++ err_6.matcher ++
        ([40, 34] : Text) ++ err_6.path ++ ([34, 41, 32, 45, 32] : Text) ++ err_6.reason.text)))) =
    some (matcherMsg errs) := by
  refine (GoSem.forIn_yield_foldl errs _ (fun s e => s ++ C17.errLine (merrTriple e)) (fun e s => ?_) []).trans ?_
  · simp [C17.errLine, C17.piece, merrTriple, nl]
  · have key : ∀ acc : Text, errs.foldl (fun s e => s ++ C17.errLine (merrTriple e)) acc = acc ++ matcherMsg errs := by
      induction errs with
      | nil => simp [matcherMsg, C17.errText]
      | cons e es ih => intro acc; rw [List.foldl_cons, ih]; simp [matcherMsg, C17.errText]
    exact congrArg some (key [])

/-- the ordinal is consumed and the cleanup registered first, whatever validation and matchers say -/
theorem matchJSON_eq (io : IOFail) (st : St) (trimpath : Bool) (caller : Text)
    (run : Matcher → Text → Text × List MErr) (validate : Text → Text × Err) (takeJSON : Cfg → Text → Text)
    (c : Cfg) (t : T) (input : Text) (ms : List Matcher) :
    matchJSON io st trimpath caller run validate takeJSON c t input ms =
      entryCall io st trimpath caller c t (docPre validate run (takeJSON c) input ms) (Wld.cmpText .raw) := by
  unfold matchJSON entryCall
  dsimp only
  cases hg : syncRegistry_getTestID st.reg (Generated.Funcs.snapshotPath trimpath caller c t.name false).1 t.name with
  | none => rfl
  | some ri =>
    simp only [Option.bind_eq_bind, Option.bind_some, applyJSONMatchers_eq, msg_loop, Option.pure_def,
      ite_len_pos, ← apply_ite some]
    rw [apply_docPre (preFlow _ _ _ _ _ _ _ · _)]
    rfl

theorem matchYAML_eq (io : IOFail) (st : St) (trimpath : Bool) (caller : Text)
    (run : Matcher → Text → Text × List MErr) (validate : Text → Text × Err)
    (c : Cfg) (t : T) (input : Text) (ms : List Matcher) :
    matchYAML io st trimpath caller run validate c t input ms =
      entryCall io st trimpath caller c t (docPre validate run GoSnaps.escape input ms) (Wld.cmpText .escaped) := by
  unfold matchYAML entryCall
  dsimp only
  cases hg : syncRegistry_getTestID st.reg (Generated.Funcs.snapshotPath trimpath caller c t.name false).1 t.name with
  | none => rfl
  | some ri =>
    simp only [Option.bind_eq_bind, Option.bind_some, applyYAMLMatchers_eq, takeYAMLSnapshot_tied, unescapeEndChars_tied, msg_loop, Option.pure_def,
      ite_len_pos, ← apply_ite some]
    rw [apply_docPre (preFlow _ _ _ _ _ _ _ · _)]
    rfl

theorem matchStandaloneJSON_eq (io : IOFail) (st : St) (trimpath : Bool) (caller : Text)
    (run : Matcher → Text → Text × List MErr) (validate : Text → Text × Err) (takeJSON : Cfg → Text → Text)
    (c : Cfg) (t : T) (input : Text) (ms : List Matcher) :
    matchStandaloneJSON io st trimpath caller run validate takeJSON c t input ms =
      standaloneCall io st trimpath caller c t (docPre validate run (takeJSON c) input ms) := by
  unfold matchStandaloneJSON standaloneCall
  dsimp only
  cases hg : syncStandaloneRegistry_getTestID st.sreg (Generated.Funcs.snapshotPath trimpath caller c t.name true).1
      (Generated.Funcs.snapshotPath trimpath caller c t.name true).2 with
  | none => rfl
  | some ri =>
    simp only [Option.bind_eq_bind, Option.bind_some, applyJSONMatchers_eq, msg_loop, Option.pure_def,
      ite_len_pos, ← apply_ite some]
    rw [apply_docPre (preSAFlow _ _ _ _ _ _ ·)]
    rfl

/-- **Tie** of `MatchJSON` against `matchEntry … .raw pre` with
    `pre = docPre validate run (takeJSON c) input matchers` -/
theorem matchJSON_tied (st : St) (w : World) (h : StRel st w) (caller : Text)
    (run : Matcher → Text → Text × List MErr) (validate : Text → Text × Err) (takeJSON : Cfg → Text → Text)
    (c : Cfg) (t : T) (input : Text) (ms : List Matcher) (w' : World) (out : Out)
    (hmod : matchEntry w c caller t.name t.id .raw (docPre validate run (takeJSON c) input ms) = (w', out))
    (hs : out.unsupported = none) :
    ∃ st', matchJSON IOFail.never st false caller run validate takeJSON c t input ms = some st' ∧ StRel st' w' ∧
      st'.tev = st.tev ++ out.events := by
  rw [matchJSON_eq]
  exact entryCall_tied st w h caller c t .raw _ w' out hmod hs

/-- **Tie** of `MatchYAML` against `matchEntry … .escaped pre` with
    `pre = docPre validate run escape input matchers` (`takeYAMLSnapshot` = `escapeEndChars`) -/
theorem matchYAML_tied (st : St) (w : World) (h : StRel st w) (caller : Text)
    (run : Matcher → Text → Text × List MErr) (validate : Text → Text × Err)
    (c : Cfg) (t : T) (input : Text) (ms : List Matcher) (w' : World) (out : Out)
    (hmod : matchEntry w c caller t.name t.id .escaped (docPre validate run GoSnaps.escape input ms) = (w', out))
    (hs : out.unsupported = none) :
    ∃ st', matchYAML IOFail.never st false caller run validate c t input ms = some st' ∧ StRel st' w' ∧
      st'.tev = st.tev ++ out.events := by
  rw [matchYAML_eq]
  exact entryCall_tied st w h caller c t .escaped _ w' out hmod hs

/-- **Tie** of `MatchStandaloneJSON` against `matchStandalone … pre` with
    `pre = docPre validate run (takeJSON c) input matchers` -/
theorem matchStandaloneJSON_tied (st : St) (w : World) (h : StRel st w) (caller : Text)
    (run : Matcher → Text → Text × List MErr) (validate : Text → Text × Err) (takeJSON : Cfg → Text → Text)
    (c : Cfg) (t : T) (input : Text) (ms : List Matcher) (w' : World) (out : Out)
    (hmod : matchStandalone w c caller t.name t.id (docPre validate run (takeJSON c) input ms) = (w', out))
    (hs : out.unsupported = none) :
    ∃ st', matchStandaloneJSON IOFail.never st false caller run validate takeJSON c t input ms = some st' ∧
      StRel st' w' ∧ st'.tev = st.tev ++ out.events := by
  rw [matchStandaloneJSON_eq]
  exact standaloneCall_tied st w h caller c t _ w' out hmod hs

/-! ## outcomes, for EVERY failure oracle (statements about the transliterated code alone) -/

/-- what a flow never touches after the registry step (a frame condition on states; the stack frame of
    Tie/Caller is `GoIO.Frame`) -/
structure Frame (st st' : St) : Prop where
  env : st'.env = st.env
  reg : st'.reg = st.reg
  sreg : st'.sreg = st.sreg
  skipped : st'.skipped = st.skipped
  cleanups : st'.cleanups = st.cleanups
  stdout : st'.stdout = st.stdout

/-- the four ways a Match* call that got past its first line can end, as far as the event counters
    and the `testing.T` are concerned: exactly one `register`, and the report that goes with it -/
inductive Outcome (st st' : St) : Prop
  | erred (msg : Text) (hev : st'.events = map1Inc st.events kErred) (htev : st'.tev = st.tev ++ [.error msg])
  | added (hev : st'.events = map1Inc st.events kAdded) (htev : st'.tev = st.tev ++ [.log Generated.go_addedMsg])
  | updated (hev : st'.events = map1Inc st.events kUpdated)
      (htev : st'.tev = st.tev ++ [.log Generated.go_updatedMsg])
  | passed (hev : st'.events = map1Inc st.events kPassed) (htev : st'.tev = st.tev)

/-- the same with everything that is true of the file system, for the multi-entry file
    (`snapPath = p`, header `id`, snapshot text `s`) -/
inductive EntryOutcome (c : Cfg) (p id s : Text) (st st' : St) : Prop
  /-- an error was reported: no byte of the entry was written; the file is as before, or was
      created empty (failed write after `O_CREATE`), or was truncated (failed write in `updateSnapshot`) -/
  | erred (msg : Text) (hev : st'.events = map1Inc st.events kErred) (htev : st'.tev = st.tev ++ [.error msg])
      (hfs : st'.fs = st.fs ∨ (fsRead st.fs p = none ∧ st'.fs = fsWrite st.fs p []) ∨
        ((fsRead st.fs p).isSome = true ∧ st'.fs = fsWrite st.fs p []))
  | added (hc : Generated.shouldCreate st.env c.update = true)
      (hev : st'.events = map1Inc st.events kAdded) (htev : st'.tev = st.tev ++ [.log Generated.go_addedMsg])
      (hfs : st'.fs = fsWrite st.fs p (oldContent st.fs p ++ frame ⟨id, s⟩))
  | updated (file : Text) (hu : Generated.shouldUpdate st.env c.update = true)
      (hev : st'.events = map1Inc st.events kUpdated)
      (htev : st'.tev = st.tev ++ [.log Generated.go_updatedMsg])
      (hf : fsRead st.fs p = some file) (hfs : st'.fs = fsWrite st.fs p (update id s file))
  | passed (hev : st'.events = map1Inc st.events kPassed) (htev : st'.tev = st.tev) (hfs : st'.fs = st.fs)

/-- … and for a standalone file (`snapPath = p`, content `s`): a reported error leaves the file
    system untouched -/
inductive SAOutcome (c : Cfg) (p s : Text) (st st' : St) : Prop
  | erred (msg : Text) (hev : st'.events = map1Inc st.events kErred) (htev : st'.tev = st.tev ++ [.error msg])
      (hfs : st'.fs = st.fs)
  | added (hc : Generated.shouldCreate st.env c.update = true)
      (hev : st'.events = map1Inc st.events kAdded) (htev : st'.tev = st.tev ++ [.log Generated.go_addedMsg])
      (hfs : st'.fs = fsWrite st.fs p s)
  | updated (hu : Generated.shouldUpdate st.env c.update = true)
      (hev : st'.events = map1Inc st.events kUpdated)
      (htev : st'.tev = st.tev ++ [.log Generated.go_updatedMsg]) (hfs : st'.fs = fsWrite st.fs p s)
  | passed (hev : st'.events = map1Inc st.events kPassed) (htev : st'.tev = st.tev) (hfs : st'.fs = st.fs)

theorem EntryOutcome.outcome {c : Cfg} {p id s : Text} {st st' : St} (h : EntryOutcome c p id s st st') :
    Outcome st st' := by
  cases h with
  | erred msg a b _ => exact .erred msg a b
  | added _ a b _ => exact .added a b
  | updated _ _ a b _ _ => exact .updated a b
  | passed a b _ => exact .passed a b

theorem SAOutcome.outcome {c : Cfg} {p s : Text} {st st' : St} (h : SAOutcome c p s st st') : Outcome st st' := by
  cases h with
  | erred msg a b _ => exact .erred msg a b
  | added _ a b _ => exact .added a b
  | updated _ a b _ => exact .updated a b
  | passed a b _ => exact .passed a b

/-- the outcome only looks at `fs`, `events`, `tev`, `env` of the start state -/
theorem EntryOutcome.congr {c : Cfg} {p id s : Text} {st1 st2 st' : St} (h : EntryOutcome c p id s st1 st')
    (e1 : st1.fs = st2.fs) (e2 : st1.events = st2.events) (e3 : st1.tev = st2.tev) (e4 : st1.env = st2.env) :
    EntryOutcome c p id s st2 st' := by
  cases h with
  | erred msg a b d => exact .erred msg (e2 ▸ a) (e3 ▸ b) (e1 ▸ d)
  | added hc a b d => exact .added (e4 ▸ hc) (e2 ▸ a) (e3 ▸ b) (e1 ▸ d)
  | updated file hu a b hf d => exact .updated file (e4 ▸ hu) (e2 ▸ a) (e3 ▸ b) (e1 ▸ hf) (e1 ▸ d)
  | passed a b d => exact .passed (e2 ▸ a) (e3 ▸ b) (e1 ▸ d)

theorem SAOutcome.congr {c : Cfg} {p s : Text} {st1 st2 st' : St} (h : SAOutcome c p s st1 st')
    (e1 : st1.fs = st2.fs) (e2 : st1.events = st2.events) (e3 : st1.tev = st2.tev) (e4 : st1.env = st2.env) :
    SAOutcome c p s st2 st' := by
  cases h with
  | erred msg a b d => exact .erred msg (e2 ▸ a) (e3 ▸ b) (e1 ▸ d)
  | added hc a b d => exact .added (e4 ▸ hc) (e2 ▸ a) (e3 ▸ b) (e1 ▸ d)
  | updated hu a b d => exact .updated (e4 ▸ hu) (e2 ▸ a) (e3 ▸ b) (e1 ▸ d)
  | passed a b d => exact .passed (e2 ▸ a) (e3 ▸ b) (e1 ▸ d)

theorem Frame.trans {a b c : St} (h1 : Frame a b) (h2 : Frame b c) : Frame a c :=
  ⟨h2.env.trans h1.env, h2.reg.trans h1.reg, h2.sreg.trans h1.sreg, h2.skipped.trans h1.skipped,
    h2.cleanups.trans h1.cleanups, h2.stdout.trans h1.stdout⟩

theorem ite_elim {α : Type} (P : α → Prop) {c : Prop} [Decidable c] {a b : α} (ha : c → P a) (hb : ¬c → P b) :
    P (if c then a else b) := by
  split
  · exact ha ‹_›
  · exact hb ‹_›

theorem Frame.of_fs_events_tev (st : St) (fs : FS) (ev : Map1) (tev : List TEvent) :
    Frame st { st with fs := fs, events := ev, tev := tev } := ⟨rfl, rfl, rfl, rfl, rfl, rfl⟩

theorem handleError_frame (io : IOFail) (st : St) (t : T) (msg : Text) :
    Frame st (Generated.FuncsIO.handleError io st t msg) := .of_fs_events_tev ..

/-- **the shared tail, every oracle**: one of the four outcomes, with the file-system facts; the
    registries, the cleanups, the mode, the skip list and stdout are not touched -/
theorem entryFlow_outcome (io : IOFail) (st : St) (t : T) (c : Cfg) (p rel id s : Text) (un : Text → Text) :
    EntryOutcome c p id s st (entryFlow io st t c p rel id s un) ∧ Frame st (entryFlow io st t c p rel id s un) := by
  let P (x : St) : Prop := EntryOutcome c p id s st x ∧ Frame st x
  have hE (msg : Text) : P (Generated.FuncsIO.handleError io st t msg) :=
    ⟨.erred _ rfl rfl (.inl rfl), handleError_frame ..⟩
  -- down the decision tree of `entryFlow`, then-branch first: not found ? (creation off ? error :
  -- add fails ? error : added) : lookup error ? error : no difference ? passed : updating off ? error :
  -- update fails ? error : updated
  exact ite_elim P
    (fun _ => ite_elim P (fun _ => hE _) fun hc => ite_elim P
      (fun ha => ⟨.erred _ rfl rfl ((addNewSnapshot_fail io st.fs id s p ha).imp_right .inl), .of_fs_events_tev ..⟩)
      (fun ha => ⟨.added (by simpa using hc) rfl rfl
        (congrArg Prod.fst (addNewSnapshot_ok io st.fs id s p (by simpa using ha))), .of_fs_events_tev ..⟩))
    fun _ => ite_elim P (fun _ => hE _) fun _ => ite_elim P
      (fun _ => ⟨.passed rfl rfl rfl, .of_fs_events_tev ..⟩)
      fun _ => ite_elim P (fun _ => hE _) fun hu => ite_elim P
        (fun hx => ⟨.erred _ rfl rfl
          ((updateSnapshot_fail io st.fs id s p hx).imp_right fun h => .inr ⟨h.1, h.2.2.2⟩), .of_fs_events_tev ..⟩)
        (fun hx =>
          have ⟨file, hf, e⟩ := updateSnapshot_ok io st.fs id s p (by simpa using hx)
          ⟨.updated file (by simpa using hu) rfl rfl hf (congrArg Prod.fst e), .of_fs_events_tev ..⟩)

theorem standaloneFlow_outcome (io : IOFail) (st : St) (t : T) (c : Cfg) (p rel s : Text) :
    SAOutcome c p s st (standaloneFlow io st t c p rel s) ∧ Frame st (standaloneFlow io st t c p rel s) := by
  let P (x : St) : Prop := SAOutcome c p s st x ∧ Frame st x
  have hE (msg : Text) : P (Generated.FuncsIO.handleError io st t msg) :=
    ⟨.erred _ rfl rfl rfl, handleError_frame ..⟩
  have hW (h : (upsertStandaloneSnapshot io st.fs s p).2.notNil = true) :
      P (Generated.FuncsIO.handleError io { st with fs := (upsertStandaloneSnapshot io st.fs s p).1 } t
        (upsertStandaloneSnapshot io st.fs s p).2.text) :=
    ⟨.erred _ rfl rfl (upsertStandaloneSnapshot_fail io st.fs s p h), .of_fs_events_tev ..⟩
  have hOK (h : ¬(upsertStandaloneSnapshot io st.fs s p).2.notNil = true) :
      (upsertStandaloneSnapshot io st.fs s p).1 = fsWrite st.fs p s :=
    congrArg Prod.fst (upsertStandaloneSnapshot_ok io st.fs s p (by simpa using h))
  -- the same tree as in `entryFlow_outcome`; both writes are `upsertStandaloneSnapshot` (`hW`, `hOK`)
  exact ite_elim P
    (fun _ => ite_elim P (fun _ => hE _) fun hc => ite_elim P hW
      fun ha => ⟨.added (by simpa using hc) rfl rfl (hOK ha), .of_fs_events_tev ..⟩)
    fun _ => ite_elim P (fun _ => hE _) fun _ => ite_elim P
      (fun _ => ⟨.passed rfl rfl rfl, .of_fs_events_tev ..⟩)
      fun _ => ite_elim P (fun _ => hE _) fun hu => ite_elim P hW
        fun hx => ⟨.updated (by simpa using hu) rfl rfl (hOK hx), .of_fs_events_tev ..⟩

theorem addedMsg_ne_updatedMsg : Generated.go_addedMsg ≠ Generated.go_updatedMsg := by decide

/-- **exactly one counter moves, and the report matches it**: there is one key `k` among
    "erred"/"added"/"updated"/"passed" whose counter is one higher (every other key of
    `testEvents.items` reads as before), and what the `testing.T` received in addition is
    `[.error _]` iff `k` = "erred", `[.log addedMsg]` iff "added", `[.log updatedMsg]` iff "updated",
    nothing iff "passed" -/
theorem Outcome.counters {st st' : St} (h : Outcome st st') :
    ∃ k, k ∈ [kErred, kAdded, kUpdated, kPassed] ∧
      (∀ k', map1Get st'.events k' = if k' = k then map1Get st.events k' + 1 else map1Get st.events k') ∧
      ∃ e, st'.tev = st.tev ++ e ∧
        (k = kErred ↔ ∃ msg, e = [.error msg]) ∧ (k = kAdded ↔ e = [.log Generated.go_addedMsg]) ∧
        (k = kUpdated ↔ e = [.log Generated.go_updatedMsg]) ∧ (k = kPassed ↔ e = []) := by
  have n1 : kErred ≠ kAdded := by decide
  have n2 : kErred ≠ kUpdated := by decide
  have n3 : kErred ≠ kPassed := by decide
  have n4 : kAdded ≠ kUpdated := by decide
  have n5 : kAdded ≠ kPassed := by decide
  have n6 : kUpdated ≠ kPassed := by decide
  have m := addedMsg_ne_updatedMsg
  have hk {k : Text} (hev : st'.events = map1Inc st.events k) (k' : Text) :
      map1Get st'.events k' = if k' = k then map1Get st.events k' + 1 else map1Get st.events k' := by
    rw [hev]; exact map1Get_map1Inc _ _ _
  cases h with
  | erred msg hev htev =>
    exact ⟨kErred, by simp, hk hev, [.error msg], htev, by simp, by simp [n1], by simp [n2], by simp [n3]⟩
  | added hev htev =>
    exact ⟨kAdded, by simp, hk hev, _, htev, by simp [n1.symm], by simp, by simp [n4, m], by simp [n5]⟩
  | updated hev htev =>
    exact ⟨kUpdated, by simp, hk hev, _, htev, by simp [n2.symm], by simp [n4.symm, m.symm], by simp, by simp [n6]⟩
  | passed hev htev =>
    exact ⟨kPassed, by simp, hk hev, [], by simpa using htev, by simp [n3.symm], by simp [n5.symm],
      by simp [n6.symm], by simp⟩

/-- which counter moved decides the outcome: "erred" was bumped iff an error was reported -/
theorem Outcome.erred_iff {st st' : St} (h : Outcome st st') :
    map1Get st'.events kErred = map1Get st.events kErred + 1 ↔ ∃ msg, st'.tev = st.tev ++ [.error msg] := by
  obtain ⟨k, _, hk, e, he, h1, _, _, _⟩ := h.counters
  constructor
  · intro hb
    have : k = kErred := by
      by_cases hkk : kErred = k
      · exact hkk.symm
      · have := hk kErred; rw [if_neg hkk] at this; omega
    obtain ⟨msg, hm⟩ := h1.mp this
    exact ⟨msg, by rw [he, hm]⟩
  · rintro ⟨msg, hm⟩
    rw [he] at hm
    have : k = kErred := h1.mpr ⟨msg, List.append_cancel_left hm⟩
    have hk' := hk kErred
    rw [if_pos this.symm] at hk'
    exact hk'

/-- the state after the first two statements (`getTestID`, `t.Cleanup`): nothing else changes them -/
structure Entered (st st' : St) (t : T) (p : Text) (r' : Registry) : Prop where
  reg : st'.reg = r'
  cleanups : st'.cleanups = (t.id, .resetReg p t.name) :: st.cleanups
  env : st'.env = st.env
  sreg : st'.sreg = st.sreg
  skipped : st'.skipped = st.skipped
  stdout : st'.stdout = st.stdout

structure EnteredSA (st st' : St) (t : T) (g : Text) (s' : SRegistry) : Prop where
  sreg : st'.sreg = s'
  cleanups : st'.cleanups = (t.id, .resetSReg g) :: st.cleanups
  env : st'.env = st.env
  reg : st'.reg = st.reg
  skipped : st'.skipped = st.skipped
  stdout : st'.stdout = st.stdout

/-- the outcome given `pre`: a failed validation / matcher pipeline is one reported error and an
    untouched file system; otherwise the outcome of the shared tail -/
def PreOutcome (c : Cfg) (p id : Text) (pre : Except Text Text) (st st' : St) : Prop :=
  match pre with
  | .error msg => st'.events = map1Inc st.events kErred ∧ st'.tev = st.tev ++ [.error msg] ∧ st'.fs = st.fs
  | .ok s => EntryOutcome c p id s st st'

def PreSAOutcome (c : Cfg) (p : Text) (pre : Except Text Text) (st st' : St) : Prop :=
  match pre with
  | .error msg => st'.events = map1Inc st.events kErred ∧ st'.tev = st.tev ++ [.error msg] ∧ st'.fs = st.fs
  | .ok s => SAOutcome c p s st st'

theorem PreOutcome.outcome {c : Cfg} {p id : Text} {pre : Except Text Text} {st st' : St}
    (h : PreOutcome c p id pre st st') : Outcome st st' := by
  cases pre with
  | error msg => exact .erred msg h.1 h.2.1
  | ok s => exact EntryOutcome.outcome h

theorem PreSAOutcome.outcome {c : Cfg} {p : Text} {pre : Except Text Text} {st st' : St}
    (h : PreSAOutcome c p pre st st') : Outcome st st' := by
  cases pre with
  | error msg => exact .erred msg h.1 h.2.1
  | ok s => exact SAOutcome.outcome h

/-- a reported error never comes with a byte of the entry: whatever `pre` was, if "erred" moved
    the file system is as before except possibly at the snapshot path, which is unchanged, newly
    created EMPTY, or truncated to EMPTY -/
theorem PreOutcome.error_no_entry {c : Cfg} {p id : Text} {pre : Except Text Text} {st st' : St}
    (h : PreOutcome c p id pre st st')
    (he : map1Get st'.events kErred = map1Get st.events kErred + 1) :
    st'.fs = st.fs ∨ (fsRead st.fs p = none ∧ st'.fs = fsWrite st.fs p []) ∨
      ((fsRead st.fs p).isSome = true ∧ st'.fs = fsWrite st.fs p []) := by
  cases pre with
  | error msg => exact .inl h.2.2
  | ok s =>
    have h' : EntryOutcome c p id s st st' := h
    cases h' with
    | erred msg _ _ hfs => exact hfs
    | added _ hev _ _ =>
      rw [hev, map1Get_map1Inc, if_neg (by decide)] at he; omega
    | updated _ _ hev _ _ _ =>
      rw [hev, map1Get_map1Inc, if_neg (by decide)] at he; omega
    | passed hev _ _ =>
      rw [hev, map1Get_map1Inc, if_neg (by decide)] at he; omega

/-- every entry flow, every oracle: if it returns, `getTestID` did not panic, its registry and the
    cleanup are in the end state (the ordinal is consumed in EVERY case), and the rest is `PreOutcome` -/
theorem entryCall_outcome {io : IOFail} {st st' : St} {trimpath : Bool} {caller : Text} {c : Cfg} {t : T}
    {pre : Except Text Text} {un : Text → Text} (h : entryCall io st trimpath caller c t pre un = some st') :
    ∃ r' id, syncRegistry_getTestID st.reg (Generated.Funcs.snapshotPath trimpath caller c t.name false).1 t.name =
        some (r', id) ∧
      Entered st st' t (Generated.Funcs.snapshotPath trimpath caller c t.name false).1 r' ∧
      PreOutcome c (Generated.Funcs.snapshotPath trimpath caller c t.name false).1 id pre st st' := by
  unfold entryCall at h
  cases hg : syncRegistry_getTestID st.reg (Generated.Funcs.snapshotPath trimpath caller c t.name false).1 t.name with
  | none => rw [hg] at h; cases h
  | some ri =>
    obtain ⟨r', id⟩ := ri
    rw [hg] at h
    cases h
    have key (x : St) (h2 : Frame (enterSt st t (Generated.Funcs.snapshotPath trimpath caller c t.name false).1 r') x) :
        Entered st x t (Generated.Funcs.snapshotPath trimpath caller c t.name false).1 r' :=
      ⟨h2.reg, h2.cleanups, h2.env, h2.sreg, h2.skipped, h2.stdout⟩
    cases pre with
    | error msg => exact ⟨r', id, rfl, key _ (handleError_frame io _ t msg), rfl, rfl, rfl⟩
    | ok s =>
      obtain ⟨h1, h2⟩ := entryFlow_outcome io (enterSt st t (Generated.Funcs.snapshotPath trimpath caller c t.name false).1 r') t c
        (Generated.Funcs.snapshotPath trimpath caller c t.name false).1 (Generated.Funcs.snapshotPath trimpath caller c t.name false).2 id s un
      exact ⟨r', id, rfl, key _ h2, h1.congr rfl rfl rfl rfl⟩

/-- the standalone flows, every oracle: a reported error never changes the file system
    (`os.WriteFile` either happens or not) -/
theorem standaloneCall_outcome {io : IOFail} {st st' : St} {trimpath : Bool} {caller : Text} {c : Cfg} {t : T}
    {pre : Except Text Text} (h : standaloneCall io st trimpath caller c t pre = some st') :
    ∃ s' p rel, syncStandaloneRegistry_getTestID st.sreg (Generated.Funcs.snapshotPath trimpath caller c t.name true).1
        (Generated.Funcs.snapshotPath trimpath caller c t.name true).2 = some (s', p, rel) ∧
      EnteredSA st st' t (Generated.Funcs.snapshotPath trimpath caller c t.name true).1 s' ∧
      PreSAOutcome c p pre st st' := by
  unfold standaloneCall at h
  cases hg : syncStandaloneRegistry_getTestID st.sreg (Generated.Funcs.snapshotPath trimpath caller c t.name true).1
      (Generated.Funcs.snapshotPath trimpath caller c t.name true).2 with
  | none => rw [hg] at h; cases h
  | some ri =>
    obtain ⟨s', p, rel⟩ := ri
    rw [hg] at h
    cases h
    have key (x : St) (h2 : Frame (enterSASt st t (Generated.Funcs.snapshotPath trimpath caller c t.name true).1 s') x) :
        EnteredSA st x t (Generated.Funcs.snapshotPath trimpath caller c t.name true).1 s' :=
      ⟨h2.sreg, h2.cleanups, h2.env, h2.reg, h2.skipped, h2.stdout⟩
    cases pre with
    | error msg => exact ⟨s', p, rel, rfl, key _ (handleError_frame io _ t msg), rfl, rfl, rfl⟩
    | ok s =>
      obtain ⟨h1, h2⟩ := standaloneFlow_outcome io (enterSASt st t (Generated.Funcs.snapshotPath trimpath caller c t.name true).1 s') t c p rel s
      exact ⟨s', p, rel, rfl, key _ h2, h1.congr rfl rfl rfl rfl⟩

/-! ### the five flows, every oracle -/

/-- **`matchSnapshot`, every oracle** (the master statement; the next four are corollaries) -/
theorem matchSnapshot_outcome (io : IOFail) (st st' : St) (trimpath : Bool) (caller : Text) (c : Cfg) (t : T)
    (vals : List Text) (hv : vals ≠ []) (h : matchSnapshot io st trimpath caller c t vals = some st') :
    ∃ r' id, syncRegistry_getTestID st.reg (Generated.Funcs.snapshotPath trimpath caller c t.name false).1 t.name =
        some (r', id) ∧
      Entered st st' t (Generated.Funcs.snapshotPath trimpath caller c t.name false).1 r' ∧
      EntryOutcome c (Generated.Funcs.snapshotPath trimpath caller c t.name false).1 id
        (GoSnaps.escape (unlines vals)) st st' := by
  rw [matchSnapshot_eq, if_neg hv] at h
  exact entryCall_outcome (pre := .ok (GoSnaps.escape (unlines vals))) (un := GoSnaps.unescape) h

/-- (a) exactly one of the four counters is one higher, every other key reads as before, and the
    `testing.T` received `[.error _]` / `[.log addedMsg]` / `[.log updatedMsg]` / nothing accordingly -/
theorem matchSnapshot_one_outcome (io : IOFail) (st st' : St) (trimpath : Bool) (caller : Text) (c : Cfg) (t : T)
    (vals : List Text) (hv : vals ≠ []) (h : matchSnapshot io st trimpath caller c t vals = some st') :
    ∃ k, k ∈ [kErred, kAdded, kUpdated, kPassed] ∧
      (∀ k', map1Get st'.events k' = if k' = k then map1Get st.events k' + 1 else map1Get st.events k') ∧
      ∃ e, st'.tev = st.tev ++ e ∧
        (k = kErred ↔ ∃ msg, e = [.error msg]) ∧ (k = kAdded ↔ e = [.log Generated.go_addedMsg]) ∧
        (k = kUpdated ↔ e = [.log Generated.go_updatedMsg]) ∧ (k = kPassed ↔ e = []) := by
  obtain ⟨_, _, _, _, ho⟩ := matchSnapshot_outcome io st st' trimpath caller c t vals hv h
  exact ho.outcome.counters

/-- (b) if "erred" was bumped, no byte of the entry reached the disk: the file system is as before,
    except that the snapshot file may have been created EMPTY (it did not exist; the write after
    `O_CREATE` failed) or truncated to EMPTY (it existed; the write inside `updateSnapshot`, after
    `Truncate(0)`, failed — every other entry of that file is lost) -/
theorem matchSnapshot_error_no_entry (io : IOFail) (st st' : St) (trimpath : Bool) (caller : Text) (c : Cfg) (t : T)
    (vals : List Text) (hv : vals ≠ []) (h : matchSnapshot io st trimpath caller c t vals = some st')
    (he : map1Get st'.events kErred = map1Get st.events kErred + 1) :
    st'.fs = st.fs ∨
    (fsRead st.fs (Generated.Funcs.snapshotPath trimpath caller c t.name false).1 = none ∧
      st'.fs = fsWrite st.fs (Generated.Funcs.snapshotPath trimpath caller c t.name false).1 []) ∨
    ((fsRead st.fs (Generated.Funcs.snapshotPath trimpath caller c t.name false).1).isSome = true ∧
      st'.fs = fsWrite st.fs (Generated.Funcs.snapshotPath trimpath caller c t.name false).1 []) := by
  obtain ⟨_, _, _, _, ho⟩ := matchSnapshot_outcome io st st' trimpath caller c t vals hv h
  exact PreOutcome.error_no_entry (pre := .ok _) ho he

/-- (b) path by path: every other file reads as before; the snapshot file reads as before or as empty -/
theorem matchSnapshot_error_no_entry_read (io : IOFail) (st st' : St) (trimpath : Bool) (caller : Text) (c : Cfg)
    (t : T) (vals : List Text) (hv : vals ≠ []) (h : matchSnapshot io st trimpath caller c t vals = some st')
    (he : map1Get st'.events kErred = map1Get st.events kErred + 1) (q : Text) :
    (q ≠ (Generated.Funcs.snapshotPath trimpath caller c t.name false).1 → fsRead st'.fs q = fsRead st.fs q) ∧
    (fsRead st'.fs (Generated.Funcs.snapshotPath trimpath caller c t.name false).1 =
        fsRead st.fs (Generated.Funcs.snapshotPath trimpath caller c t.name false).1 ∨
      fsRead st'.fs (Generated.Funcs.snapshotPath trimpath caller c t.name false).1 = some []) := by
  rcases matchSnapshot_error_no_entry io st st' trimpath caller c t vals hv h he with h' | ⟨_, h'⟩ | ⟨_, h'⟩
  · rw [h']; exact ⟨fun _ => rfl, .inl rfl⟩
  · rw [h']; exact ⟨fun hq => C19.fsRead_fsWrite_other _ _ _ _ hq, .inr (C19.fsRead_fsWrite_same _ _ _)⟩
  · rw [h']; exact ⟨fun hq => C19.fsRead_fsWrite_other _ _ _ _ hq, .inr (C19.fsRead_fsWrite_same _ _ _)⟩

/-- (c) in every case the registries change exactly as by `getTestID` (the ordinal is consumed,
    the other keys are untouched — `syncRegistry_getTestID_ordinal`, `…_running_other`), the cleanup
    is registered, and the standalone registry, the mode, the skip list and stdout are not touched -/
theorem matchSnapshot_registry (io : IOFail) (st st' : St) (trimpath : Bool) (caller : Text) (c : Cfg) (t : T)
    (vals : List Text) (hv : vals ≠ []) (h : matchSnapshot io st trimpath caller c t vals = some st') :
    ∃ id, syncRegistry_getTestID st.reg (Generated.Funcs.snapshotPath trimpath caller c t.name false).1 t.name =
        some (st'.reg, id) ∧
      map2Get st'.reg.running (Generated.Funcs.snapshotPath trimpath caller c t.name false).1 t.name =
        map2Get st.reg.running (Generated.Funcs.snapshotPath trimpath caller c t.name false).1 t.name + 1 ∧
      st'.cleanups = (t.id, .resetReg (Generated.Funcs.snapshotPath trimpath caller c t.name false).1 t.name) :: st.cleanups ∧
      st'.sreg = st.sreg ∧ st'.env = st.env ∧ st'.skipped = st.skipped ∧ st'.stdout = st.stdout := by
  obtain ⟨r', id, hg, he, _⟩ := matchSnapshot_outcome io st st' trimpath caller c t vals hv h
  have hr := he.reg
  subst hr
  exact ⟨id, hg, (syncRegistry_getTestID_ordinal _ _ _ _ _ hg).2, he.cleanups, he.sreg, he.env, he.skipped, he.stdout⟩

/-- the empty call, every oracle: no counter moves, no ordinal is consumed -/
theorem matchSnapshot_no_values_outcome (io : IOFail) (st st' : St) (trimpath : Bool) (caller : Text) (c : Cfg)
    (t : T) (h : matchSnapshot io st trimpath caller c t [] = some st') :
    st'.events = st.events ∧ st'.reg = st.reg ∧ st'.cleanups = st.cleanups ∧ st'.fs = st.fs ∧
      st'.tev = st.tev ++ [.log warnNoParams] := by
  rw [matchSnapshot_no_values] at h
  cases h
  exact ⟨rfl, rfl, rfl, rfl, rfl⟩

/-- **`matchJSON`, every oracle**: the ordinal is consumed and the cleanup registered BEFORE
    validation, whatever its result; a failed validation or matcher pipeline is one error and an
    untouched file system -/
theorem matchJSON_outcome (io : IOFail) (st st' : St) (trimpath : Bool) (caller : Text)
    (run : Matcher → Text → Text × List MErr) (validate : Text → Text × Err) (takeJSON : Cfg → Text → Text)
    (c : Cfg) (t : T) (input : Text) (ms : List Matcher)
    (h : matchJSON io st trimpath caller run validate takeJSON c t input ms = some st') :
    ∃ r' id, syncRegistry_getTestID st.reg (Generated.Funcs.snapshotPath trimpath caller c t.name false).1 t.name =
        some (r', id) ∧
      Entered st st' t (Generated.Funcs.snapshotPath trimpath caller c t.name false).1 r' ∧
      PreOutcome c (Generated.Funcs.snapshotPath trimpath caller c t.name false).1 id
        (docPre validate run (takeJSON c) input ms) st st' := by
  rw [matchJSON_eq] at h
  exact entryCall_outcome h

theorem matchYAML_outcome (io : IOFail) (st st' : St) (trimpath : Bool) (caller : Text)
    (run : Matcher → Text → Text × List MErr) (validate : Text → Text × Err)
    (c : Cfg) (t : T) (input : Text) (ms : List Matcher)
    (h : matchYAML io st trimpath caller run validate c t input ms = some st') :
    ∃ r' id, syncRegistry_getTestID st.reg (Generated.Funcs.snapshotPath trimpath caller c t.name false).1 t.name =
        some (r', id) ∧
      Entered st st' t (Generated.Funcs.snapshotPath trimpath caller c t.name false).1 r' ∧
      PreOutcome c (Generated.Funcs.snapshotPath trimpath caller c t.name false).1 id
        (docPre validate run GoSnaps.escape input ms) st st' := by
  rw [matchYAML_eq] at h
  exact entryCall_outcome h

/-- the other four flows end in one `Outcome` as well (`matchSnapshot_one_outcome` states it in the form
    of `Outcome.counters`, which applies to each) -/
theorem matchJSON_one_outcome (io : IOFail) (st st' : St) (trimpath : Bool) (caller : Text)
    (run : Matcher → Text → Text × List MErr) (validate : Text → Text × Err) (takeJSON : Cfg → Text → Text)
    (c : Cfg) (t : T) (input : Text) (ms : List Matcher)
    (h : matchJSON io st trimpath caller run validate takeJSON c t input ms = some st') : Outcome st st' := by
  obtain ⟨_, _, _, _, ho⟩ := matchJSON_outcome io st st' trimpath caller run validate takeJSON c t input ms h
  exact ho.outcome

theorem matchYAML_one_outcome (io : IOFail) (st st' : St) (trimpath : Bool) (caller : Text)
    (run : Matcher → Text → Text × List MErr) (validate : Text → Text × Err)
    (c : Cfg) (t : T) (input : Text) (ms : List Matcher)
    (h : matchYAML io st trimpath caller run validate c t input ms = some st') : Outcome st st' := by
  obtain ⟨_, _, _, _, ho⟩ := matchYAML_outcome io st st' trimpath caller run validate c t input ms h
  exact ho.outcome

theorem matchStandaloneSnapshot_one_outcome (io : IOFail) (st st' : St) (trimpath : Bool) (caller : Text) (c : Cfg)
    (t : T) (input : Text) (h : matchStandaloneSnapshot io st trimpath caller c t input = some st') :
    Outcome st st' := by
  rw [matchStandaloneSnapshot_eq] at h
  obtain ⟨_, _, _, _, _, ho⟩ := standaloneCall_outcome h
  exact ho.outcome

theorem matchStandaloneJSON_one_outcome (io : IOFail) (st st' : St) (trimpath : Bool) (caller : Text)
    (run : Matcher → Text → Text × List MErr) (validate : Text → Text × Err) (takeJSON : Cfg → Text → Text)
    (c : Cfg) (t : T) (input : Text) (ms : List Matcher)
    (h : matchStandaloneJSON io st trimpath caller run validate takeJSON c t input ms = some st') :
    Outcome st st' := by
  rw [matchStandaloneJSON_eq] at h
  obtain ⟨_, _, _, _, _, ho⟩ := standaloneCall_outcome h
  exact ho.outcome

/-- a failed validation or matcher pipeline, every oracle, `matchJSON`: one error with the message
    of `docPre`, nothing written, the ordinal consumed -/
theorem matchJSON_pre_error (io : IOFail) (st st' : St) (trimpath : Bool) (caller : Text)
    (run : Matcher → Text → Text × List MErr) (validate : Text → Text × Err) (takeJSON : Cfg → Text → Text)
    (c : Cfg) (t : T) (input : Text) (ms : List Matcher) (msg : Text)
    (hpre : docPre validate run (takeJSON c) input ms = .error msg)
    (h : matchJSON io st trimpath caller run validate takeJSON c t input ms = some st') :
    st'.fs = st.fs ∧ st'.tev = st.tev ++ [.error msg] ∧ st'.events = map1Inc st.events kErred ∧
    map2Get st'.reg.running (Generated.Funcs.snapshotPath trimpath caller c t.name false).1 t.name =
      map2Get st.reg.running (Generated.Funcs.snapshotPath trimpath caller c t.name false).1 t.name + 1 ∧
    st'.cleanups = (t.id, .resetReg (Generated.Funcs.snapshotPath trimpath caller c t.name false).1 t.name) :: st.cleanups := by
  obtain ⟨r', id, hg, he, ho⟩ := matchJSON_outcome io st st' trimpath caller run validate takeJSON c t input ms h
  rw [hpre] at ho
  have hr := he.reg
  subst hr
  exact ⟨ho.2.2, ho.2.1, ho.1, (syncRegistry_getTestID_ordinal _ _ _ _ _ hg).2, he.cleanups⟩

/-! ### non-vacuity of the failure branches (oracles of Tie/SnapshotIO: every `Write` fails) -/

/-- on the empty world, with a failing `Write`: `MatchSnapshot` reports the write error, bumps
    "erred" — and leaves behind an EMPTY snapshot file (created by `O_CREATE`); the ordinal is consumed -/
example :
    (matchSnapshot exIOW exSt0 false exCaller {} exT [[120]]).map St.view =
      some ([(exSnap, [])], [(kErred, 1)], [.error [33]],
        { running := [(exSnap, [([84], 1)])], cleanup := [(exSnap, [([84], 1)])] }, {},
        [(0, .resetReg exSnap [84])]) := by decide +kernel

/-- with an existing entry, a different value, `UPDATE_SNAPS=true` and a failing `Write`: the error
    is reported and the snapshot file is left EMPTY (all entries lost) -/
example :
    (matchSnapshot exIOW
        { env := ⟨false, "true"⟩, fs := [(exSnap, [10, 91, 84, 32, 45, 32, 49, 93, 10, 120, 10, 45, 45, 45, 10])] }
        false exCaller {} exT [[121]]).map (fun s => (s.fs, s.events, s.tev)) =
      some ([(exSnap, [])], [(kErred, 1)], [.error [33]]) := by decide +kernel

/-- the three alternatives of `matchSnapshot_error_no_entry` through the theorem -/
example : ∃ st', matchSnapshot exIOW exSt0 false exCaller {} exT [[120]] = some st' ∧
    (st'.fs = exSt0.fs ∨ (fsRead exSt0.fs exSnap = none ∧ st'.fs = fsWrite exSt0.fs exSnap []) ∨
      ((fsRead exSt0.fs exSnap).isSome = true ∧ st'.fs = fsWrite exSt0.fs exSnap [])) := by
  cases h : matchSnapshot exIOW exSt0 false exCaller {} exT [[120]] with
  | none => exact absurd h (by decide +kernel)
  | some st' =>
    have hp : (Generated.Funcs.snapshotPath false exCaller {} exT.name false).1 = exSnap := by decide +kernel
    have he : map1Get st'.events kErred = map1Get exSt0.events kErred + 1 := by
      have : (matchSnapshot exIOW exSt0 false exCaller {} exT [[120]]).map (fun s => map1Get s.events kErred) =
          some 1 := by decide +kernel
      rw [h] at this
      simpa [exSt0, map1Get] using this
    have := matchSnapshot_error_no_entry exIOW exSt0 st' false exCaller {} exT [[120]] (by decide +kernel) h he
    rw [hp] at this
    exact ⟨st', rfl, this⟩

/-- `MatchJSON` whose validation fails, then the same test again with valid input: the second call
    is slot 2 (the failing call consumed slot 1) and nothing was written by the first -/
example :
    let validate : Text → Text × Err := fun i => if i = [] then ([], .other [101]) else (i, .nil)
    (matchJSON IOFail.never exSt0 false exCaller (fun _ d => (d, [])) validate (fun _ j => j) {} exT [] []).map St.view =
      some ([], [(kErred, 1)], [.error [101]],
        { running := [(exSnap, [([84], 1)])], cleanup := [(exSnap, [([84], 1)])] }, {},
        [(0, .resetReg exSnap [84])]) ∧
    ((matchJSON IOFail.never exSt0 false exCaller (fun _ d => (d, [])) validate (fun _ j => j) {} exT [] []).bind
        (fun s => matchJSON IOFail.never s false exCaller (fun _ d => (d, [])) validate (fun _ j => j) {} exT
          [123, 125] [])).map (fun s => (s.fs, s.events)) =
      some ([(exSnap, [10, 91, 84, 32, 45, 32, 50, 93, 10, 123, 125, 10, 45, 45, 45, 10])],
        [(kErred, 1), (kAdded, 1)]) := by
  intro validate
  refine ⟨by decide +kernel, by decide +kernel⟩

/-- `matchJSON_tied` on that failing call: the model's world after `matchEntry … (.error "e")` -/
example :
    let validate : Text → Text × Err := fun i => if i = [] then ([], .other [101]) else (i, .nil)
    ∃ st', matchJSON IOFail.never exSt0 false exCaller (fun _ d => (d, [])) validate (fun _ j => j) {} exT [] [] =
        some st' ∧
      StRel st' (matchEntry exW0 {} exCaller [84] 0 .raw (.error [101])).1 ∧ st'.tev = [.error [101]] := by
  intro validate
  obtain ⟨st', e, h1, h2⟩ := matchJSON_tied exSt0 exW0 exSt0_rel exCaller (fun _ d => (d, [])) validate
    (fun _ j => j) {} exT [] [] _ _ rfl (by decide +kernel)
  refine ⟨st', e, h1, ?_⟩
  rw [h2]; decide +kernel

/-- `MatchYAML` and `MatchStandaloneJSON` on the empty world: an entry / a file is added -/
example :
    (matchYAML IOFail.never exSt0 false exCaller (fun _ d => (d, [])) (fun i => (i, .nil)) {} exT
        [97, 58, 32, 49, 10] []).map (fun s => (s.fs, s.events, s.tev)) =
      some ([(exSnap, [10, 91, 84, 32, 45, 32, 49, 93, 10, 97, 58, 32, 49, 10, 10, 45, 45, 45, 10])], [(kAdded, 1)],
        [.log Generated.go_addedMsg]) ∧
    (matchStandaloneJSON IOFail.never exSt0 false exCaller (fun _ d => (d, [])) (fun i => (i, .nil)) (fun _ j => j)
        {} exT [123, 125] []).map (fun s => (s.fs, s.events, s.tev)) =
      some ([(exSASnap, [123, 125])], [(kAdded, 1)], [.log Generated.go_addedMsg]) := by
  refine ⟨by decide +kernel, by decide +kernel⟩

/-- `matchYAML_tied` and `matchStandaloneJSON_tied` on the empty world (documents "a: 1\n", "{}") -/
example : ∃ st', matchYAML IOFail.never exSt0 false exCaller (fun _ d => (d, [])) (fun i => (i, .nil)) {} exT
      [97, 58, 32, 49, 10] [] = some st' ∧
    StRel st' (matchEntry exW0 {} exCaller [84] 0 .escaped (.ok [97, 58, 32, 49, 10])).1 ∧
    st'.tev = [.log Generated.go_addedMsg] := by
  obtain ⟨st', e, h1, h2⟩ := matchYAML_tied exSt0 exW0 exSt0_rel exCaller (fun _ d => (d, [])) (fun i => (i, .nil))
    {} exT [97, 58, 32, 49, 10] [] _ _ rfl (by decide +kernel)
  refine ⟨st', e, h1, ?_⟩
  rw [h2]; decide +kernel

example : ∃ st', matchStandaloneJSON IOFail.never exSt0 false exCaller (fun _ d => (d, [])) (fun i => (i, .nil))
      (fun _ j => j) {} exT [123, 125] [] = some st' ∧
    StRel st' (matchStandalone exW0 {} exCaller [84] 0 (.ok [123, 125])).1 ∧
    st'.tev = [.log Generated.go_addedMsg] ∧
    (matchStandalone exW0 {} exCaller [84] 0 (.ok [123, 125])).1.fs = [(exSASnap, [123, 125])] := by
  obtain ⟨st', e, h1, h2⟩ := matchStandaloneJSON_tied exSt0 exW0 exSt0_rel exCaller (fun _ d => (d, []))
    (fun i => (i, .nil)) (fun _ j => j) {} exT [123, 125] [] _ _ rfl (by decide +kernel)
  refine ⟨st', e, h1, ?_, by decide +kernel⟩
  rw [h2]; decide +kernel

/-! ## panics (`none`), for every oracle and build mode -/

theorem matchSnapshot_no_panic (io : IOFail) (st : St) (w : World) (h : StRel st w) (trimpath : Bool)
    (caller : Text) (c : Cfg) (t : T) (vals : List Text) :
    matchSnapshot io st trimpath caller c t vals ≠ none := by
  rw [matchSnapshot_eq]
  split
  · exact Option.some_ne_none _
  · exact entryCall_no_panic io st w h trimpath caller c t (.ok (GoSnaps.escape (unlines vals))) GoSnaps.unescape

theorem matchJSON_no_panic (io : IOFail) (st : St) (w : World) (h : StRel st w) (trimpath : Bool) (caller : Text)
    (run : Matcher → Text → Text × List MErr) (validate : Text → Text × Err) (takeJSON : Cfg → Text → Text)
    (c : Cfg) (t : T) (input : Text) (ms : List Matcher) :
    matchJSON io st trimpath caller run validate takeJSON c t input ms ≠ none := by
  rw [matchJSON_eq]
  exact entryCall_no_panic io st w h trimpath caller c t _ _

theorem matchYAML_no_panic (io : IOFail) (st : St) (w : World) (h : StRel st w) (trimpath : Bool) (caller : Text)
    (run : Matcher → Text → Text × List MErr) (validate : Text → Text × Err)
    (c : Cfg) (t : T) (input : Text) (ms : List Matcher) :
    matchYAML io st trimpath caller run validate c t input ms ≠ none := by
  rw [matchYAML_eq]
  exact entryCall_no_panic io st w h trimpath caller c t _ _

theorem matchStandaloneSnapshot_none_iff (io : IOFail) (st : St) (w : World) (h : StRel st w) (trimpath : Bool)
    (caller : Text) (c : Cfg) (t : T) (input : Text) :
    matchStandaloneSnapshot io st trimpath caller c t input = none ↔
      (sprintf (Generated.Funcs.snapshotPath trimpath caller c t.name true).1
          [.d (alGet w.srunning (Generated.Funcs.snapshotPath trimpath caller c t.name true).1 + 1)] = none ∨
       sprintf (Generated.Funcs.snapshotPath trimpath caller c t.name true).2
          [.d (alGet w.srunning (Generated.Funcs.snapshotPath trimpath caller c t.name true).1 + 1)] = none) := by
  rw [matchStandaloneSnapshot_eq]
  exact standaloneCall_none_iff io st w h trimpath caller c t _

theorem matchStandaloneJSON_none_iff (io : IOFail) (st : St) (w : World) (h : StRel st w) (trimpath : Bool)
    (caller : Text) (run : Matcher → Text → Text × List MErr) (validate : Text → Text × Err)
    (takeJSON : Cfg → Text → Text) (c : Cfg) (t : T) (input : Text) (ms : List Matcher) :
    matchStandaloneJSON io st trimpath caller run validate takeJSON c t input ms = none ↔
      (sprintf (Generated.Funcs.snapshotPath trimpath caller c t.name true).1
          [.d (alGet w.srunning (Generated.Funcs.snapshotPath trimpath caller c t.name true).1 + 1)] = none ∨
       sprintf (Generated.Funcs.snapshotPath trimpath caller c t.name true).2
          [.d (alGet w.srunning (Generated.Funcs.snapshotPath trimpath caller c t.name true).1 + 1)] = none) := by
  rw [matchStandaloneJSON_eq]
  exact standaloneCall_none_iff io st w h trimpath caller c t _

/-- what `StRel.resetOK` is for: every registered `registry.reset` closure can run without a panic -/
theorem StRel.reset_no_panic {st : St} {w : World} (h : StRel st w) (i : Nat) (p n : Text)
    (hm : (i, Cleanup.resetReg p n) ∈ st.cleanups) : syncRegistry_reset st.reg p n ≠ none := by
  rw [Ne, syncRegistry_reset_panics_iff, h.resetOK i p n hm]
  simp

/-- a snapshot directory whose name contains "%5d" is user text like any other: the
    standalone path stays inside the modelled fragment of `Sprintf` (its only verb is the ordinal's `%d`) -/
example : matchStandaloneSnapshot IOFail.never exSt0 false exCaller { snapsDir := [47, 37, 53, 100] } exT [120] ≠ none := by
  decide +kernel

/-! ## a dead branch: `if err != nil { handleError(t, err); return }` after the lookup -/

/-- the error of the lookup is `nil` or `errSnapNotFound`, never anything else: the second error
    check of matchSnapshot / matchJSON / matchYAML (`if err != nil` after `errors.Is(err,
    errSnapNotFound)`) is unreachable, also under I/O failures -/
theorem getPrevSnapshot_dead_branch (io : IOFail) (fs : FS) (testID snapPath : Text)
    (h : (getPrevSnapshot io fs testID snapPath).2.2.isSnapNotFound = false) :
    (getPrevSnapshot io fs testID snapPath).2.2.notNil = false := by
  revert h
  rw [getPrevSnapshot_any]
  cases io .readFile snapPath with
  | some m => exact nofun
  | none =>
    cases (fsRead fs snapPath).bind (getPrev testID) with
    | none => exact nofun
    | some bn => exact fun _ => rfl

theorem getPrevStandaloneSnapshot_dead_branch (io : IOFail) (fs : FS) (snapPath : Text)
    (h : (getPrevStandaloneSnapshot io fs snapPath).2.isSnapNotFound = false) :
    (getPrevStandaloneSnapshot io fs snapPath).2.notNil = false := by
  rw [getPrevStandaloneSnapshot_eq] at h ⊢
  revert h
  cases io .readFile snapPath <;> cases fsRead fs snapPath <;> simp [Err.isSnapNotFound, Err.notNil]

/-- a read failure (permission, I/O error) on an EXISTING snapshot file is treated as "no snapshot":
    with creation allowed the flow appends a fresh entry to the file it could not read -/
example :
    let io : IOFail := fun op _ => if op = .readFile then some [33] else none
    (matchSnapshot io
        { env := exEnv, fs := [(exSnap, [10, 91, 84, 32, 45, 32, 49, 93, 10, 120, 10, 45, 45, 45, 10])] }
        false exCaller {} exT [[121]]).map (fun s => (s.fs, s.events)) =
      some ([(exSnap, [10, 91, 84, 32, 45, 32, 49, 93, 10, 120, 10, 45, 45, 45, 10,
                       10, 91, 84, 32, 45, 32, 49, 93, 10, 121, 10, 45, 45, 45, 10])], [(kAdded, 1)]) := by
  decide +kernel

end GoSnaps.Tie
