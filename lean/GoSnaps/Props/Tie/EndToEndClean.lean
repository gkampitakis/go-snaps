/-
Tie by proof: a history of Match* calls and test cleanups, THEN `Clean` — end to end, about the
TRANSLITERATED code (`goRun` of `Tie/EndToEnd.lean` followed by `Generated.FuncsIO.Clean`).

The results composed here:
* `Tie/EndToEnd.lean`   : `goRun_simulates` (simulation `StRel` between the state of the transliterated
                          flows and the model's `World`);
* `Tie/CleanTopIO.lean` : `Clean_tied_one_dir` (the transliterated `Clean` IS the model's `clean`, from
                          states in `CleanRel`), `Clean_no_update_no_removal`, `Clean_ci_readonly`;
* model level           : `CleanWorld.clean_keeps_of_kept` (C07), `C09.no_update_no_loss_all`.

`StRel` is not enough for the `Clean` ties (`CleanRel`); what is missing (`CleanInv`) is an invariant of `goStep`, so
every state `goRun` reaches from a fresh process is in `CleanRel` with the world the model's run reaches
(`goRun_reached`), the transliterated `Clean` there IS the model's `clean` (`Clean_reached`), and the model covers
the call as soon as the snapshot file is well-formed (`Reached.supported`, `FileAfter`).  On that: C07
(`go_matched_survive_clean`; `go_call_addresses`, `go_addressed_survive_clean`: `Tie/EndToEndClean2.lean`), C09 (`go_no_update_no_removal`,
`go_no_update_no_loss`), the record scenario (`go_record_then_clean`) and ANY mix of modes (`goRun_fileAfter`:
the flows leave a well-formed file), each with a closed history beside it.  (C10: `Tie/EndToEndClean2.lean`.)
-/
import GoSnaps.Props.Tie.EndToEnd
import GoSnaps.Props.Tie.CleanTopIO
import GoSnaps.Lemmas.EndToEndClean
namespace GoSnaps.Tie
open GoSnaps GoSnaps.GoIO
open GoSnaps.Generated.FuncsIO
open GoSnaps.C06Refine GoSnaps.Wld GoSnaps.CleanWorld
open GoSnaps.C01World (Step Scoped calledNames texts entriesFrom entriesOf headers Inv)
open GoSnaps.C03 (testID)
open GoSnaps.Generated (Env shouldCreate shouldUpdate)

theorem keys_map1Set (m : Map1) (k : Text) (v : Int) :
    (map1Set m k v).map (·.1) = if k ∈ m.map (·.1) then m.map (·.1) else m.map (·.1) ++ [k] := by
  induction m with
  | nil => simp [map1Set]
  | cons q m ih =>
    obtain ⟨k', v'⟩ := q
    by_cases hk : k' = k
    · subst hk; simp [map1Set]
    · have hk' : ¬ k = k' := fun e => hk e.symm
      by_cases hm : k ∈ m.map (·.1)
      · simp only [map1Set, hk, ↓reduceIte, List.map_cons, ih, hm, List.mem_cons, or_true]
      · simp only [map1Set, hk, ↓reduceIte, List.map_cons, ih, hm, List.mem_cons, hk', or_self,
          List.cons_append]

theorem mem_keys_map1Set (m : Map1) (k k' : Text) (v : Int) :
    k' ∈ (map1Set m k v).map (·.1) ↔ k' ∈ m.map (·.1) ∨ k' = k := by
  rw [keys_map1Set]
  split
  · rename_i h
    constructor
    · exact Or.inl
    · rintro (h' | rfl)
      · exact h'
      · exact h
  · simp

theorem nodup_keys_map1Set (m : Map1) (k : Text) (v : Int) (h : (m.map (·.1)).Nodup) :
    ((map1Set m k v).map (·.1)).Nodup := by
  rw [keys_map1Set]
  split
  · exact h
  · rename_i hk
    rw [List.nodup_append]
    exact ⟨h, by simp, fun a ha b hb e => by
      simp only [List.mem_singleton] at hb; subst hb; subst e; exact hk ha⟩

theorem map1Get_of_mem_nodup (m : Map1) (hnd : (m.map (·.1)).Nodup) (k : Text) (v : Int)
    (h : (k, v) ∈ m) : map1Get m k = v := by
  induction m with
  | nil => cases h
  | cons q m ih =>
    obtain ⟨k', v'⟩ := q
    simp only [List.map_cons, List.nodup_cons] at hnd
    rcases List.mem_cons.mp h with heq | hm
    · obtain ⟨rfl, rfl⟩ := Prod.mk.inj heq
      simp [map1Get]
    · have hne : ¬ k' = k := fun e => hnd.1 (e ▸ List.mem_map.mpr ⟨(k, v), hm, rfl⟩)
      simp only [map1Get, hne, ↓reduceIte]
      exact ih hnd.2 hm

theorem mem_map1Get_of_key (m : Map1) (k : Text) (h : k ∈ m.map (·.1)) : (k, map1Get m k) ∈ m := by
  induction m with
  | nil => cases h
  | cons q m ih =>
    obtain ⟨k', v'⟩ := q
    by_cases hk : k' = k
    · subst hk; simp [map1Get]
    · have : k ∈ m.map (·.1) := by
        rcases List.mem_cons.mp h with h' | h'
        · exact absurd h'.symm hk
        · exact h'
      simp only [map1Get, hk, ↓reduceIte]
      exact List.mem_cons_of_mem _ (ih this)

theorem mem_keys_map2SetInner (m : Map2) (a q : Text) (i : Map1) :
    q ∈ (map2SetInner m a i).map (·.1) ↔ q ∈ m.map (·.1) ∨ q = a := by
  rw [← map2Has_iff_mem, map2Has_setInner, Bool.or_eq_true, map2Has_iff_mem, decide_eq_true_eq]

/-- `regEnsure` changes no inner map of `cleanup` (it creates an EMPTY one where none existed) -/
theorem regEnsure_inner_cleanup (r : Registry) (p q : Text)
    (hh : map2Has r.running p = map2Has r.cleanup p) :
    map2Inner (regEnsure r p).cleanup q = map2Inner r.cleanup q := by
  unfold regEnsure
  cases h : map2Has r.running p with
  | true => simp
  | false =>
    simp only [Bool.false_eq_true, ↓reduceIte, map2Inner_setInner]
    split
    · rename_i e; subst e
      exact (map2Inner_of_not_has _ _ (hh ▸ h)).symm
    · rfl

theorem regEnsure_keys_cleanup (r : Registry) (p q : Text)
    (hh : map2Has r.running p = map2Has r.cleanup p) :
    q ∈ (regEnsure r p).cleanup.map (·.1) ↔ q ∈ r.cleanup.map (·.1) ∨ q = p := by
  unfold regEnsure
  cases h : map2Has r.running p with
  | true =>
    simp only [↓reduceIte]
    constructor
    · exact Or.inl
    · rintro (h' | rfl)
      · exact h'
      · exact (map2Has_iff_mem _ _).mp (hh ▸ h)
  | false =>
    simp only [Bool.false_eq_true, ↓reduceIte]
    exact mem_keys_map2SetInner _ _ _ _

/-- the inner maps of `cleanup` after `getTestID(p, n)`: `cleanup[p][n]` is assigned, nothing else -/
theorem regBumped_inner_cleanup (r : Registry) (p n q : Text)
    (hh : map2Has r.running p = map2Has r.cleanup p) :
    map2Inner (regBumped r p n).cleanup q =
      if q = p then map1Set (map2Inner r.cleanup p) n (map2Get (regEnsure r p).cleanup p n + 1)
      else map2Inner r.cleanup q := by
  unfold regBumped map2Put
  simp only [map2Inner_setInner, regEnsure_inner_cleanup r p _ hh]

theorem regBumped_keys_cleanup (r : Registry) (p n q : Text)
    (hh : map2Has r.running p = map2Has r.cleanup p) :
    q ∈ (regBumped r p n).cleanup.map (·.1) ↔ q ∈ r.cleanup.map (·.1) ∨ q = p := by
  unfold regBumped map2Put
  simp only [mem_keys_map2SetInner, regEnsure_keys_cleanup r p q hh, or_assoc, or_self]

theorem mem_paths_alSet (cl : List (RegKey × Nat)) (p n q : Text) (v : Nat) :
    q ∈ (alSet cl (p, n) v).map (·.1.1) ↔ q ∈ cl.map (·.1.1) ∨ q = p := by
  have hmap : ∀ l : List (RegKey × Nat), l.map (·.1.1) = (l.map (·.1)).map (·.1) := fun l => by
    rw [List.map_map]; rfl
  rw [hmap, hmap, List.mem_map, List.mem_map]
  constructor
  · rintro ⟨k, hk, rfl⟩
    rcases (mem_keys_alSet _ _ _ _).mp hk with h | rfl
    · exact Or.inl ⟨k, h, rfl⟩
    · exact Or.inr rfl
  · rintro (⟨k, hk, rfl⟩ | rfl)
    · exact ⟨k, (mem_keys_alSet _ _ _ _).mpr (Or.inl hk), rfl⟩
    · exact ⟨(q, n), (mem_keys_alSet _ _ _ _).mpr (Or.inr rfl), rfl⟩

/-! ## `CleanInv`: what `CleanRel` asks beyond `StRel`, as an invariant of `goStep`

`StRel` (the relation the flows are proved against) compares the registries READ BY READ
(`map2Get r.cleanup p n = alGet cleanup (p, n)`): enough for `getTestID`, which only reads and writes single
keys.  `Clean` RANGES over `testsRegistry.cleanup[p]` (`occurrences`), so its ties ask for the same
(test, counter) PAIRS (`RegCorr`), the same keys of the outer map (`CleanRel.regKeys`), and a well-formed
`testEvents.items` (`EventsWF`: `len(items)` decides whether the summary is printed).  None of this follows
from reads alone (a key stored with counter 0 reads like a missing key).  It is true of every REACHABLE
state, and that is what is proved here. -/

structure CleanInv (st : St) (w : World) : Prop where
  /-- Go maps have pairwise different keys -/
  innerNodup : ∀ p, ((map2Inner st.reg.cleanup p).map (·.1)).Nodup
  clNodup : (w.cleanup.map (·.1)).Nodup
  /-- `testsRegistry.cleanup[p]` has a key for exactly the tests the model registered for `p` -/
  innerKeys : ∀ p n, n ∈ (map2Inner st.reg.cleanup p).map (·.1) ↔ (p, n) ∈ w.cleanup.map (·.1)
  outerKeys : ∀ p, p ∈ st.reg.cleanup.map (·.1) ↔ p ∈ w.cleanup.map (·.1.1)
  sreg : ∀ x, x ∈ st.sreg.cleanup ↔ x ∈ intImage w.scleanup
  eventsWF : EventsWF st.events

theorem CleanInv_init (env : Env) (fs : FS) : CleanInv (freshSt env fs) { env := env, fs := fs } where
  innerNodup _ := List.nodup_nil
  clNodup := List.nodup_nil
  innerKeys _ _ := by simp [map2Inner]
  outerKeys _ := by simp
  sreg _ := by simp [intImage]
  eventsWF := EventsWF_nil

/-- with pairwise different keys on both sides and the same keys, equal READS give equal PAIRS -/
theorem regCorr_of {st : St} {w : World} (hr : RegRel st.reg w.running w.cleanup) (hi : CleanInv st w)
    (p : Text) : RegCorr st.reg.cleanup w.cleanup p := by
  intro x
  obtain ⟨n, v⟩ := x
  have hread : map1Get (map2Inner st.reg.cleanup p) n = ((alGet w.cleanup (p, n) : Nat) : Int) :=
    hr.cleanup p n
  have hmine : ∀ v' : Nat, (n, v') ∈ mineOf w.cleanup p ↔ ((p, n), v') ∈ w.cleanup := by
    intro v'
    unfold mineOf
    constructor
    · intro hm
      obtain ⟨⟨⟨p', n'⟩, v''⟩, hm2, heq⟩ := List.mem_map.mp hm
      obtain ⟨hm3, hp⟩ := List.mem_filter.mp hm2
      simp only [decide_eq_true_eq] at hp
      simp only [Prod.mk.injEq] at heq
      obtain ⟨rfl, rfl⟩ := heq
      subst hp
      exact hm3
    · intro hm
      exact List.mem_map.mpr ⟨((p, n), v'), List.mem_filter.mpr ⟨hm, by simp⟩, rfl⟩
  constructor
  · intro hx
    have hk : n ∈ (map2Inner st.reg.cleanup p).map (·.1) := List.mem_map.mpr ⟨(n, v), hx, rfl⟩
    have hv : map1Get (map2Inner st.reg.cleanup p) n = v := map1Get_of_mem_nodup _ (hi.innerNodup p) n v hx
    have hm := mem_alGet_of_key w.cleanup (p, n) ((hi.innerKeys p n).mp hk)
    unfold intImage
    refine List.mem_map.mpr ⟨(n, alGet w.cleanup (p, n)), (hmine _).mpr hm, ?_⟩
    simp only [Prod.mk.injEq, true_and]
    rw [← hread, hv]
  · intro hx
    unfold intImage at hx
    obtain ⟨⟨n', v'⟩, hm, heq⟩ := List.mem_map.mp hx
    simp only [Prod.mk.injEq] at heq
    obtain ⟨rfl, rfl⟩ := heq
    have hm' := (hmine v').mp hm
    have hk : n' ∈ (map2Inner st.reg.cleanup p).map (·.1) :=
      (hi.innerKeys p n').mpr (List.mem_map.mpr ⟨((p, n'), v'), hm', rfl⟩)
    have := mem_map1Get_of_key _ n' hk
    rw [hread, alGet_of_mem_nodup w.cleanup hi.clNodup (p, n') v' hm'] at this
    exact this

/-- **`StRel` + `CleanInv` = `CleanRel`**: the hypotheses of the `Clean` ties about the state -/
theorem CleanRel_of {st : St} {w : World} (h : StRel st w) (hi : CleanInv st w) : CleanRel st w where
  env := h.env
  fs := h.fs
  skipped := h.skipped
  reg := regCorr_of h.reg hi
  regKeys := hi.outerKeys
  sreg := hi.sreg
  passed := h.passed
  erred := h.erred
  added := h.added
  updated := h.updated
  eventsWF := hi.eventsWF

theorem CleanInv.call {st st' : St} {w w' : World} (hi : CleanInv st w)
    (hh : ∀ q, map2Has st.reg.running q = map2Has st.reg.cleanup q)
    (p n : Text) (hreg : st'.reg = regBumped st.reg p n) (hsreg : st'.sreg = st.sreg)
    (hev : Outcome st st')
    (hcl : w'.cleanup = alSet w.cleanup (p, n) (alGet w.cleanup (p, n) + 1))
    (hscl : w'.scleanup = w.scleanup) : CleanInv st' w' where
  innerNodup q := by
    rw [hreg, regBumped_inner_cleanup _ _ _ _ (hh p)]
    split
    · exact nodup_keys_map1Set _ _ _ (hi.innerNodup p)
    · exact hi.innerNodup q
  clNodup := by rw [hcl]; exact nodup_keys_alSet _ _ _ hi.clNodup
  innerKeys q m := by
    rw [hreg, regBumped_inner_cleanup _ _ _ _ (hh p), hcl, mem_keys_alSet]
    by_cases hq : q = p
    · subst hq
      simp only [↓reduceIte, mem_keys_map1Set, hi.innerKeys, Prod.mk.injEq, true_and]
    · simp only [hq, ↓reduceIte, hi.innerKeys, Prod.mk.injEq, false_and, or_false]
  outerKeys q := by
    rw [hreg, regBumped_keys_cleanup _ _ _ _ (hh p), hcl, mem_paths_alSet, hi.outerKeys]
  sreg x := by rw [hsreg, hscl]; exact hi.sreg x
  eventsWF := by
    cases hev with
    | erred msg hev _ => rw [hev]; exact EventsWF.register hi.eventsWF kErred (Or.inr (Or.inl rfl))
    | added hev _ => rw [hev]; exact EventsWF.register hi.eventsWF kAdded (Or.inr (Or.inr (Or.inl rfl)))
    | updated hev _ => rw [hev]; exact EventsWF.register hi.eventsWF kUpdated (Or.inr (Or.inr (Or.inr rfl)))
    | passed hev _ => rw [hev]; exact EventsWF.register hi.eventsWF kPassed (Or.inl rfl)

theorem CleanInv.frame {st st' : St} {w w' : World} (hi : CleanInv st w)
    (h1 : st'.reg.cleanup = st.reg.cleanup) (h2 : st'.sreg.cleanup = st.sreg.cleanup)
    (h3 : st'.events = st.events) (h4 : w'.cleanup = w.cleanup) (h5 : w'.scleanup = w.scleanup) :
    CleanInv st' w' where
  innerNodup q := by rw [h1]; exact hi.innerNodup q
  clNodup := by rw [h4]; exact hi.clNodup
  innerKeys q m := by rw [h1, h4]; exact hi.innerKeys q m
  outerKeys q := by rw [h1, h4]; exact hi.outerKeys q
  sreg x := by rw [h2, h5]; exact hi.sreg x
  eventsWF := by rw [h3]; exact hi.eventsWF

/-- **a `Match*` step, every failure oracle**: the registry is `getTestID`'s (`regBumped`, on the path the
    MODEL computes: `snapshotPath_tied`), exactly one event is registered, nothing else but the file
    system and the report to `testing.T` changes -/
theorem goStep_call_regs (io : IOFail) (c : Cfg) (caller : Text) (st st' : St) (t s : Text) (cmp : Cmp)
    (x : Nat) (e : goStep io c caller st (.call t s cmp x) = some st') :
    st'.reg = regBumped st.reg (GoSnaps.snapshotPath c caller t false).1 t ∧ st'.sreg = st.sreg ∧
    Outcome st st' ∧ st'.env = st.env ∧ st'.skipped = st.skipped ∧ st'.stdout = st.stdout := by
  have key : ∀ r' id, syncRegistry_getTestID st.reg
      (Generated.Funcs.snapshotPath false caller c t false).1 t = some (r', id) →
      r' = regBumped st.reg (GoSnaps.snapshotPath c caller t false).1 t := by
    intro r' id hg
    rw [snapshotPath_tied, syncRegistry_getTestID_eq] at hg
    split at hg
    · cases hg
    · simp only [Option.some.injEq, Prod.mk.injEq] at hg
      exact hg.1.symm
  cases cmp with
  | raw =>
    have e' : matchJSON io st false caller (fun _ d => (d, [])) (fun i => (i, Err.nil)) (fun _ j => j) c
        ⟨t, x⟩ s [] = some st' := e
    obtain ⟨r', id, hg, he, ho⟩ := matchJSON_outcome io st st' false caller _ _ _ c ⟨t, x⟩ s [] e'
    exact ⟨he.reg.trans (key r' id hg), he.sreg, ho.outcome, he.env, he.skipped, he.stdout⟩
  | escaped =>
    have e' : matchYAML io st false caller (fun _ d => (d, [])) (fun i => (i, Err.nil)) c
        ⟨t, x⟩ (unescape s) [] = some st' := e
    obtain ⟨r', id, hg, he, ho⟩ := matchYAML_outcome io st st' false caller _ _ c ⟨t, x⟩ (unescape s) [] e'
    exact ⟨he.reg.trans (key r' id hg), he.sreg, ho.outcome, he.env, he.skipped, he.stdout⟩

theorem goStep_cleanInv {st : St} {w : World} (h : StRel st w) (hi : CleanInv st w) (c : Cfg) (caller : Text)
    (s : Step) (hok : StepOK s) (hs : ∀ o ∈ (C01World.step c caller w s).2, o.unsupported = none) :
    ∃ st', goStep IOFail.never c caller st s = some st' ∧ StRel st' (C01World.step c caller w s).1 ∧
      CleanInv st' (C01World.step c caller w s).1 ∧
      st'.tev = st.tev ++ ((C01World.step c caller w s).2.map (·.events)).flatten := by
  obtain ⟨st', e, hr, ht⟩ := goStep_simulates h c caller s hok hs
  refine ⟨st', e, hr, ?_, ht⟩
  cases s with
  | call t txt cmp x =>
    obtain ⟨g1, g2, g3, _⟩ := goStep_call_regs IOFail.never c caller st st' t txt cmp x e
    obtain ⟨_, m2, _⟩ := matchEntry_regs w c caller t x cmp (.ok txt)
    exact hi.call h.reg.has _ t g1 g2 g3 m2 (matchEntry_scleanup w c caller t x cmp (.ok txt))
  | done x =>
    obtain ⟨f1, f2, f3, _⟩ := runCleanups_frame e
    exact hi.frame f1 f2 f3 (endTest_cleanup w x) (endTest_scleanup w x)

theorem goRun_cleanInv (c : Cfg) (caller : Text) (h : List Step) : ∀ {st : St} {w : World}, StRel st w →
    CleanInv st w → HistOK h → (∀ o ∈ (C01World.run c caller w h).2, o.unsupported = none) →
    ∃ st', goRun IOFail.never c caller st h = some st' ∧ StRel st' (C01World.run c caller w h).1 ∧
      CleanInv st' (C01World.run c caller w h).1 ∧
      st'.tev = st.tev ++ ((C01World.run c caller w h).2.map (·.events)).flatten := by
  induction h with
  | nil => intro st w hr hi _ _; exact ⟨st, rfl, hr, hi, by simp [C01World.run]⟩
  | cons s h ih =>
    intro st w hr hi hok hs
    simp only [C01World.run] at hs ⊢
    obtain ⟨s1, e1, r1, i1, t1⟩ := goStep_cleanInv hr hi c caller s (hok s (by simp))
      (fun o ho => hs o (List.mem_append.mpr (Or.inl ho)))
    obtain ⟨s2, e2, r2, i2, t2⟩ := ih r1 i1 (fun s' hs' => hok s' (List.mem_cons_of_mem _ hs'))
      (fun o ho => hs o (List.mem_append.mpr (Or.inr ho)))
    refine ⟨s2, ?_, r2, i2, ?_⟩
    · simp only [goRun, e1, Option.bind_some]; exact e2
    · rw [t2, t1]; simp

/-- the shared tail of the entry flows is always covered by the model (`frameFmt` never fails; a file
    in which an entry was found exists) -/
theorem entryTail_supported (w : World) (c : Cfg) (p rel id s : Text) (cmp : Cmp) :
    (entryTail w c p rel id s cmp).2.unsupported = none := by
  unfold entryTail
  rw [frameFmt_eq]
  cases h1 : (fsRead w.fs p).bind (getPrev id) with
  | none =>
    simp only
    split <;> rfl
  | some pl =>
    obtain ⟨prev, line⟩ := pl
    cases h2 : fsRead w.fs p with
    | none => rw [h2] at h1; simp at h1
    | some file =>
      simp only
      generalize prettyDiff _ _ rel line = diff
      split
      · rfl
      split <;> rfl

/-- when the relative path exists (absolute caller and snapshot directory) the model covers EVERY call of
    EVERY history: the hypothesis `unsupported = none` of `goRun_simulates` is discharged -/
theorem run_supported (c : Cfg) (caller p rel : Text)
    (hsp : ∀ t, snapshotPath c caller t false = (p, some rel)) (h : List Step) :
    ∀ w : World, ∀ o ∈ (C01World.run c caller w h).2, o.unsupported = none := by
  induction h with
  | nil => intro w o ho; simp [C01World.run] at ho
  | cons s h ih =>
    intro w o ho
    simp only [C01World.run] at ho
    rcases List.mem_append.mp ho with ho | ho
    · cases s with
      | call t txt cmp x =>
        simp only [C01World.step, List.mem_singleton] at ho
        subst ho
        rw [matchEntry_eq w c caller t x cmp txt p rel (hsp t)]
        exact entryTail_supported _ _ _ _ _ _ _
      | done x => simp [C01World.step] at ho
    · exact ih _ o ho

theorem goStep_frame (io : IOFail) (c : Cfg) (caller : Text) (st st' : St) (s : Step)
    (e : goStep io c caller st s = some st') :
    st'.env = st.env ∧ st'.skipped = st.skipped ∧ st'.stdout = st.stdout := by
  cases s with
  | call t txt cmp x =>
    obtain ⟨_, _, _, a, b, d⟩ := goStep_call_regs io c caller st st' t txt cmp x e
    exact ⟨a, b, d⟩
  | done x =>
    obtain ⟨_, _, _, a, _, b, d, _⟩ := runCleanups_frame e
    exact ⟨a, b, d⟩

theorem goRun_frame (io : IOFail) (c : Cfg) (caller : Text) (h : List Step) : ∀ (st st' : St),
    goRun io c caller st h = some st' →
    st'.env = st.env ∧ st'.skipped = st.skipped ∧ st'.stdout = st.stdout := by
  induction h with
  | nil => intro st st' e; cases e; exact ⟨rfl, rfl, rfl⟩
  | cons s h ih =>
    intro st st' e
    cases h1 : goStep io c caller st s with
    | none => rw [goRun, h1] at e; cases e
    | some s1 =>
      rw [goRun, h1] at e
      obtain ⟨a1, a2, a3⟩ := goStep_frame io c caller st s1 s h1
      obtain ⟨b1, b2, b3⟩ := ih s1 st' e
      exact ⟨b1.trans a1, b2.trans a2, b3.trans a3⟩

/-- **the states `goRun` reaches** from a fresh process whose Match* calls all address the snapshot file
    `p`: `run` (it does not panic), in `StRel` AND `CleanRel` with the world the model's run reaches, whose
    cleanup registry is `RegInv` (keys on `p` only, counter of a test = its number of calls, no standalone
    snapshot registered) -/
structure Reached (env : Env) (fs₀ : FS) (c : Cfg) (caller p : Text) (h : List Step) (st1 : St) : Prop where
  run : goRun IOFail.never c caller (freshSt env fs₀) h = some st1
  rel : StRel st1 (C01World.run c caller { env := env, fs := fs₀ } h).1
  crel : CleanRel st1 (C01World.run c caller { env := env, fs := fs₀ } h).1
  reg : RegInv p (C01World.run c caller { env := env, fs := fs₀ } h).1 (calledNames h).reverse
  env : st1.env = env
  skipped : st1.skipped = []
  stdout : st1.stdout = []

/-- **`goRun` maintains everything the `Clean` ties ask of the state** (no hypothesis on the mode, on the
    initial file system or on what the calls find; `hsp`: the calls address `p` and a relative path exists;
    `HistOK`: an escaped-mode text is the stored form of a document) -/
theorem goRun_reached (env : Env) (fs₀ : FS) (c : Cfg) (caller p rel : Text) (h : List Step)
    (hsp : ∀ t, snapshotPath c caller t false = (p, some rel)) (hok : HistOK h) :
    ∃ st1, Reached env fs₀ c caller p h st1 := by
  obtain ⟨st1, e, r, i, _⟩ := goRun_cleanInv c caller h (StRel_init env fs₀) (CleanInv_init env fs₀) hok
    (run_supported c caller p rel hsp h _)
  have hreg := run_regInv c caller p (fun t => by rw [hsp t]) h _ [] (RegInv.fresh p env fs₀)
  rw [List.append_nil] at hreg
  obtain ⟨f1, f2, f3⟩ := goRun_frame _ _ _ _ _ _ e
  exact ⟨st1, e, r, CleanRel_of r i, hreg, f1, f2, f3⟩

/-- no `-run` filter: the parser table is not consulted (any `parseFile` is sound for the empty table) -/
theorem parseSound_empty (parseFile : Text → List GoDecl × Err) : ParseSound {} parseFile :=
  fun p key entry h => by simp at h

/-- no `-run` filter: the model answers "matched" without a table, so soundness of the regexp function
    is: the empty pattern matches every string -/
theorem oracleSound_noRun (re : Text → Text → Bool × Bool) (hre : ∀ s, (re [] s).1 = true) :
    OracleSound {} re [] := by
  intro s b h
  simp only [Oracles.reMatch, ↓reduceIte, Option.some.injEq] at h
  rw [hre s, h]

/-- what `Clean` prints for a summary text: the text and `Println`'s newline — or nothing -/
def summaryLine (s : Text) : Text := if s = [] then [] else s ++ [10]

/-- the model's `cleanStdout`, in terms of the TRANSLITERATED `summary` on the Go state -/
theorem cleanStdout_go {st : St} {w : World} (hrel : CleanRel st w) (sortOpt : Bool) (obsF obsT : List Text) :
    cleanStdout w sortOpt obsF obsT =
      summaryLine (Generated.FuncsIO.summary obsF obsT (GoSem.len st.skipped) st.events (cleanUpd st)) := by
  have hlen : GoSem.len st.skipped = ((st.skipped.length : Nat) : Int) := rfl
  have hupd : cleanUpd st = Generated.summaryUpdate w.env sortOpt := by
    unfold cleanUpd Generated.summaryUpdate; rw [hrel.env]
  rw [hlen, summary_tied_wf obsF obsT st.skipped.length st.events w.events (cleanUpd st) hrel.eventsWF
    hrel.passed hrel.erred hrel.added hrel.updated, hupd, hrel.skipped]
  rfl

theorem oneDir_of_keys (w : World) (p : Text) (hkeys : ∀ kv ∈ w.cleanup, kv.1.1 = p) (hs : w.scleanup = [])
    (cnt : Nat) : ∀ standalone, GoSnaps.occurrences w.scleanup cnt standaloneOccFmt = some standalone →
      ∀ q ∈ cleanRegPaths w ++ standalone, fpDir q = fpDir p := by
  intro standalone hocc q hq
  rw [hs, CleanWorld.occurrences_nil] at hocc
  cases hocc
  rw [List.append_nil] at hq
  obtain ⟨kv, hkv, rfl⟩ := List.mem_map.mp (mem_dedup _ _ hq)
  rw [hkeys kv hkv]

/-- **`Clean` on one snapshot file**: from a state in `CleanRel` with a world whose registry knows only the
    file `p`, under `IOFail.never`, no `-run` filter: the transliterated `Clean` is the model's `clean` -/
theorem Clean_oneFile {st : St} {w : World} (hrel : CleanRel st w) (p : Text)
    (hkeys : ∀ kv ∈ w.cleanup, kv.1.1 = p) (hs : w.scleanup = [])
    (parseFile : Text → List GoDecl × Err) (re : Text → Text → Bool × Bool) (cnt : Nat) (err : Err)
    (opts : List Bool) (hcnt : cnt > 0) (hre : ∀ s, (re [] s).1 = true)
    (hj : cleanUpd st = true → JoinFaithful (fpDir p))
    (hsup : (GoSnaps.clean {} w (opts.head?.getD false) [] cnt).2.unsupported = none) :
    Generated.FuncsIO.Clean IOFail.never st parseFile re [] ((cnt : Int), err) () opts =
      some { st with
        fs := (GoSnaps.clean {} w (opts.head?.getD false) [] cnt).1.fs,
        stdout := st.stdout ++ (GoSnaps.clean {} w (opts.head?.getD false) [] cnt).2.stdout } :=
  Clean_tied_one_dir {} st w parseFile re [] cnt err opts hrel hcnt (parseSound_empty parseFile)
    (oracleSound_noRun re hre) (fpDir p) (oneDir_of_keys w p hkeys hs cnt) hj hsup

/-- `Clean_oneFile` with the model's run unpacked: the stages of the model's `clean` (`CleanRun`, no standalone
    file) and the state the transliterated `Clean` returns, written with the transliterated `summary` -/
theorem Clean_oneFile_run {st : St} {w : World} (hrel : CleanRel st w) (p : Text)
    (hkeys : ∀ kv ∈ w.cleanup, kv.1.1 = p) (hs : w.scleanup = [])
    (parseFile : Text → List GoDecl × Err) (re : Text → Text → Bool × Bool) (cnt : Nat) (err : Err)
    (opts : List Bool) (hcnt : cnt > 0) (hre : ∀ s, (re [] s).1 = true)
    (hj : cleanUpd st = true → JoinFaithful (fpDir p))
    (hsup : (GoSnaps.clean {} w (opts.head?.getD false) [] cnt).2.unsupported = none) :
    ∃ (fr : FilesResult) (obsT : List Text) (fs2 : FS) (wr : List Text),
      CleanRun {} w (opts.head?.getD false) [] cnt [] fr obsT fs2 wr ∧
      Generated.FuncsIO.Clean IOFail.never st parseFile re [] ((cnt : Int), err) () opts =
        some { st with fs := fs2, stdout := st.stdout ++ summaryLine (Generated.FuncsIO.summary fr.obsolete
          obsT (GoSem.len st.skipped) st.events (cleanUpd st)) } := by
  obtain ⟨sa, fr, obsT, fs2, wr, crun⟩ := clean_supported {} _ _ [] cnt hsup
  have hsa := standalone_nil crun hs
  subst hsa
  refine ⟨fr, obsT, fs2, wr, crun, ?_⟩
  rw [Clean_oneFile hrel p hkeys hs parseFile re cnt err opts hcnt hre hj hsup, crun.result,
    cleanStdout_go hrel]

/-- **the composition.**  In a state reached by `goRun`, under `IOFail.never`, with no `-run` filter and any
    `-count > 0`, any sort option: the transliterated `Clean` does not panic and IS the model's `clean` of the
    world the model's run reaches (file system and printed text); nothing else of the state changes.
    Remaining hypotheses: `hre` (the function standing for `regexp.MatchString` matches the empty pattern —
    an oracle, not go-snaps code), `hj` (clean mode: `filepath.Join` is faithful on the snapshot directory:
    `joinFaithful_abs`, every absolute clean directory), `hsup` (the model covers the call: discharged by
    `Reached.supported` from facts about the snapshot file). -/
theorem Clean_reached {env : Env} {fs₀ : FS} {c : Cfg} {caller p : Text} {h : List Step} {st1 : St}
    (hr : Reached env fs₀ c caller p h st1)
    (parseFile : Text → List GoDecl × Err) (re : Text → Text → Bool × Bool) (cnt : Nat) (err : Err)
    (opts : List Bool) (hcnt : cnt > 0) (hre : ∀ s, (re [] s).1 = true)
    (hj : (Generated.shouldClean env && !env.isCI) = true → JoinFaithful (fpDir p))
    (hsup : (GoSnaps.clean {} (C01World.run c caller { env := env, fs := fs₀ } h).1
      (opts.head?.getD false) [] cnt).2.unsupported = none) :
    Generated.FuncsIO.Clean IOFail.never st1 parseFile re [] ((cnt : Int), err) () opts =
      some { st1 with
        fs := (GoSnaps.clean {} (C01World.run c caller { env := env, fs := fs₀ } h).1
          (opts.head?.getD false) [] cnt).1.fs,
        stdout := st1.stdout ++ (GoSnaps.clean {} (C01World.run c caller { env := env, fs := fs₀ } h).1
          (opts.head?.getD false) [] cnt).2.stdout } :=
  Clean_oneFile hr.crel p hr.reg.keys hr.reg.sclean parseFile re cnt err opts hcnt hre
    (fun hu => hj (by unfold cleanUpd at hu; rw [hr.env] at hu; exact hu)) hsup

theorem run_cleanup_of_no_calls (c : Cfg) (caller : Text) (h : List Step) (hn : calledNames h = []) :
    ∀ w : World, (C01World.run c caller w h).1.cleanup = w.cleanup := by
  induction h with
  | nil => intro w; rfl
  | cons s h ih =>
    intro w
    cases s with
    | call t txt cmp x => simp [calledNames] at hn
    | done x =>
      simp only [C01World.run, C01World.step]
      rw [ih (by simpa [calledNames] using hn), endTest_cleanup]

/-- **the `hsup` of `Clean_reached` / `Clean_oneFile` holds**: the model covers `Clean` in a reached state as soon as the snapshot file holds a
    well-formed entry list after the run (`Holds`, `CleanFile`), exists if any call was made, and — if `Sort`
    is requested — `natural.Less` is a total order on its ids (otherwise `slices.SortFunc` promises nothing
    and the model has no answer: `C10.natLt_not_total`) -/
theorem Reached.supported {env : Env} {fs₀ : FS} {c : Cfg} {caller p : Text} {h : List Step} {st1 : St}
    (hr : Reached env fs₀ c caller p h st1) (sortOpt : Bool) (cnt : Nat) (hcnt : cnt > 0) (es : List Entry)
    (hfile : Holds st1.fs p es) (hf : CleanFile es)
    (hex : calledNames h ≠ [] → fsRead st1.fs p ≠ none)
    (hto : sortOpt = true → TotalOn (es.map tidOf)) :
    (GoSnaps.clean {} (C01World.run c caller { env := env, fs := fs₀ } h).1 sortOpt [] cnt).2.unsupported =
      none := by
  refine clean_supported_noRun {} _ sortOpt cnt p es hcnt hr.reg.keys hr.reg.sclean hf (hr.rel.fs ▸ hfile)
    ?_ hto
  intro hne
  rw [← hr.rel.fs]
  apply hex
  intro hn
  exact hne (run_cleanup_of_no_calls c caller h hn _)

/-! ## the properties, end to end

Setting of the theorems of this section (all but `go_no_update_no_removal`, which takes any failure oracles and
any `-run`): a fresh test process (`freshSt env fs₀`: `newRegistry()`, no event)
over ANY file system `fs₀`, in ANY environment `env`; all Match* calls of the history `h` are made under one
Config from one test file, hence address one snapshot file `p` (`hsp`); `IOFail.never`; `Clean` is called
without a `-run` filter.  The registries, the event counters, the skip list are NOT assumed to be in any
relation to anything: they are what `goRun` made them (`goRun_reached`).

Hypotheses that remain, and why:
* `hre : ∀ s, (re "" s).1 = true` — the function standing for `regexp.MatchString` matches the empty
  pattern (an oracle for the regexp library, not go-snaps code; `testSkipped` calls it even without `-run`);
* `hj` (only when files may be deleted) — `filepath.Join` is faithful on the snapshot directory
  (`joinFaithful_abs`: every absolute clean directory but the root; it is about `filepath`, not about go-snaps);
* about the snapshot file AFTER the run (`FileAfter`): it holds a well-formed entry list (`CleanFile`: every
  header is one `getTestID` recognises — D11 otherwise —, escaped bodies, scanner-clean lines), exists if a
  call was made, and `natural.Less` is total on its ids if `Sort` is requested.  All but the last are
  discharged from hypotheses on the INPUTS (initial file, test names, texts): in the record scenario
  (`go_record_fileAfter`) and for an arbitrary mix of modes (`goRun_fileAfter`).  Totality of `natural.Less` stays a hypothesis:
  where it fails `slices.SortFunc` promises nothing and the model has no answer (`C10.natLt_not_total`). -/

/-- what the theorems of this section assume about the snapshot file after the run -/
structure FileAfter (fs : FS) (p : Text) (es : List Entry) (h : List Step) (sortOpt : Bool) : Prop where
  holds : Holds fs p es
  clean : CleanFile es
  exist : calledNames h ≠ [] → fsRead fs p ≠ none
  total : sortOpt = true → TotalOn (es.map tidOf)

/-- after at least one call the snapshot file is there and holds `es` -/
theorem FileAfter.read {fs : FS} {p : Text} {es : List Entry} {h : List Step} {sortOpt : Bool}
    (hfa : FileAfter fs p es h sortOpt) (hcalls : calledNames h ≠ []) : fsRead fs p = some (render es) := by
  rcases hfa.holds with h1 | ⟨h1, _⟩
  · exact h1
  · exact absurd h1 (hfa.exist hcalls)

/-- **`Clean` in a reached state with a well-formed snapshot file**: the stages of the model's `clean` and the
    state the transliterated `Clean` returns -/
theorem Reached.clean_run {env : Env} {fs₀ : FS} {c : Cfg} {caller p : Text} {h : List Step} {st1 : St}
    (hr : Reached env fs₀ c caller p h st1)
    (parseFile : Text → List GoDecl × Err) (re : Text → Text → Bool × Bool) (cnt : Nat) (err : Err)
    (opts : List Bool) (hcnt : cnt > 0) (hre : ∀ s, (re [] s).1 = true)
    (hj : (Generated.shouldClean env && !env.isCI) = true → JoinFaithful (fpDir p))
    {es : List Entry} (hfa : FileAfter st1.fs p es h (opts.head?.getD false)) :
    ∃ (fr : FilesResult) (obsT : List Text) (fs2 : FS) (wr : List Text),
      CleanRun {} (C01World.run c caller { env := env, fs := fs₀ } h).1 (opts.head?.getD false) [] cnt [] fr obsT
        fs2 wr ∧
      Generated.FuncsIO.Clean IOFail.never st1 parseFile re [] ((cnt : Int), err) () opts =
        some { st1 with fs := fs2, stdout := st1.stdout ++ summaryLine (Generated.FuncsIO.summary fr.obsolete
          obsT (GoSem.len st1.skipped) st1.events (cleanUpd st1)) } :=
  Clean_oneFile_run hr.crel p hr.reg.keys hr.reg.sclean parseFile re cnt err opts hcnt hre
    (fun hu => hj (by unfold cleanUpd at hu; rw [hr.env] at hu; exact hu))
    (hr.supported _ cnt hcnt es hfa.holds hfa.clean hfa.exist hfa.total)

/-- **C07, end to end: matched entries survive `Clean`.**

Run the history `h` with the transliterated flows, then the transliterated `Clean` with `-count = cnt`, any
sort option, in whatever mode `env` says (report, clean, CI).  Neither panics.  `Clean` changes only the
file system and `stdout`, and prints the summary of two lists `obsFiles`, `obsTests`.  Let the snapshot
file hold, after the run, the well-formed entry list `es` (`FileAfter`), and let `must` be entries of it
whose slot was addressed: `[t - k]` with `1 ≤ k ≤ (calls of t in h) / cnt` — with `-count = cnt` every test
function is executed `cnt` times, so this is "`k` is at most the number of calls of `t` per execution"; a
call that found or created its entry addressed such a slot.  Then after `Clean`
* no id of `must` is in the obsolete list that is printed, and
* the file `p` holds a well-formed entry list `es'` made of entries of `es` that contains every entry of
  `must` — same header, same body, hence the same replayed value.

That `es` exists — the flows leave a well-formed file — and that the slot of an entry a step found or created
is such a slot and is still in the file at the end of the run, is proved for the record scenario and for any
mix of modes: `go_matched_survive_clean_any_mode`, `go_addressed_survive_clean`). -/
theorem go_matched_survive_clean (env : Env) (fs₀ : FS) (c : Cfg) (caller p rel : Text) (h : List Step)
    (parseFile : Text → List GoDecl × Err) (re : Text → Text → Bool × Bool) (cnt : Nat) (err : Err)
    (opts : List Bool)
    (hsp : ∀ t, snapshotPath c caller t false = (p, some rel)) (hok : HistOK h) (hcnt : cnt > 0)
    (hre : ∀ s, (re [] s).1 = true)
    (hj : (Generated.shouldClean env && !env.isCI) = true → JoinFaithful (fpDir p)) :
    ∃ st1, goRun IOFail.never c caller (freshSt env fs₀) h = some st1 ∧
    ∀ es, FileAfter st1.fs p es h (opts.head?.getD false) →
    ∃ (fs2 : FS) (obsFiles obsTests : List Text),
      Generated.FuncsIO.Clean IOFail.never st1 parseFile re [] ((cnt : Int), err) () opts =
        some { st1 with fs := fs2, stdout := st1.stdout ++ summaryLine (Generated.FuncsIO.summary obsFiles
          obsTests (GoSem.len st1.skipped) st1.events (cleanUpd st1)) } ∧
      ∀ must : List Entry, (∀ e ∈ must, e ∈ es) →
        (∀ e ∈ must, ∃ t k, e.id = testID t k ∧ 1 ≤ k ∧ k ≤ (calledNames h).count t / cnt) →
        (∀ e ∈ must, tidOf e ∉ obsTests) ∧
        ∃ es', Holds fs2 p es' ∧ CleanFile es' ∧ (∀ e ∈ must, e ∈ es') ∧ (∀ e ∈ es', e ∈ es) := by
  obtain ⟨st1, hr⟩ := goRun_reached env fs₀ c caller p rel h hsp hok
  refine ⟨st1, hr.run, fun es hfa => ?_⟩
  obtain ⟨fr, obsT, fs, wr, crun, hclean⟩ := hr.clean_run parseFile re cnt err opts hcnt hre hj hfa
  refine ⟨fs, fr.obsolete, obsT, hclean, ?_⟩
  · intro must hall hcov
    obtain ⟨_, k2, ⟨es', e1, e2, e3, e4⟩, _⟩ := clean_keeps_of_kept {} _ _ [] cnt p es must hr.reg.keys hr.reg.sclean
      (fun registered hreg e he =>
        let ⟨_, _, _, hid, hk1, hk2, hm⟩ := hr.reg.covered (hcov e he)
        kept_of_covered {} _ _ [] cnt p registered hreg hid hk1 hk2 hm)
      (fun registered e _ => classified_noRun {} registered _ _) hfa.clean (hr.rel.fs ▸ hfa.holds) hall [] fr obsT fs
      wr crun
    exact ⟨k2, es', e2, e1, e3, e4⟩

/-- what every state reached by `goRun` satisfies on the Go side alone, for EVERY failure oracle: inner
    maps of `running` and `cleanup` exist for the same paths, and only the file `p` has one -/
structure RegOnly (st : St) (p : Text) : Prop where
  has : ∀ q, map2Has st.reg.running q = map2Has st.reg.cleanup q
  keys : ∀ q ∈ st.reg.cleanup.map (·.1), q = p

theorem regBumped_has (r : Registry) (p n q : Text)
    (hh : ∀ q, map2Has r.running q = map2Has r.cleanup q) :
    map2Has (regBumped r p n).running q = map2Has (regBumped r p n).cleanup q := by
  simp only [regBumped, map2Has_put, regEnsure_has r p q hh]

theorem goStep_regOnly (io : IOFail) (c : Cfg) (caller p : Text)
    (hsp : ∀ t, (snapshotPath c caller t false).1 = p) (st st' : St) (s : Step) (hi : RegOnly st p)
    (e : goStep io c caller st s = some st') : RegOnly st' p := by
  cases s with
  | call t txt cmp x =>
    obtain ⟨g1, _⟩ := goStep_call_regs io c caller st st' t txt cmp x e
    rw [hsp t] at g1
    refine ⟨fun q => by rw [g1]; exact regBumped_has _ _ _ _ hi.has, fun q hq => ?_⟩
    rw [g1] at hq
    rcases (regBumped_keys_cleanup _ _ _ _ (hi.has p)).mp hq with h' | h'
    · exact hi.keys q h'
    · exact h'
  | done x =>
    obtain ⟨f1, _, _, _, _, _, _, fh⟩ := runCleanups_frame e
    exact ⟨fun q => by rw [fh q, f1]; exact hi.has q, fun q hq => hi.keys q (f1 ▸ hq)⟩

theorem goRun_regOnly (io : IOFail) (c : Cfg) (caller p : Text)
    (hsp : ∀ t, (snapshotPath c caller t false).1 = p) (h : List Step) : ∀ (st st' : St), RegOnly st p →
    goRun io c caller st h = some st' → RegOnly st' p := by
  induction h with
  | nil => intro st st' hi e; cases e; exact hi
  | cons s h ih =>
    intro st st' hi e
    cases h1 : goStep io c caller st s with
    | none => rw [goRun, h1] at e; cases e
    | some s1 =>
      rw [goRun, h1] at e
      exact ih s1 st' (goStep_regOnly io c caller p hsp st s1 s hi h1) e

/-- **C09, every failure oracle (for the run AND for `Clean`), any `-run`, any `-count`, any sort option:
    in a mode that does not allow deletion nothing is removed.**

After ANY run of a history from a fresh process, if the mode is CI, or `UPDATE_SNAPS` is neither `true` nor
`clean`, a `Clean` that returns leaves the SET OF PATHS of the file system as it was (no file removed, none
created), leaves every file other than the snapshot file `p` byte-identical, and — without `Sort`, or on
CI — leaves the whole file system exactly as it was.  (With `Sort`, off CI, the content of `p` may change:
`go_no_update_no_loss` says how.)  No hypothesis on the file system, the texts, the oracles. -/
theorem go_no_update_no_removal (io io' : IOFail) (env : Env) (fs₀ : FS) (c : Cfg) (caller p : Text)
    (h : List Step) (hsp : ∀ t, (snapshotPath c caller t false).1 = p) (st1 st2 : St)
    (parseFile : Text → List GoDecl × Err) (re : Text → Text → Bool × Bool) (runFlag : Text)
    (countFlag : Int × Err) (opts : List Bool)
    (e1 : goRun io c caller (freshSt env fs₀) h = some st1)
    (hnd : (Generated.shouldClean env && !env.isCI) = false)
    (e2 : Generated.FuncsIO.Clean io' st1 parseFile re runFlag countFlag () opts = some st2) :
    (∀ q, (fsRead st2.fs q).isSome = (fsRead st1.fs q).isSome) ∧
    (∀ q, q ≠ p → fsRead st2.fs q = fsRead st1.fs q) ∧
    ((opts.head?.getD false = false ∨ env.isCI = true) → st2.fs = st1.fs) := by
  have henv : st1.env = env := (goRun_frame io c caller h _ _ e1).1
  have hro := goRun_regOnly io c caller p hsp h _ _
    ⟨fun _ => rfl, fun q hq => by simp at hq⟩ e1
  cases hci : env.isCI with
  | true =>
    have := Clean_ci_readonly io' st1 st2 parseFile re runFlag countFlag opts (by rw [henv]; exact hci) e2
    rw [this]
    exact ⟨fun _ => rfl, fun _ _ => rfl, fun _ => rfl⟩
  | false =>
    have hnc : Generated.shouldClean st1.env = false := by
      rw [henv]; rw [hci] at hnd; simpa using hnd
    obtain ⟨k1, k2, k3⟩ := Clean_no_update_no_removal io' st1 st2 parseFile re runFlag countFlag opts hnc e2
    refine ⟨k1, fun q hq => k2 q ?_, fun hno => k3 (by rw [henv, hci]; exact hno)⟩
    cases hh : map2Has st1.reg.cleanup q with
    | false => rfl
    | true => exact absurd (hro.keys q ((map2Has_iff_mem _ _).mp hh)) hq

theorem Reached.wenv {env : Env} {fs₀ : FS} {c : Cfg} {caller p : Text} {h : List Step} {st1 : St}
    (hr : Reached env fs₀ c caller p h st1) :
    (C01World.run c caller { env := env, fs := fs₀ } h).1.env = env := by
  rw [← hr.rel.env, hr.env]

/-- **C09, end to end (`IOFail.never`, no `-run` filter): without update no ENTRY is lost either.**

In a mode that does not allow deletion (CI, or `UPDATE_SNAPS` neither `true` nor `clean`), after any run,
with the snapshot file well-formed (`FileAfter`): `Clean` does not panic; the set of paths is unchanged;
every file other than `p` is byte-identical; without `Sort` (or on CI) the file system is exactly unchanged;
and with `Sort` the file `p` holds a PERMUTATION of the entries it held — stale ones included, each with its
header and body — and is again well-formed. -/
theorem go_no_update_no_loss (env : Env) (fs₀ : FS) (c : Cfg) (caller p rel : Text) (h : List Step)
    (parseFile : Text → List GoDecl × Err) (re : Text → Text → Bool × Bool) (cnt : Nat) (err : Err)
    (opts : List Bool)
    (hsp : ∀ t, snapshotPath c caller t false = (p, some rel)) (hok : HistOK h) (hcnt : cnt > 0)
    (hre : ∀ s, (re [] s).1 = true)
    (hnd : (Generated.shouldClean env && !env.isCI) = false) :
    ∃ st1, goRun IOFail.never c caller (freshSt env fs₀) h = some st1 ∧
    ∀ es, FileAfter st1.fs p es h (opts.head?.getD false) →
    ∃ (fs2 : FS) (obsFiles obsTests : List Text),
      Generated.FuncsIO.Clean IOFail.never st1 parseFile re [] ((cnt : Int), err) () opts =
        some { st1 with fs := fs2, stdout := st1.stdout ++ summaryLine (Generated.FuncsIO.summary obsFiles
          obsTests (GoSem.len st1.skipped) st1.events (cleanUpd st1)) } ∧
      (∀ q, (fsRead fs2 q).isSome = (fsRead st1.fs q).isSome) ∧
      (∀ q, q ≠ p → fsRead fs2 q = fsRead st1.fs q) ∧
      ((opts.head?.getD false = false ∨ env.isCI = true) → fs2 = st1.fs) ∧
      (fsRead st1.fs p = some (render es) →
        ∃ es', es'.Perm es ∧ CleanFile es' ∧ fsRead fs2 p = some (render es')) := by
  obtain ⟨st1, hr⟩ := goRun_reached env fs₀ c caller p rel h hsp hok
  refine ⟨st1, hr.run, fun es hfa => ?_⟩
  obtain ⟨fr, obsT, fs, wr, crun, hclean'⟩ := hr.clean_run parseFile re cnt err opts hcnt hre
    (fun hu => by rw [hnd] at hu; cases hu) hfa
  obtain ⟨k1, k2, k3⟩ := go_no_update_no_removal IOFail.never IOFail.never env fs₀ c caller p h
    (fun t => by rw [hsp t]) st1 _ parseFile re [] ((cnt : Int), err) opts hr.run hnd hclean'
  refine ⟨fs, fr.obsolete, obsT, hclean', k1, k2, k3, fun hread => ?_⟩
  have hupdF : Generated.cleanFilesUpdate (C01World.run c caller { env := env, fs := fs₀ } h).1.env
      (opts.head?.getD false) = false := by
    unfold Generated.cleanFilesUpdate; rw [hr.wenv]; exact hnd
  have hupdS : Generated.cleanSnapsUpdate (C01World.run c caller { env := env, fs := fs₀ } h).1.env
      (opts.head?.getD false) = false := by
    unfold Generated.cleanSnapsUpdate; rw [hr.wenv]; exact hnd
  have hfs : fr.fs = (C01World.run c caller { env := env, fs := fs₀ } h).1.fs :=
    ((C09.examineFiles_untouched _ _ _ _ _ _ _ crun.files).2.1 hupdF).2
  have hsn := crun.snaps
  rw [hupdS, hfs, ← hr.rel.fs] at hsn
  have hused : ∀ q ∈ fr.used, q = p := used_all_p {} _ p hr.reg.keys [] [] _ fr crun.files
  exact C09.no_update_no_loss_all {} st1.fs _ _ fr.used [] cnt _
    (fun _ _ registered _ tid => classified_noRun {} registered _ tid)
    (fun q hq => ⟨es, hfa.clean, by rw [hused q hq]; exact hread⟩) obsT fs wr hsn p es hfa.clean hread

/-- `Clean` changes the file system and `stdout` only: the state after it is in `CleanRel` with the world
    after the model's `clean` -/
theorem CleanRel.after_clean {st : St} {w : World} (hrel : CleanRel st w) (fs : FS) (out : Text) :
    CleanRel { st with fs := fs, stdout := out } { w with fs := fs } :=
  ⟨hrel.env, rfl, hrel.skipped, hrel.reg, hrel.regKeys, hrel.sreg, hrel.passed, hrel.erred, hrel.added,
    hrel.updated, hrel.eventsWF⟩

/-! ## the record scenario: every hypothesis about the file discharged from the INPUTS

`go_replay_history`'s setting: a `Scoped` history is recorded in a creating mode into a file whose initial
entries are `Good` and stale for this run (no call addresses them).  Then the file after the run is
`es₀ ++ entriesOf h`, and `FileAfter` follows from hypotheses about `es₀`, the test names and the texts. -/

theorem fileAfter_record (fs : FS) (p : Text) (es₀ : List Entry) (h : List Step) (sortOpt : Bool)
    (hholds : Holds fs p (es₀ ++ entriesOf h)) (hgood : Good (es₀ ++ entriesOf h))
    (hrec₀ : ∀ e ∈ es₀, Recognised e)
    (htest : ∀ t ∈ calledNames h, (32 : Byte) ∉ t)
    (hto : sortOpt = true → TotalOn ((es₀ ++ entriesOf h).map tidOf)) :
    FileAfter fs p (es₀ ++ entriesOf h) h sortOpt where
  holds := hholds
  clean := cleanFile_of_good hgood (fun e he => by
    rcases List.mem_append.mp he with he | he
    · exact hrec₀ e he
    · exact C07World.recognised_history h htest e he)
  exist := fun hne => by
    have : es₀ ++ entriesOf h ≠ [] := by
      intro h0
      have h1 := (List.append_eq_nil_iff.mp h0).2
      have := congrArg List.length (C01World.texts_entriesFrom h [])
      rw [List.length_map, show entriesFrom [] h = entriesOf h from rfl, h1] at this
      cases h with
      | nil => exact hne rfl
      | cons s h =>
        have hlen : ∀ (l : List Step), (texts l).length = (calledNames l).length := by
          intro l
          induction l with
          | nil => rfl
          | cons a l ih => cases a <;> simp [texts, calledNames, ih]
        rw [hlen] at this
        exact hne (List.eq_nil_of_length_eq_zero this.symm)
    rw [hholds.some_of_ne_nil this]; simp
  total := hto

theorem fileAfter_single (p : Text) (es : List Entry) (h : List Step) (hcf : CleanFile es) :
    FileAfter [(p, render es)] p es h false :=
  have hread : fsRead [(p, render es)] p = some (render es) := by simp [fsRead]
  ⟨Or.inl hread, hcf, fun _ => by rw [hread]; simp, fun hh => by cases hh⟩

theorem go_record_fileAfter (env : Env) (c : Cfg) (caller p rel : Text) (fs₀ : FS) (es₀ : List Entry)
    (h : List Step) (sortOpt : Bool)
    (hsp : ∀ t, snapshotPath c caller t false = (p, some rel))
    (hscoped : Scoped [] h)
    (hfile : Holds fs₀ p es₀) (hgood : Good es₀)
    (hfresh : ∀ id ∈ headers h, id ∉ fileLines es₀)
    (hnames : ∀ t ∈ calledNames h, NoNL t)
    (hbodies : ∀ s ∈ texts h, GoodBody s)
    (hns : ∀ s ∈ texts h, ∀ id ∈ ids es₀ ++ headers h, id ∉ lines s)
    (hcreate : shouldCreate env c.update = true)
    (hrec₀ : ∀ e ∈ es₀, Recognised e)
    (htest : ∀ t ∈ calledNames h, (32 : Byte) ∉ t)
    (hto : sortOpt = true → TotalOn ((es₀ ++ entriesOf h).map tidOf)) :
    ∃ rcd, goRun IOFail.never c caller (freshSt env fs₀) h = some rcd ∧
      FileAfter rcd.fs p (es₀ ++ entriesOf h) h sortOpt ∧ Good (es₀ ++ entriesOf h) := by
  obtain ⟨_, m2, m3, _⟩ := C01World.replay_history env env c c caller caller p rel rel fs₀ es₀ h hsp hsp
    hscoped hfile hgood hfresh hnames hbodies hns hcreate
  obtain ⟨rcd, e1, r1, _⟩ := goRun_simulates' c caller h (StRel_init env fs₀) (HistOK_of_bodies h hbodies)
    (run_supported c caller p rel hsp h _)
  exact ⟨rcd, e1, fileAfter_record rcd.fs p es₀ h _ (by rw [r1.fs]; exact m2) m3 hrec₀ htest hto, m3⟩

/-- **C07 in the record scenario, about the transliterated code only.**

Hypotheses of `go_replay_history` (scoped history, `Good` initial file none of whose lines is a header of
the history, usable names and texts, NoShadow, creating mode), plus: the headers of the initial file are
recognised by `getTestID` (`hrec₀`), the test names contain no space (`htest`; they need not start with `Test`; needed:
`C07World.recognised_history`), `natural.Less` is total on the ids if `Sort` is requested (`hto`), and the
two oracle-side hypotheses `hre`, `hj`.  `-count=1` (a `Scoped` history executes every test once).  Then:
the record run does not panic and leaves `es₀ ++ entriesOf h` in `p`; `Clean` — any mode of `env`, sort on
or off — does not panic, prints a summary whose obsolete-test list contains NO id of the history, and leaves
in `p` a well-formed file that still contains EVERY entry of the history with its body; and a replay of the
history in a fresh process (any environment, any config addressing `p`) over the file system `Clean` left
reports nothing and writes nothing. -/
theorem go_record_then_clean (env env' : Env) (c c' : Cfg) (caller caller' p rel rel' : Text)
    (fs₀ : FS) (es₀ : List Entry) (h : List Step)
    (parseFile : Text → List GoDecl × Err) (re : Text → Text → Bool × Bool) (err : Err) (opts : List Bool)
    (hsp : ∀ t, snapshotPath c caller t false = (p, some rel))
    (hsp' : ∀ t, snapshotPath c' caller' t false = (p, some rel'))
    (hscoped : Scoped [] h)
    (hfile : Holds fs₀ p es₀) (hgood : Good es₀)
    (hfresh : ∀ id ∈ headers h, id ∉ fileLines es₀)
    (hnames : ∀ t ∈ calledNames h, NoNL t)
    (hbodies : ∀ s ∈ texts h, GoodBody s)
    (hns : ∀ s ∈ texts h, ∀ id ∈ ids es₀ ++ headers h, id ∉ lines s)
    (hcreate : shouldCreate env c.update = true)
    (hrec₀ : ∀ e ∈ es₀, Recognised e)
    (htest : ∀ t ∈ calledNames h, (32 : Byte) ∉ t)
    (hto : opts.head?.getD false = true → TotalOn ((es₀ ++ entriesOf h).map tidOf))
    (hre : ∀ s, (re [] s).1 = true)
    (hj : (Generated.shouldClean env && !env.isCI) = true → JoinFaithful (fpDir p)) :
    ∃ rcd, goRun IOFail.never c caller (freshSt env fs₀) h = some rcd ∧
      Holds rcd.fs p (es₀ ++ entriesOf h) ∧
    ∃ (fs2 : FS) (obsFiles obsTests : List Text),
      Generated.FuncsIO.Clean IOFail.never rcd parseFile re [] (((1 : Nat) : Int), err) () opts =
        some { rcd with fs := fs2, stdout := rcd.stdout ++ summaryLine (Generated.FuncsIO.summary obsFiles
          obsTests (GoSem.len rcd.skipped) rcd.events (cleanUpd rcd)) } ∧
      (∀ e ∈ entriesOf h, tidOf e ∉ obsTests) ∧
      (∃ es', Holds fs2 p es' ∧ CleanFile es' ∧ (∀ e ∈ entriesOf h, e ∈ es') ∧
        (∀ e ∈ es', e ∈ es₀ ++ entriesOf h)) ∧
      ∃ rep, goRun IOFail.never c' caller' (freshSt env' fs2) h = some rep ∧ rep.tev = [] ∧ rep.fs = fs2 := by
  obtain ⟨rcd, e1, hfa, m3⟩ := go_record_fileAfter env c caller p rel fs₀ es₀ h (opts.head?.getD false) hsp hscoped
    hfile hgood hfresh hnames hbodies hns hcreate hrec₀ htest hto
  obtain ⟨rcd', e1', hmain⟩ := go_matched_survive_clean env fs₀ c caller p rel h parseFile re 1 err opts hsp
    (HistOK_of_bodies h hbodies) (by decide) hre hj
  rw [e1] at e1'; cases e1'
  have hholds := hfa.holds
  obtain ⟨fs2, obsF, obsT, hclean, hkeep⟩ := hmain _ hfa
  obtain ⟨k1, es', k2, k3, k4, k5⟩ := hkeep (entriesOf h) (fun e he => List.mem_append.mpr (Or.inr he))
    (fun e he => by
      obtain ⟨t, k, a1, a2, a3, _⟩ := entriesFrom_bound h [] e he
      exact ⟨t, k, a1, a2, by rw [Nat.div_one]; simpa using a3⟩)
  refine ⟨rcd, e1, hholds, fs2, obsF, obsT, hclean, k1, ⟨es', k2, k3, k4, k5⟩, ?_⟩
  -- the replay after `Clean`
  have hg' : Good es' := good_of_subset m3 k5 k3.distinct
  obtain ⟨q1, q2, _⟩ := C01World.replay_run c' caller' p rel' hsp' es' hg' h { env := env', fs := fs2 } []
    (Inv.fresh p env' _ h) hscoped k2 k4
  obtain ⟨rep, e3, r3, t3⟩ := goRun_simulates' c' caller' h (StRel_init env' fs2) (HistOK_of_bodies h hbodies)
    (fun o ho => (q2 o ho).2.2.2)
  exact ⟨rep, e3, by rw [t3]; exact flatten_events_silent _ q2, by rw [r3.fs]; exact q1⟩

/-! ## ANY mix of modes: the flows leave a well-formed file

`CleanWorld.run_keeps_good` (model level, `Lemmas/EndToEndClean.lean`) follows the snapshot file
through an arbitrary history — entries created, found, updated, reported — and shows that it stays `Good`.
With `goRun_reached` this discharges `FileAfter` (all of it but the totality of `natural.Less`, which is
asked only when `Sort` is requested) from hypotheses about the INPUTS: the initial file, the test names and
the texts (`NoShadowAll`: finding D9 otherwise; `hrec₀`, `htest`: the headers are recognised). -/

theorem recognised_of_id {a b : Entry} (h : a.id = b.id) (hb : Recognised b) : Recognised a := by
  unfold Recognised tidOf at *
  rw [h]; exact hb

theorem cleanFile_of_fileInv {es₀ : List Entry} {N T : List Text} {es : List Entry} (hinv : FileInv es₀ N T es)
    (hrec₀ : ∀ e ∈ es₀, Recognised e)
    (htest : ∀ t ∈ N, (32 : Byte) ∉ t) : CleanFile es := by
  refine cleanFile_of_good hinv.good (fun o ho => ?_)
  rcases hinv.ids o ho with hi | ⟨t, ht, k, hi⟩
  · obtain ⟨o₀, ho₀, e⟩ := List.mem_map.mp hi
    exact recognised_of_id e.symm (hrec₀ o₀ ho₀)
  · exact recognised_of_id (b := ⟨testID t k, o.body⟩) hi
      (C07World.recognised_testID t o.body k (htest t ht))

/-- **the file after ANY run**: `goRun` from a fresh process over a `Good` initial file, in any mode, leaves
    a file that holds a `CleanFile` entry list made of initial entries and entries of called tests; it exists
    as soon as a call was made, provided it existed before or creation is allowed (`hce`; otherwise — CI and
    no file — every call reports "snapshot not found" and there is nothing for `Clean` to keep) -/
theorem goRun_fileAfter (env : Env) (fs₀ : FS) (c : Cfg) (caller p rel : Text) (es₀ : List Entry)
    (h : List Step)
    (hsp : ∀ t, snapshotPath c caller t false = (p, some rel))
    (hfile : Holds fs₀ p es₀) (hgood : Good es₀)
    (hns : NoShadowAll es₀ (calledNames h) (texts h))
    (hrec₀ : ∀ e ∈ es₀, Recognised e)
    (htest : ∀ t ∈ calledNames h, (32 : Byte) ∉ t)
    (hce : fsRead fs₀ p ≠ none ∨ shouldCreate env c.update = true) :
    ∃ st1 es, goRun IOFail.never c caller (freshSt env fs₀) h = some st1 ∧
      FileInv es₀ (calledNames h) (texts h) es ∧
      ∀ sortOpt, (sortOpt = true → TotalOn (es.map tidOf)) → FileAfter st1.fs p es h sortOpt := by
  obtain ⟨st1, hr⟩ := goRun_reached env fs₀ c caller p rel h hsp (HistOK_of_bodies h hns.bodies)
  obtain ⟨es, h1, hinv, hx, _⟩ := run_keeps_good c caller p rel hsp es₀ _ _ hns h { env := env, fs := fs₀ } es₀
    (fun _ ht => ht) (fun _ hs => hs) hfile (FileInv.init _ _ hgood)
  refine ⟨st1, es, hr.run, hinv, fun sortOpt hto => ⟨hr.rel.fs ▸ h1, ?_, ?_, hto⟩⟩
  · exact cleanFile_of_fileInv hinv hrec₀ htest
  · intro hne
    rw [hr.rel.fs]
    apply hx
    rcases hce with h' | h'
    · exact Or.inl h'
    · exact Or.inr ⟨h', hne⟩

/-- a theorem about the state a run reaches, stated under `FileAfter`, with `FileAfter` discharged by what is
    known about the file after that run (`goRun_fileAfter`); both speak of the same state -/
theorem of_fileAfter {R : Option St} {p : Text} {h : List Step} {sortOpt : Bool} {P : List Entry → Prop}
    {Q : St → List Entry → Prop}
    (hfile : ∃ st1 es, R = some st1 ∧ P es ∧
      ∀ so, (so = true → TotalOn (es.map tidOf)) → FileAfter st1.fs p es h so)
    (hbase : ∃ st1, R = some st1 ∧ ∀ es, FileAfter st1.fs p es h sortOpt → Q st1 es) :
    ∃ st1 es, R = some st1 ∧ Holds st1.fs p es ∧ CleanFile es ∧ P es ∧
      ((sortOpt = true → TotalOn (es.map tidOf)) → Q st1 es) := by
  obtain ⟨st1, es, e1, hP, hfa⟩ := hfile
  obtain ⟨st1', e1', hmain⟩ := hbase
  rw [e1] at e1'; cases e1'
  have hf0 := hfa false (fun hh => by cases hh)
  exact ⟨st1, es, e1, hf0.holds, hf0.clean, hP, fun hto => hmain es (hfa _ hto)⟩

/-- **C07, end to end, ANY mix of modes** (`go_matched_survive_clean` with `FileAfter` discharged).

A fresh process over a file system in which `p` holds a `Good` entry list `es₀` of recognised headers (or does
not exist) runs ANY history `h` of calls of tests whose names contain no space — in any environment, with any `Update`
option: entries are created, found, updated or reported as the mode and the file dictate, test executions
end and restart — and then calls `Clean` with `-count = cnt`.  Under NoShadow for everything in play, neither
panics, the file `p` holds a well-formed entry list `es` after the run, and — `natural.Less` being total on
its ids if `Sort` is requested — every entry of `es` whose slot was addressed (`[t - k]`,
`1 ≤ k ≤ (calls of t) / cnt`) is, after `Clean`, still in the file with the same body and is not listed as
obsolete. -/
theorem go_matched_survive_clean_any_mode (env : Env) (fs₀ : FS) (c : Cfg) (caller p rel : Text)
    (es₀ : List Entry) (h : List Step)
    (parseFile : Text → List GoDecl × Err) (re : Text → Text → Bool × Bool) (cnt : Nat) (err : Err)
    (opts : List Bool)
    (hsp : ∀ t, snapshotPath c caller t false = (p, some rel))
    (hfile : Holds fs₀ p es₀) (hgood : Good es₀)
    (hns : NoShadowAll es₀ (calledNames h) (texts h))
    (hrec₀ : ∀ e ∈ es₀, Recognised e)
    (htest : ∀ t ∈ calledNames h, (32 : Byte) ∉ t)
    (hce : fsRead fs₀ p ≠ none ∨ shouldCreate env c.update = true)
    (hcnt : cnt > 0) (hre : ∀ s, (re [] s).1 = true)
    (hj : (Generated.shouldClean env && !env.isCI) = true → JoinFaithful (fpDir p)) :
    ∃ st1 es, goRun IOFail.never c caller (freshSt env fs₀) h = some st1 ∧
      Holds st1.fs p es ∧ CleanFile es ∧ FileInv es₀ (calledNames h) (texts h) es ∧
      ((opts.head?.getD false = true → TotalOn (es.map tidOf)) →
      ∃ (fs2 : FS) (obsFiles obsTests : List Text),
        Generated.FuncsIO.Clean IOFail.never st1 parseFile re [] ((cnt : Int), err) () opts =
          some { st1 with fs := fs2, stdout := st1.stdout ++ summaryLine (Generated.FuncsIO.summary obsFiles
            obsTests (GoSem.len st1.skipped) st1.events (cleanUpd st1)) } ∧
        ∀ must : List Entry, (∀ e ∈ must, e ∈ es) →
          (∀ e ∈ must, ∃ t k, e.id = testID t k ∧ 1 ≤ k ∧ k ≤ (calledNames h).count t / cnt) →
          (∀ e ∈ must, tidOf e ∉ obsTests) ∧
          ∃ es', Holds fs2 p es' ∧ CleanFile es' ∧ (∀ e ∈ must, e ∈ es') ∧ (∀ e ∈ es', e ∈ es)) := by
  exact of_fileAfter (goRun_fileAfter env fs₀ c caller p rel es₀ h hsp hfile hgood hns hrec₀ htest hce)
    (go_matched_survive_clean env fs₀ c caller p rel h parseFile re cnt err opts hsp
      (HistOK_of_bodies h hns.bodies) hcnt hre hj)

/-- **the file after a run in two parts**: what `goRun_fileAfter` says about the whole run, about the SAME
    entry lists the file holds after the first part and at the end — no flow ever removes a header
    (`∀ o ∈ esA, o.id ∈ ids es`) -/
theorem goRun_fileAfter_split (env : Env) (fs₀ : FS) (c : Cfg) (caller p rel : Text) (es₀ : List Entry)
    (hA hB : List Step)
    (hsp : ∀ t, snapshotPath c caller t false = (p, some rel))
    (hfile : Holds fs₀ p es₀) (hgood : Good es₀)
    (hns : NoShadowAll es₀ (calledNames (hA ++ hB)) (texts (hA ++ hB)))
    (hrec₀ : ∀ e ∈ es₀, Recognised e)
    (htest : ∀ t ∈ calledNames (hA ++ hB), (32 : Byte) ∉ t)
    (hce : fsRead fs₀ p ≠ none ∨ shouldCreate env c.update = true) :
    ∃ aft esA st1 es, goRun IOFail.never c caller (freshSt env fs₀) hA = some aft ∧ Holds aft.fs p esA ∧
      goRun IOFail.never c caller (freshSt env fs₀) (hA ++ hB) = some st1 ∧
      (∀ o ∈ esA, o.id ∈ ids es) ∧
      ∀ sortOpt, (sortOpt = true → TotalOn (es.map tidOf)) → FileAfter st1.fs p es (hA ++ hB) sortOpt := by
  have hok := HistOK_of_bodies (hA ++ hB) hns.bodies
  obtain ⟨aft, hrA⟩ := goRun_reached env fs₀ c caller p rel hA hsp hok.left
  obtain ⟨st1, hr⟩ := goRun_reached env fs₀ c caller p rel (hA ++ hB) hsp hok
  obtain ⟨esA, a1, ainv, ax, _⟩ := run_keeps_good c caller p rel hsp es₀ _ _ hns hA { env := env, fs := fs₀ } es₀
    (fun t ht => by rw [calledNames_append]; exact List.mem_append_left _ ht)
    (fun s hs => by rw [texts_append]; exact List.mem_append_left _ hs) hfile (FileInv.init _ _ hgood)
  obtain ⟨es, b1, binv, bx, bmono⟩ := run_keeps_good c caller p rel hsp es₀ _ _ hns hB
    (C01World.run c caller { env := env, fs := fs₀ } hA).1 esA
    (fun t ht => by rw [calledNames_append]; exact List.mem_append_right _ ht)
    (fun s hs => by rw [texts_append]; exact List.mem_append_right _ hs) a1 ainv
  rw [← run_append] at b1 bx
  refine ⟨aft, esA, st1, es, hrA.run, hrA.rel.fs ▸ a1, hr.run, bmono, fun sortOpt hto =>
    ⟨hr.rel.fs ▸ b1, cleanFile_of_fileInv binv hrec₀ htest, ?_, hto⟩⟩
  intro hne
  rw [hr.rel.fs]
  apply bx
  rw [hrA.wenv]
  rcases hce with h' | h'
  · exact Or.inl (ax (Or.inl h'))
  · by_cases hnA : calledNames hA = []
    · refine Or.inr ⟨h', fun hnB => hne ?_⟩
      rw [calledNames_append, hnA, hnB]; rfl
    · exact Or.inl (ax (Or.inr ⟨h', hnA⟩))

/-- **a protected slot through a run in two parts, then `Clean`.**  The history is `hA ++ hB`; `[t - k]` is a
    slot `Clean` protects with `-count = cnt` (`1 ≤ k ≤ (calls of t) / cnt`).  The file holds well-formed entry
    lists `esA` after `hA` and `es` at the end (`goRun_fileAfter_split`); if `[t - k]` is a header of `esA` it is
    one of `es`, and after `Clean` the entry `⟨[t - k], b⟩` of `es` is not listed as obsolete and is still in
    the file with its body (`go_matched_survive_clean` for the one entry). -/
theorem slot_survives_clean (env : Env) (fs₀ : FS) (c : Cfg) (caller p rel : Text)
    (es₀ : List Entry) (hA hB : List Step) (t : Text) (k cnt : Nat)
    (parseFile : Text → List GoDecl × Err) (re : Text → Text → Bool × Bool) (err : Err) (opts : List Bool)
    (hsp : ∀ t, snapshotPath c caller t false = (p, some rel))
    (hfile : Holds fs₀ p es₀) (hgood : Good es₀)
    (hns : NoShadowAll es₀ (calledNames (hA ++ hB)) (texts (hA ++ hB)))
    (hrec₀ : ∀ e ∈ es₀, Recognised e)
    (htest : ∀ t' ∈ calledNames (hA ++ hB), (32 : Byte) ∉ t')
    (hce : fsRead fs₀ p ≠ none ∨ shouldCreate env c.update = true)
    (hcnt : cnt > 0) (hre : ∀ s, (re [] s).1 = true)
    (hj : (Generated.shouldClean env && !env.isCI) = true → JoinFaithful (fpDir p))
    (hk1 : 1 ≤ k) (hk2 : k ≤ (calledNames (hA ++ hB)).count t / cnt) :
    ∃ aft esA, goRun IOFail.never c caller (freshSt env fs₀) hA = some aft ∧ Holds aft.fs p esA ∧
    ∃ st1 es, goRun IOFail.never c caller (freshSt env fs₀) (hA ++ hB) = some st1 ∧
      Holds st1.fs p es ∧ CleanFile es ∧
      (testID t k ∈ ids esA → testID t k ∈ ids es) ∧
      ((opts.head?.getD false = true → TotalOn (es.map tidOf)) →
      ∃ (fs2 : FS) (obsFiles obsTests : List Text),
        Generated.FuncsIO.Clean IOFail.never st1 parseFile re [] ((cnt : Int), err) () opts =
          some { st1 with fs := fs2, stdout := st1.stdout ++ summaryLine (Generated.FuncsIO.summary obsFiles
            obsTests (GoSem.len st1.skipped) st1.events (cleanUpd st1)) } ∧
        ∀ b, (⟨testID t k, b⟩ : Entry) ∈ es →
          tidOf ⟨testID t k, b⟩ ∉ obsTests ∧
          ∃ es', Holds fs2 p es' ∧ CleanFile es' ∧ (⟨testID t k, b⟩ : Entry) ∈ es') := by
  obtain ⟨aft, esA, st1, es, eA, hAf, e1, hmono, hfa⟩ := goRun_fileAfter_split env fs₀ c caller p rel es₀
    hA hB hsp hfile hgood hns hrec₀ htest hce
  obtain ⟨st1', e1', hmain⟩ := go_matched_survive_clean env fs₀ c caller p rel (hA ++ hB)
    parseFile re cnt err opts hsp (HistOK_of_bodies _ hns.bodies) hcnt hre hj
  rw [e1] at e1'; cases e1'
  have hf0 := hfa false (fun hh => by cases hh)
  refine ⟨aft, esA, eA, hAf, st1, es, e1, hf0.holds, hf0.clean, ?_, fun hto => ?_⟩
  · intro hm
    obtain ⟨o, ho, e⟩ := List.mem_map.mp hm
    rw [← e]; exact hmono o ho
  · obtain ⟨fs2, oF, oT, hc, hk⟩ := hmain es (hfa _ hto)
    refine ⟨fs2, oF, oT, hc, fun b hb => ?_⟩
    obtain ⟨q1, es', q2, q3, q4, _⟩ := hk [⟨testID t k, b⟩] (fun e he => by
        simp only [List.mem_singleton] at he; subst he; exact hb)
      (fun e he => by
        simp only [List.mem_singleton] at he; subst he; exact ⟨t, k, rfl, hk1, hk2⟩)
    exact ⟨q1 _ (by simp), es', q2, q3, q4 _ (by simp)⟩

/-- **C09, end to end, ANY mix of modes in the run** (`go_no_update_no_loss` with `FileAfter` discharged):
    whatever the run did, a `Clean` in a mode without deletion removes no path, leaves every other file
    alone, and leaves in `p` a permutation of the entries it held (the very same bytes without `Sort`) -/
theorem go_no_update_no_loss_any_mode (env : Env) (fs₀ : FS) (c : Cfg) (caller p rel : Text)
    (es₀ : List Entry) (h : List Step)
    (parseFile : Text → List GoDecl × Err) (re : Text → Text → Bool × Bool) (cnt : Nat) (err : Err)
    (opts : List Bool)
    (hsp : ∀ t, snapshotPath c caller t false = (p, some rel))
    (hfile : Holds fs₀ p es₀) (hgood : Good es₀)
    (hns : NoShadowAll es₀ (calledNames h) (texts h))
    (hrec₀ : ∀ e ∈ es₀, Recognised e)
    (htest : ∀ t ∈ calledNames h, (32 : Byte) ∉ t)
    (hce : fsRead fs₀ p ≠ none ∨ shouldCreate env c.update = true)
    (hcnt : cnt > 0) (hre : ∀ s, (re [] s).1 = true)
    (hnd : (Generated.shouldClean env && !env.isCI) = false) :
    ∃ st1 es, goRun IOFail.never c caller (freshSt env fs₀) h = some st1 ∧
      Holds st1.fs p es ∧ CleanFile es ∧
      ((opts.head?.getD false = true → TotalOn (es.map tidOf)) →
      ∃ (fs2 : FS) (obsFiles obsTests : List Text),
        Generated.FuncsIO.Clean IOFail.never st1 parseFile re [] ((cnt : Int), err) () opts =
          some { st1 with fs := fs2, stdout := st1.stdout ++ summaryLine (Generated.FuncsIO.summary obsFiles
            obsTests (GoSem.len st1.skipped) st1.events (cleanUpd st1)) } ∧
        (∀ q, (fsRead fs2 q).isSome = (fsRead st1.fs q).isSome) ∧
        (∀ q, q ≠ p → fsRead fs2 q = fsRead st1.fs q) ∧
        ((opts.head?.getD false = false ∨ env.isCI = true) → fs2 = st1.fs) ∧
        (fsRead st1.fs p = some (render es) →
          ∃ es', es'.Perm es ∧ CleanFile es' ∧ fsRead fs2 p = some (render es'))) := by
  obtain ⟨st1, es, e1, h1, h2, _, h3⟩ := of_fileAfter
    (goRun_fileAfter env fs₀ c caller p rel es₀ h hsp hfile hgood hns hrec₀ htest hce)
    (go_no_update_no_loss env fs₀ c caller p rel h parseFile re cnt err opts hsp
      (HistOK_of_bodies h hns.bodies) hcnt hre hnd)
  exact ⟨st1, es, e1, h1, h2, h3⟩

/-- a convenient sufficient condition for `NoShadowAll`: the headers are recognised (they start with `[`)
    and no line of a text or of an initial body starts with `[` -/
theorem noShadowAll_of_noBracket (es₀ : List Entry) (N T : List Text)
    (hrec₀ : ∀ e ∈ es₀, Recognised e) (names : ∀ t ∈ N, NoNL t) (bodies : ∀ s ∈ T, GoodBody s)
    (hT : ∀ s ∈ T, ∀ l ∈ lines s, l.head? ≠ some 91)
    (h₀ : ∀ o ∈ es₀, ∀ l ∈ lines o.body, l.head? ≠ some 91) : NoShadowAll es₀ N T where
  names := names
  bodies := bodies
  oldIds s hs o ho hm := hT s hs _ hm (by rw [(hrec₀ o ho).id_eq]; rfl)
  newIds s hs t _ k hm := hT s hs _ hm (by simp [testID])
  oldBodies o ho t _ k hm := h₀ o ho _ hm (by simp [testID])

/-! ## concrete histories (non-vacuity)

Test file "/t/a_test.go", snapshot file `xp` = "/t/__snapshots__/a_test.snap" (`C01World.exPath`); `hist`,
`es₀` (one STALE entry "[TestZ - 1]" no call addresses), `fs₀`, `envClean` (off CI, `UPDATE_SNAPS=clean`) are
those of `C07World.Ex`: tests "TestA" and "TestB", interleaved, two calls each.  `xParse` (go/parser) always
fails, `cRe` (regexp) always matches: neither is consulted in a way that matters without `-run`. -/

namespace E2E
open GoSnaps.C07World.Ex (tA tB tZ hist es₀ fs₀ envClean hyps)

abbrev xp : Text := C01World.exPath
abbrev xc : Text := C01World.exCaller

theorem exJoin : JoinFaithful (fpDir xp) := by
  have h : fpDir xp = slash :: joinSlash [[116], [95, 95, 115, 110, 97, 112, 115, 104, 111, 116, 115, 95, 95]] := by
    decide +kernel
  rw [h]
  exact joinFaithful_abs _ (by simp) (fun c hc => by
    simp only [List.mem_cons, List.not_mem_nil, or_false] at hc
    rcases hc with rfl | rfl <;> exact ⟨by decide, by decide, by decide, by decide⟩)

theorem exTotal : TotalOn ((es₀ ++ entriesOf hist).map tidOf) := ⟨by decide +kernel, by decide +kernel⟩

/-- **C07, record scenario: the theorem applies** (all hypotheses by evaluation; final replay on CI with
    `UPDATE_SNAPS=true`) … -/
example := go_record_then_clean envClean ⟨true, "true"⟩ {} {} xc xc xp C01World.exRel C01World.exRel fs₀ es₀ hist
    xParse cRe Err.nil [true] C01World.exPath_spec C01World.exPath_spec hyps.inScope hyps.file hyps.good hyps.fresh
    hyps.names hyps.bodies hyps.noShadow hyps.create
    hyps.rec₀ (by decide +kernel) (fun _ => exTotal) (fun _ => rfl) (fun _ => exJoin)

/-- … and this is what the transliterated code does, by evaluation: the record run appends the four entries
    after the stale one; `Clean` prunes "[TestZ - 1]" and writes the file sorted (A1, A2, B1, B2) -/
example :
    (goRun IOFail.never {} xc (freshSt envClean fs₀) hist).map (fun s => s.fs) =
      some [(xp, render (es₀ ++ entriesOf hist))] ∧
    ((goRun IOFail.never {} xc (freshSt envClean fs₀) hist).bind fun rcd =>
      Generated.FuncsIO.Clean IOFail.never rcd xParse cRe [] (1, Err.nil) () [true]).map (fun s => s.fs) =
      some [(xp, render [⟨testID tA 1, [120]⟩, ⟨testID tA 2, [120, 10, 10, 121]⟩,
        ⟨testID tB 1, [122]⟩, ⟨testID tB 2, [122, 122]⟩])] := by
  decide +kernel

def envReport : Env := ⟨false, ""⟩


/-! ### `-count=2`: two executions of "TestA" with two calls each (counter 4, ordinals 1 and 2 protected) -/
def h2 : List Step :=
  [.call tA [120] .raw 1, .call tA [121] .raw 1, .done 1, .call tA [120] .raw 2, .call tA [121] .raw 2, .done 2]
def a1 : Entry := ⟨testID tA 1, [120]⟩
def a2 : Entry := ⟨testID tA 2, [121]⟩
def es2 : List Entry := es₀ ++ [a1, a2]

theorem h2_run : (goRun IOFail.never {} xc (freshSt envClean fs₀) h2).map (fun s => (s.fs, s.tev)) =
    some ([(xp, render es2)], [.log Generated.go_addedMsg, .log Generated.go_addedMsg]) := by decide +kernel

theorem h2_fileAfter (st1 : St) (e1 : goRun IOFail.never {} xc (freshSt envClean fs₀) h2 = some st1) :
    FileAfter st1.fs xp es2 h2 false := by
  have hfs : st1.fs = [(xp, render es2)] := by
    have := h2_run
    rw [e1] at this
    exact congrArg Prod.fst (Option.some.inj this)
  rw [hfs]
  exact fileAfter_single xp es2 h2
    ⟨by decide +kernel, by decide +kernel, by decide +kernel, by decide +kernel, by decide +kernel⟩

example : ∃ st1, goRun IOFail.never {} xc (freshSt envClean fs₀) h2 = some st1 ∧
    ∃ (fs2 : FS) (obsFiles obsTests : List Text),
      Generated.FuncsIO.Clean IOFail.never st1 xParse cRe [] (((2 : Nat) : Int), Err.nil) () [] =
        some { st1 with fs := fs2, stdout := st1.stdout ++ summaryLine (Generated.FuncsIO.summary obsFiles
          obsTests (GoSem.len st1.skipped) st1.events (cleanUpd st1)) } ∧
      tidOf a1 ∉ obsTests ∧ tidOf a2 ∉ obsTests ∧ ∃ es', Holds fs2 xp es' ∧ a1 ∈ es' ∧ a2 ∈ es' := by
  obtain ⟨st1, e1, hmain⟩ := go_matched_survive_clean envClean fs₀ {} xc xp C01World.exRel h2 xParse cRe 2
    Err.nil [] C01World.exPath_spec (by decide) (by decide) (fun _ => rfl) (fun _ => exJoin)
  obtain ⟨fs2, oF, oT, hc, hk⟩ := hmain es2 (h2_fileAfter st1 e1)
  obtain ⟨k1, es', k2, _, k4, _⟩ := hk [a1, a2] (by decide +kernel) (by
    intro e he
    simp only [List.mem_cons, List.not_mem_nil, or_false] at he
    rcases he with rfl | rfl
    · exact ⟨tA, 1, rfl, by decide, by decide⟩
    · exact ⟨tA, 2, rfl, by decide, by decide⟩)
  exact ⟨st1, e1, fs2, oF, oT, hc, k1 a1 (by simp), k1 a2 (by simp), es', k2, k4 a1 (by simp), k4 a2 (by simp)⟩

example :
    ((goRun IOFail.never {} xc (freshSt envClean fs₀) h2).bind fun st1 =>
      Generated.FuncsIO.Clean IOFail.never st1 xParse cRe [] (2, Err.nil) () []).map (fun s => s.fs) =
      some [(xp, render [a1, a2])] := by decide +kernel

/-! ### a run that UPDATES and CREATES (`UPDATE_SNAPS=true`), over a file with a stale and a changed entry -/
def es₃ : List Entry := [⟨testID tZ 1, [113]⟩, ⟨testID tA 1, [111]⟩]
def fs₃ : FS := [(xp, render es₃)]
def h3 : List Step := [.call tA [110] .raw 1, .call tB [122] .escaped 2, .done 1, .done 2]
def envUpdate : Env := ⟨false, "true"⟩

structure H3Hyps : Prop where
  good : Good es₃
  noShadow : NoShadowAll es₃ (calledNames h3) (texts h3)
  rec₀ : ∀ e ∈ es₃, Recognised e
  names : ∀ t ∈ calledNames h3, (32 : Byte) ∉ t
  file : fsRead fs₃ xp ≠ none

theorem h3_hyps : H3Hyps :=
  ⟨by decide +kernel,
    noShadowAll_of_noBracket es₃ _ _ (by decide +kernel) (by decide +kernel) (by decide +kernel) (by decide +kernel)
      (by decide +kernel),
    by decide +kernel, by decide +kernel, by decide +kernel⟩

example := go_matched_survive_clean_any_mode envUpdate fs₃ {} xc xp C01World.exRel es₃ h3 xParse cRe 1 Err.nil []
  C01World.exPath_spec (Or.inl rfl) h3_hyps.good h3_hyps.noShadow h3_hyps.rec₀ h3_hyps.names (Or.inl h3_hyps.file)
  (by decide) (fun _ => rfl) (fun _ => exJoin)

example :
    (goRun IOFail.never {} xc (freshSt envUpdate fs₃) h3).map (fun s => (s.fs, s.tev)) =
      some ([(xp, render [⟨testID tZ 1, [113]⟩, ⟨testID tA 1, [110]⟩, ⟨testID tB 1, [122]⟩])],
        [.log Generated.go_updatedMsg, .log Generated.go_addedMsg]) ∧
    ((goRun IOFail.never {} xc (freshSt envUpdate fs₃) h3).bind fun st1 =>
      Generated.FuncsIO.Clean IOFail.never st1 xParse cRe [] (1, Err.nil) () []).map (fun s => s.fs) =
      some [(xp, render [⟨testID tA 1, [110]⟩, ⟨testID tB 1, [122]⟩])] := by
  decide +kernel

theorem report_fileAfter : ∃ rcd, goRun IOFail.never {} xc (freshSt envReport fs₀) hist = some rcd ∧
    FileAfter rcd.fs xp (es₀ ++ entriesOf hist) hist true := by
  obtain ⟨rcd, e, hfa, _⟩ := go_record_fileAfter envReport {} xc xp C01World.exRel fs₀ es₀ hist true
    C01World.exPath_spec hyps.inScope hyps.file hyps.good hyps.fresh hyps.names hyps.bodies
    hyps.noShadow (by decide) hyps.rec₀ (by decide +kernel) (fun _ => exTotal)
  exact ⟨rcd, e, hfa⟩

/-- **C09 applies** (report mode, `Sort`): hypotheses by evaluation; the file ends up holding a permutation of
    ALL its entries, the stale one included, and no path appears or disappears -/
example : ∃ st1, goRun IOFail.never {} xc (freshSt envReport fs₀) hist = some st1 ∧
    ∃ fs2, (Generated.FuncsIO.Clean IOFail.never st1 xParse cRe [] (((1 : Nat) : Int), Err.nil) () [true]).map (·.fs) = some fs2 ∧
      (∀ q, (fsRead fs2 q).isSome = (fsRead st1.fs q).isSome) ∧
      ∃ es', es'.Perm (es₀ ++ entriesOf hist) ∧ fsRead fs2 xp = some (render es') := by
  obtain ⟨rcd, e, hfa⟩ := report_fileAfter
  obtain ⟨st1, e1, hmain⟩ := go_no_update_no_loss envReport fs₀ {} xc xp C01World.exRel hist xParse cRe 1 Err.nil
    [true] C01World.exPath_spec (HistOK_of_bodies hist hyps.bodies) (by decide) (fun _ => rfl) (by decide)
  rw [e] at e1; cases e1
  obtain ⟨fs2, _, _, hc, k1, _, _, k4⟩ := hmain _ hfa
  obtain ⟨es', p1, _, p3⟩ := k4 (hfa.holds.some_of_ne_nil (by decide))
  exact ⟨rcd, e, fs2, by rw [hc]; rfl, k1, es', p1, p3⟩


example :
    ((goRun IOFail.never {} xc (freshSt envReport fs₀) hist).bind fun st1 =>
      Generated.FuncsIO.Clean IOFail.never st1 xParse cRe [] (1, Err.nil) () [true]).map (fun s => s.fs) =
      some [(xp, render [⟨testID tA 1, [120]⟩, ⟨testID tA 2, [120, 10, 10, 121]⟩,
        ⟨testID tB 1, [122]⟩, ⟨testID tB 2, [122, 122]⟩, ⟨testID tZ 1, [113]⟩])] := by decide +kernel

example :
    ((goRun IOFail.never {} xc (freshSt envReport fs₀) hist).bind fun st1 =>
      (Generated.FuncsIO.Clean IOFail.never st1 xParse cRe [] (1, Err.nil) () [true]).bind fun st2 =>
      (Generated.FuncsIO.Clean IOFail.never st2 xParse cRe [] (1, Err.nil) () [true]).map fun st3 =>
        (decide (st2.fs ≠ st1.fs), decide (st3.fs = st2.fs))) = some (true, true) := by decide +kernel


def ioW : IOFail := fun op _ => if op = .write then some [33] else none

/-- `go_no_update_no_removal` applies to whatever this run and this `Clean` return … -/
example (st1 st2 : St) (e1 : goRun ioW {} xc (freshSt envReport fs₀) hist = some st1)
    (e2 : Generated.FuncsIO.Clean ioW st1 xParse cRe [] (1, Err.nil) () [true] = some st2) :=
  go_no_update_no_removal ioW ioW envReport fs₀ {} xc xp hist (fun t => by rw [C01World.exPath_spec t]) st1 st2
    xParse cRe [] (1, Err.nil) [true] e1 (by decide) e2

/-- … and they do return (nothing panics): the hypotheses are satisfiable -/
example : ((goRun ioW {} xc (freshSt envReport fs₀) hist).bind fun st1 =>
    Generated.FuncsIO.Clean ioW st1 xParse cRe [] (1, Err.nil) () [true]).isSome = true := by decide +kernel

end E2E

end GoSnaps.Tie
