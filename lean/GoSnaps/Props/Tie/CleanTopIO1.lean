/-
Tie by proof: the small functions around `Clean` (snaps/clean.go, snaps/skip.go; `Generated/FuncsIO.lean`)
against the model `GoSnaps/Clean.lean`: `printEvent`, `summary` (with `EventsWF`, the invariant of
`testEvents.items` under which `len(testEvents.items) ≠ 0` is the model's `anyEvent`), `isFileSkipped`
(closed form; consistent and sound oracle tables), `trackSkip` and the `Skip*` wrappers, and GoIO's
`dirEntries` against the model's `readDir`.  Each main theorem is followed by `example`s on concrete inputs.

Byte legend: 46 '.', 47 '/', 103 'g', 111 'o'.
-/
import GoSnaps.GoIO
import GoSnaps.Clean
import GoSnaps.Lemmas.Clean
import GoSnaps.Lemmas.CleanTop
import GoSnaps.Generated.FuncsIO
import GoSnaps.Props.Tie.CleanIO
import GoSnaps.Props.C20Summary
namespace GoSnaps.Tie
open GoSnaps GoSnaps.GoIO
open GoSnaps.Generated.FuncsIO
open GoSnaps.C20Summary (lit_sp lit_s lit_snapshot lit_snapshot_sp lit_two lit_removed lit_obsolete
  lit_title lit_passed lit_failed lit_added lit_updated lit_skipped lit_file lit_test lit_toRemove lit_them lit_it
  lit_rerun)

/-- a `for x := range l { … }` loop without `break`/`continue`/`return` that cannot panic -/
theorem forIn_id_fold {α β : Type} (l : List α) (init : β) (F : α → β → Id (ForInStep β)) (f : β → α → β)
    (h : ∀ a s, F a s = ForInStep.yield (f s a)) : forIn l init F = (l.foldl f init : Id β) := by
  induction l generalizing init with
  | nil => rfl
  | cons a l ih => rw [List.forIn_cons, h]; exact ih _

theorem foldl_append_lines (f : Text → Text) (l : List Text) (s : Text) :
    l.foldl (fun acc x => acc ++ f x) s = s ++ (l.map f).flatten := by
  induction l generalizing s with
  | nil => simp
  | cons a l ih => simp [ih]

/-- `for _, x := range l { if q x { return false } }`: the loop state is the pending return value -/
theorem forIn_find_false {α : Type} (q : α → Bool) (l : List α)
    (F : α → Option Bool × Unit → Id (ForInStep (Option Bool × Unit)))
    (hyes : ∀ a s, q a = true → F a s = ForInStep.done (some false, ()))
    (hno : ∀ a s, q a = false → F a s = ForInStep.yield (none, ())) :
    forIn l ((none, ()) : Option Bool × Unit) F = ((if l.any q then some false else none, ()) : Id _) := by
  induction l with
  | nil => rfl
  | cons a l ih =>
    rw [List.forIn_cons]
    cases hq : q a with
    | true => rw [hyes a _ hq]; simp [hq]; rfl
    | false => rw [hno a _ hq]; simp only [List.any_cons, hq, Bool.false_or]; exact ih

theorem len_natCast {α : Type} (l : List α) : GoSem.len l = (l.length : Int) := rfl

theorem len_gt_zero_iff {α : Type} (l : List α) : GoSem.len l > 0 ↔ l ≠ [] := by
  cases l <;> simp [GoSem.len] <;> omega

theorem len_beq_zero {α : Type} (l : List α) : (GoSem.len l == 0) = decide (l = []) := by
  cases l <;> simp [GoSem.len] <;> omega

theorem natCast_beq_zero (n : Nat) : ((n : Int) == 0) = decide (n = 0) := by
  by_cases h : n = 0 <;> simp [h]

theorem len_add_gt {α β : Type} (a : List α) (b : List β) (k : Int) (n : Nat) (hk : k = n) :
    decide (GoSem.len a + GoSem.len b > k) = decide (a.length + b.length > n) := by
  unfold GoSem.len
  subst hk
  by_cases h : a.length + b.length > n
  · have : (a.length : Int) + (b.length : Int) > n := by omega
    simp only [h, this]
  · have : ¬ (a.length : Int) + (b.length : Int) > n := by omega
    simp only [h, this]

/-! ## `printEvent` -/

/-- `printEvent(w, color, symbol, verb, n)` writes the model's counter line to `w` (nothing
    for `n = 0`); `color` is not looked at (NO_COLOR rendering) -/
theorem printEvent_tied (w color symbol verb : Text) (n : Nat) :
    Generated.FuncsIO.printEvent w color symbol verb (n : Int) = w ++ GoSnaps.printEvent symbol verb n := by
  unfold Generated.FuncsIO.printEvent GoSnaps.printEvent plural
  simp only [Id.run, pure, GoSem.itoa_natCast, lit_sp, lit_s, lit_snapshot, nl, natCast_beq_zero, List.append_assoc]
  by_cases h0 : n = 0
  · simp only [h0, decide_true, ↓reduceIte, List.append_nil]
  · have h1' : decide ((n : Int) > 1) = decide (n > 1) := by
      by_cases h : n > 1 <;> simp [h] <;> omega
    simp only [h0, decide_false, Bool.false_eq_true, ↓reduceIte, h1']
    by_cases h1 : n > 1 <;> simp only [h1, decide_true, decide_false, Bool.false_eq_true, ↓reduceIte, List.append_assoc]

/-- a negative counter (impossible for a `len` or a map of `++` counters) prints a singular line
    with a minus sign — the transliteration covers it, the model's `Nat` does not need to -/
example : Generated.FuncsIO.printEvent [] [] Generated.go_successSymbol [112] (-2) =
    [226, 156, 147, 32, 45, 50, 32, 115, 110, 97, 112, 115, 104, 111, 116, 32, 112, 10] := by decide +kernel
example : Generated.FuncsIO.printEvent [120] [1] Generated.go_successSymbol [112] ((2 : Nat) : Int) =
    [120] ++ GoSnaps.printEvent Generated.go_successSymbol [112] 2 := printEvent_tied _ _ _ _ _
example : Generated.FuncsIO.printEvent [120] [1] Generated.go_successSymbol [112] 2 =
    [120, 226, 156, 147, 32, 50, 32, 115, 110, 97, 112, 115, 104, 111, 116, 115, 32, 112, 10] := by decide +kernel
example : Generated.FuncsIO.printEvent [120] [] Generated.go_successSymbol [112] 0 = [120] := by decide +kernel

/-! ## `summary` -/

/-- the keys of `testEvents.items` in the transliteration: the identifiers of the Go constants -/
def evPassed : Text := [112, 97, 115, 115, 101, 100]
def evErred : Text := [101, 114, 114, 101, 100]
def evAdded : Text := [97, 100, 100, 101, 100]
def evUpdated : Text := [117, 112, 100, 97, 116, 101, 100]

theorem evPassed_eq : evPassed = ofString "passed" := lit_passed.symm
theorem evAdded_eq : evAdded = ofString "added" := lit_added.symm
theorem evUpdated_eq : evUpdated = ofString "updated" := lit_updated.symm
theorem evErred_eq : evErred = ofString "erred" := by decide +kernel

/-- the events map `testEvents.items` read at the four kinds gives the model's
    `Events`, and `anyEvent` is `len(testEvents.items) ≠ 0`.  The Go text is read from its end: each
    `if … { s += … }` is a join point of the transliteration that appends one optional part of
    `C20Summary.summary_structure` (hint, tests block, files block), whatever follows it. -/
theorem summary_tied (obsFiles obsTests : List Text) (k : Nat) (events : Map1) (ev : Events) (anyEvent update : Bool)
    (hp : map1Get events evPassed = (ev.passed : Int)) (he : map1Get events evErred = (ev.erred : Int))
    (ha : map1Get events evAdded = (ev.added : Int)) (hu : map1Get events evUpdated = (ev.updated : Int))
    (hany : anyEvent = !events.isEmpty) :
    Generated.FuncsIO.summary obsFiles obsTests (k : Int) events update =
      GoSnaps.summary obsFiles obsTests k ev anyEvent update := by
  unfold evPassed at hp; unfold evErred at he; unfold evAdded at ha; unfold evUpdated at hu
  unfold Generated.FuncsIO.summary
  -- the `let`s of the generated text, in its order: the empty `s`, the words "obsolete" / "removed",
  -- the closure `objectSummaryList`
  extract_lets +onlyGivenNames e aObs aRem osl
  -- the closure: `if len(objects) > 0 { s = objectSummaryList(s, objects, name) }` appends the block
  have hosl : ∀ {β : Type} (f : Text → β) s objects name,
      (if decide (GoSem.len objects > 0) then f (osl s objects name) else f s) =
        f (s ++ C20Summary.block objects name update) := by
    intro β f s objects name
    unfold C20Summary.block
    by_cases h : objects = []
    · subst h; simp [GoSem.len]
    · rw [if_pos (by simpa using (len_gt_zero_iff objects).mpr h), if_neg h]
      congr 1
      simp only [osl, aObs, aRem, Id.run, pure, bind]
      simp only [forIn_id_fold _ _ _ (fun acc ob => acc ++ (([32, 32] : Text) ++ Generated.go_enterSymbol ++ [32] ++
          Generated.go_bulletSymbol ++ ob ++ [10])) (fun _ _ => rfl),
        foldl_append_lines (fun ob => ([32, 32] : Text) ++ Generated.go_enterSymbol ++ [32] ++ Generated.go_bulletSymbol ++ ob ++ [10])]
      unfold C20Summary.blockHeader C20Summary.actionWord C20Summary.itemLine
      simp only [len_natCast, GoSem.itoa_natCast, lit_sp, lit_s, lit_snapshot_sp, lit_two, lit_removed, lit_obsolete, nl,
        List.append_assoc]
      by_cases h : objects.length > 1
      · have hI : ((objects.length : Nat) : Int) > 1 := by omega
        cases update <;> simp only [h, hI, ↓reduceIte, decide_true, Bool.false_eq_true]
      · have hI : ¬ ((objects.length : Nat) : Int) > 1 := by omega
        cases update <;> simp only [h, hI, ↓reduceIte, decide_false, Bool.false_eq_true, List.nil_append]
  clear_value osl
  -- then `s` after the title (`s0`) and after each of the five `printEvent`s (`r1 … s5`), the end of the
  -- function (`jpEnd`), "it" / "them" with the chunks of the long literal of the hint between them (the
  -- seven `_`), and the rest of the function from the hint `if` on (`jpHint`) and from the tests `if` on
  -- (`jpTests`)
  extract_lets +onlyGivenNames s0 r1 s1 r2 s2 r3 s3 r4 s4 r5 s5 jpEnd it _ _ _ _ _ _ _ them jpHint jpTests
  have hHint : ∀ s, jpHint () s = s ++ C20Summary.hint (obsFiles.length + obsTests.length) update := by
    intro s
    have hc : ((!update && decide (obsFiles.length + obsTests.length > 0)) = true) =
        (update = false ∧ obsFiles.length + obsTests.length > 0) := by simp
    simp only [jpHint, jpEnd, pure, C20Summary.hint, it, them, len_add_gt _ _ 0 0 rfl, len_add_gt _ _ 1 1 rfl, hc,
      decide_eq_true_eq, lit_toRemove, lit_them, lit_it, lit_rerun, nl]
    by_cases h0 : update = false ∧ obsFiles.length + obsTests.length > 0
    · rw [if_pos h0, if_pos h0]
      by_cases h1 : obsFiles.length + obsTests.length > 1
      · rw [if_pos h1, if_pos h1]; rfl
      · rw [if_neg h1, if_neg h1]; rfl
    · rw [if_neg h0, if_neg h0, List.append_nil]
  have hTests : ∀ s, jpTests () s = s ++ C20Summary.block obsTests (ofString "test") update ++
      C20Summary.hint (obsFiles.length + obsTests.length) update := by
    intro s
    rw [lit_test, ← hHint]
    exact hosl (jpHint ()) s obsTests _
  rw [show (ite _ _ _ : Id Text) = _ from hosl (jpTests ()) s5 obsFiles _]
  simp only [hTests, pure]
  simp only [s5, r5, s4, r4, s3, r3, s2, r2, s1, r1, s0, printEvent_tied, hp, he, ha, hu]
  by_cases hn : obsFiles = [] ∧ obsTests = [] ∧ anyEvent = false ∧ k = 0
  · rw [(C20Summary.summary_empty_iff ..).mpr hn]
    obtain ⟨rfl, rfl, h3, rfl⟩ := hn
    have : events = [] := by simpa [hany] using h3
    subst this
    rfl
  · rw [C20Summary.summary_structure _ _ _ _ _ _ hn, if_neg]
    · simp only [C20Summary.header, lit_title, lit_passed, lit_failed, lit_added, lit_updated, lit_skipped, lit_file, lit_test, nl, List.nil_append, e, Id.run]
    · intro h
      simp only [len_beq_zero, natCast_beq_zero, Bool.and_eq_true, decide_eq_true_eq] at h
      exact hn ⟨h.1.1.1, h.1.1.2, by rw [hany, h.1.2]; rfl, h.2⟩

/-- the invariant of `testEvents.items`: its keys are among the four kinds and every stored count is
    positive (a key appears when `register` is first called for it, with count 1) -/
def EventsWF (events : Map1) : Prop :=
  ∀ p ∈ events, (p.1 = evPassed ∨ p.1 = evErred ∨ p.1 = evAdded ∨ p.1 = evUpdated) ∧ 0 < p.2

theorem EventsWF_nil : EventsWF [] := fun _ h => by cases h

theorem map1Set_mem (m : Map1) (k : Text) (v : Int) (p : Text × Int) (h : p ∈ map1Set m k v) :
    p = (k, v) ∨ p ∈ m := by
  induction m with
  | nil => simp only [map1Set, List.mem_singleton] at h; exact Or.inl h
  | cons x m ih =>
    obtain ⟨a, b⟩ := x
    by_cases hk : a = k
    · simp only [map1Set, hk, ↓reduceIte, List.mem_cons] at h
      rcases h with h | h
      · exact Or.inl h
      · exact Or.inr (by simp [h])
    · simp only [map1Set, hk, ↓reduceIte, List.mem_cons] at h
      rcases h with h | h
      · exact Or.inr (by simp [h])
      · rcases ih h with h' | h'
        · exact Or.inl h'
        · exact Or.inr (by simp [h'])

theorem map1Get_zero_or_mem (m : Map1) (k : Text) : map1Get m k = 0 ∨ (k, map1Get m k) ∈ m := by
  induction m with
  | nil => exact Or.inl rfl
  | cons x m ih =>
    obtain ⟨a, b⟩ := x
    by_cases hk : a = k
    · subst hk; simp [map1Get]
    · simp only [map1Get, hk, ↓reduceIte, List.mem_cons]
      rcases ih with h | h
      · exact Or.inl h
      · exact Or.inr (Or.inr h)

theorem EventsWF.get_nonneg {events : Map1} (h : EventsWF events) (k : Text) : 0 ≤ map1Get events k := by
  rcases map1Get_zero_or_mem events k with h0 | hm
  · omega
  · have := (h _ hm).2
    simp only at this
    omega

theorem EventsWF.register {st : St} (h : EventsWF st.events) (kind : Text)
    (hk : kind = evPassed ∨ kind = evErred ∨ kind = evAdded ∨ kind = evUpdated) :
    EventsWF (st.register kind).events := by
  intro p hp
  rcases map1Set_mem _ _ _ _ hp with rfl | hm
  · exact ⟨hk, by have := h.get_nonneg kind; simp only; omega⟩
  · exact h p hm

/-- under the invariant, `len(testEvents.items) ≠ 0` is what the model computes from its counters -/
theorem EventsWF.anyEvent {events : Map1} (h : EventsWF events) (ev : Events)
    (hp : map1Get events evPassed = (ev.passed : Int)) (he : map1Get events evErred = (ev.erred : Int))
    (ha : map1Get events evAdded = (ev.added : Int)) (hu : map1Get events evUpdated = (ev.updated : Int)) :
    decide (ev.erred + ev.added + ev.updated + ev.passed > 0) = !events.isEmpty := by
  cases events with
  | nil =>
    simp only [map1Get] at hp he ha hu
    have : ¬ (ev.erred + ev.added + ev.updated + ev.passed > 0) := by omega
    simp [this]
  | cons x m =>
    obtain ⟨a, b⟩ := x
    have hx := h (a, b) (by simp)
    simp only at hx
    have hb : map1Get ((a, b) :: m) a = b := by simp [map1Get]
    have : ev.erred + ev.added + ev.updated + ev.passed > 0 := by
      rcases hx.1 with e | e | e | e <;> subst e <;> omega
    simp [this]

theorem summary_tied_wf (obsFiles obsTests : List Text) (k : Nat) (events : Map1) (ev : Events) (update : Bool)
    (hwf : EventsWF events)
    (hp : map1Get events evPassed = (ev.passed : Int)) (he : map1Get events evErred = (ev.erred : Int))
    (ha : map1Get events evAdded = (ev.added : Int)) (hu : map1Get events evUpdated = (ev.updated : Int)) :
    Generated.FuncsIO.summary obsFiles obsTests (k : Int) events update =
      GoSnaps.summary obsFiles obsTests k ev (decide (ev.erred + ev.added + ev.updated + ev.passed > 0)) update :=
  summary_tied obsFiles obsTests k events ev _ update hp he ha hu (hwf.anyEvent ev hp he ha hu)

/-- nothing to report: the empty string (and `Clean` prints nothing) -/
example : Generated.FuncsIO.summary [] [] 0 [] false = [] := by decide +kernel
/-- one passed snapshot, one obsolete file, report mode -/
example : Generated.FuncsIO.summary [[47, 97]] [] 0 [(evPassed, 1)] false =
    GoSnaps.summary [[47, 97]] [] 0 { passed := 1 } true false :=
  summary_tied_wf [[47, 97]] [] 0 [(evPassed, 1)] { passed := 1 } false
    (fun p hp => by simp only [List.mem_singleton] at hp; subst hp; exact ⟨Or.inl rfl, by decide⟩)
    (by decide) (by decide) (by decide) (by decide)
/-- a key with count 0 (never produced by `register`) makes Go print the header although the model's
    `anyEvent` is false: the invariant `EventsWF` is needed -/
example : Generated.FuncsIO.summary [] [] 0 [(evPassed, 0)] false ≠ [] ∧
    GoSnaps.summary [] [] 0 {} false false = [] := by
  constructor <;> decide +kernel

/-! ## `isFileSkipped` -/

/-- the test file `isFileSkipped` parses for the snapshot file `dir/filename` -/
def skipPath (dir filename : Text) : Text :=
  fpJoin [dir, [46, 46], trimSuffix filename Generated.go_snapsExt ++ [46, 103, 111]]

/-- `funcDecl.Name.String()` of the `*ast.FuncDecl`s among `file.Decls`, in order -/
def funcNames (decls : List GoDecl) : List Text := (decls.filter (·.isFunc)).map (·.name)

theorem funcNames_any (decls : List GoDecl) (q : Text → Bool) :
    (funcNames decls).any q = decls.any (fun d => d.isFunc && q d.name) := by
  induction decls with
  | nil => rfl
  | cons d ds ih =>
    unfold funcNames at ih ⊢
    cases hd : d.isFunc <;> simp [hd, ih]

/-- `isFileSkipped` answers "skipped" exactly when a `-run` pattern is given, the
    test file parses, and no function declared in it matches the pattern -/
theorem isFileSkipped_eq (parseFile : Text → List GoDecl × Err) (re : Text → Text → Bool × Bool)
    (dir filename runOnly : Text) :
    Generated.FuncsIO.isFileSkipped parseFile re dir filename runOnly =
      if runOnly = [] then false
      else if (parseFile (skipPath dir filename)).2.notNil then false
      else !((funcNames (parseFile (skipPath dir filename)).1).any (fun n => (re runOnly n).1)) := by
  unfold Generated.FuncsIO.isFileSkipped skipPath
  simp only [Id.run, pure, bind]
  by_cases h0 : runOnly = []
  · simp [h0]
  · have h0' : (runOnly == []) = false := by simpa using h0
    rw [h0', if_neg h0]
    simp only [Bool.false_eq_true, ↓reduceIte]
    split
    · rfl
    · rw [forIn_find_false (fun d => d.isFunc && (re runOnly d.name).1) _ _ ?hyes ?hno, funcNames_any]
      · cases List.any _ _ <;> rfl
      case hyes =>
        intro a s hq
        simp only [Bool.and_eq_true] at hq
        simp [hq.1, hq.2]
      case hno =>
        intro a s hq
        cases hf : a.isFunc with
        | false => simp
        | true =>
          have : (re runOnly a.name).1 = false := by simpa [hf] using hq
          simp [this]

/-- what the oracle tables must say about the one test file `p` that `isFileSkipped` parses: its
    `gofuncs` entry is the parse result (error, or the declared function names in order), and the
    regexp table answers for each of those names like the function standing for
    `regexp.MatchString` (the model queries all of them, Go stops at the first match) -/
structure SkipConsistent (o : Oracles) (parseFile : Text → List GoDecl × Err) (re : Text → Text → Bool × Bool)
    (runOnly p : Text) : Prop where
  table : ∃ key, o.gofuncs.find? (·.1 = p) =
    some (key, if (parseFile p).2.notNil then none else some (funcNames (parseFile p).1))
  names : (parseFile p).2.notNil = false → ∀ n ∈ funcNames (parseFile p).1, o.reMatch runOnly n = some (re runOnly n).1

theorem skipPath_model (dir filename : Text) :
    fpJoin [dir, [dot, dot], trimSuffix filename Generated.snapsExt ++ ofString ".go"] = skipPath dir filename := by
  have e1 : Generated.snapsExt = Generated.go_snapsExt := by decide +kernel
  have e2 : ofString ".go" = [46, 103, 111] := by decide +kernel
  rw [e1, e2]; rfl

/-- with consistent tables for the path the function computes, the model answers like Go
    (never `none`); without a `-run` pattern no table is consulted -/
theorem isFileSkipped_tied (o : Oracles) (parseFile : Text → List GoDecl × Err) (re : Text → Text → Bool × Bool)
    (dir filename runOnly : Text)
    (h : runOnly ≠ [] → SkipConsistent o parseFile re runOnly (skipPath dir filename)) :
    GoSnaps.isFileSkipped o dir filename runOnly =
      some (Generated.FuncsIO.isFileSkipped parseFile re dir filename runOnly) := by
  rw [isFileSkipped_eq]
  unfold GoSnaps.isFileSkipped
  by_cases h0 : runOnly = []
  · simp [h0]
  · obtain ⟨⟨key, htab⟩, hnames⟩ := h h0
    simp only [h0, ↓reduceIte, skipPath_model, htab]
    cases herr : (parseFile (skipPath dir filename)).2.notNil with
    | true => simp
    | false =>
      simp only [Bool.false_eq_true, ↓reduceIte]
      rw [List.map_congr_left (hnames herr)]
      simp [List.any_map, Function.comp_def]

/-- sound `gofuncs` table: every entry is what the parser returns for that path -/
def ParseSound (o : Oracles) (parseFile : Text → List GoDecl × Err) : Prop :=
  ∀ p key entry, o.gofuncs.find? (·.1 = p) = some (key, entry) →
    entry = if (parseFile p).2.notNil then none else some (funcNames (parseFile p).1)

/-- with sound tables (the form `examineFiles` needs), whenever the model has
    an answer it is Go's -/
theorem isFileSkipped_sound (o : Oracles) (parseFile : Text → List GoDecl × Err) (re : Text → Text → Bool × Bool)
    (dir filename runOnly : Text) (hp : ParseSound o parseFile) (hs : OracleSound o re runOnly) (b : Bool)
    (h : GoSnaps.isFileSkipped o dir filename runOnly = some b) :
    Generated.FuncsIO.isFileSkipped parseFile re dir filename runOnly = b := by
  by_cases h0 : runOnly = []
  · rw [isFileSkipped_eq]
    unfold GoSnaps.isFileSkipped at h
    simp only [h0, ↓reduceIte, Option.some.injEq] at h ⊢
    exact h
  · have hcons : SkipConsistent o parseFile re runOnly (skipPath dir filename) := by
      unfold GoSnaps.isFileSkipped at h
      simp only [h0, ↓reduceIte, skipPath_model] at h
      cases hf : o.gofuncs.find? (·.1 = skipPath dir filename) with
      | none => rw [hf] at h; cases h
      | some kv =>
        obtain ⟨key, entry⟩ := kv
        have he := hp _ _ _ hf
        refine ⟨⟨key, by rw [← he]; exact hf⟩, ?_⟩
        intro herr n hn
        rw [hf] at h
        rw [he, herr] at h
        simp only [Bool.false_eq_true, ↓reduceIte] at h
        split at h
        · cases h
        · rename_i hany
          cases hm : o.reMatch runOnly n with
          | none =>
            exfalso; apply hany
            rw [List.any_eq_true]
            exact ⟨none, List.mem_map.mpr ⟨n, hn, hm⟩, rfl⟩
          | some m => rw [hs n m hm]
    have := isFileSkipped_tied o parseFile re dir filename runOnly (fun _ => hcons)
    rw [h] at this
    exact (Option.some.inj this).symm

/-- `a.snap` in `/p/s`: the test file is `/p/a.go` -/
example : skipPath [47, 112, 47, 115] [97, 46, 115, 110, 97, 112] = [47, 112, 47, 97, 46, 103, 111] := by decide +kernel
/-- the test file declares `TestA` (a function) and a `var` declaration -/
def exParse : Text → List GoDecl × Err := fun p =>
  if p = [47, 112, 47, 97, 46, 103, 111] then ([⟨false, []⟩, ⟨true, [84, 101, 115, 116, 65]⟩], Err.nil)
  else ([], Err.other [33])
def exRe : Text → Text → Bool × Bool := fun pat s => (pat == s, false)
def exOr : Oracles :=
  { re := [(([84, 101, 115, 116, 66], [84, 101, 115, 116, 65]), false)],
    gofuncs := [([47, 112, 47, 97, 46, 103, 111], some [[84, 101, 115, 116, 65]])] }
/-- `-run TestB` does not match `TestA`: the snapshot file is skipped (not obsolete); with `-run TestA` it is
    not skipped -/
example : Generated.FuncsIO.isFileSkipped exParse exRe [47, 112, 47, 115] [97, 46, 115, 110, 97, 112] [84, 101, 115, 116, 66] = true ∧
    Generated.FuncsIO.isFileSkipped exParse exRe [47, 112, 47, 115] [97, 46, 115, 110, 97, 112] [84, 101, 115, 116, 65] = false ∧
    Generated.FuncsIO.isFileSkipped exParse exRe [47, 112, 47, 115] [98, 46, 115, 110, 97, 112] [84, 101, 115, 116, 65] = false := by
  decide +kernel
example : GoSnaps.isFileSkipped exOr [47, 112, 47, 115] [97, 46, 115, 110, 97, 112] [84, 101, 115, 116, 66] =
    some (Generated.FuncsIO.isFileSkipped exParse exRe [47, 112, 47, 115] [97, 46, 115, 110, 97, 112] [84, 101, 115, 116, 66]) :=
  isFileSkipped_tied exOr exParse exRe _ _ _ (fun _ => ⟨⟨[47, 112, 47, 97, 46, 103, 111], by decide⟩, fun _ n hn => by
    have : n = [84, 101, 115, 116, 65] := by
      have : funcNames (exParse (skipPath [47, 112, 47, 115] [97, 46, 115, 110, 97, 112])).1 = [[84, 101, 115, 116, 65]] := by decide +kernel
      rw [this] at hn; simpa using hn
    subst this; decide⟩)

/-! ## `trackSkip` -/

/-- `trackSkip(t)` logs `skippedMsg` to `t` and appends `t.Name()` to `skippedTests.values`;
    nothing else changes (the model's `trackSkip` appends the name; the log line is the `.log` event
    of `skipEvents`, Lemmas/EndToEndSkip.lean) -/
theorem trackSkip_tied (io : IOFail) (st : St) (t : T) :
    Generated.FuncsIO.trackSkip io st t =
      { st with skipped := st.skipped ++ [t.name], tev := st.tev ++ [TEvent.log Generated.go_skippedMsg] } := rfl

theorem trackSkip_fields (io : IOFail) (st : St) (t : T) :
    (Generated.FuncsIO.trackSkip io st t).skipped = st.skipped ++ [t.name] ∧
    (Generated.FuncsIO.trackSkip io st t).tev = st.tev ++ [TEvent.log Generated.go_skippedMsg] ∧
    (Generated.FuncsIO.trackSkip io st t).env = st.env ∧ (Generated.FuncsIO.trackSkip io st t).fs = st.fs ∧
    (Generated.FuncsIO.trackSkip io st t).reg = st.reg ∧ (Generated.FuncsIO.trackSkip io st t).sreg = st.sreg ∧
    (Generated.FuncsIO.trackSkip io st t).events = st.events ∧
    (Generated.FuncsIO.trackSkip io st t).cleanups = st.cleanups ∧
    (Generated.FuncsIO.trackSkip io st t).stdout = st.stdout :=
  ⟨rfl, rfl, rfl, rfl, rfl, rfl, rfl, rfl, rfl⟩

theorem trackSkip_model (io : IOFail) (st : St) (w : World) (t : T) (h : st.skipped = w.skipped) :
    (Generated.FuncsIO.trackSkip io st t).skipped = (GoSnaps.trackSkip w t.name).skipped := by
  rw [trackSkip_tied]; simp [GoSnaps.trackSkip, h]

example : (Generated.FuncsIO.trackSkip IOFail.never { env := ⟨false, ""⟩, skipped := [[65]] } ⟨[66], 0⟩).skipped = [[65], [66]] ∧
    (Generated.FuncsIO.trackSkip IOFail.never { env := ⟨false, ""⟩, skipped := [[65]] } ⟨[66], 0⟩).tev =
      [TEvent.log Generated.go_skippedMsg] := ⟨rfl, rfl⟩

/-! ## the exported wrappers `Skip`, `Skipf`, `SkipNow`

Each records the test first (`trackSkip`) and only then hands over to `testing`'s own method — the
order matters, because `t.Skip*` ends the goroutine (`runtime.Goexit`): a wrapper that skipped first
would never record the name and `Clean` would report the test's snapshots obsolete. -/

theorem Skip_tied (io : IOFail) (st : St) (t : T) (args : List Text) :
    Generated.FuncsIO.Skip io st t args =
      { st with skipped := st.skipped ++ [t.name],
                tev := st.tev ++ [TEvent.log Generated.go_skippedMsg, TEvent.skip []] } := by
  simp [Generated.FuncsIO.Skip, trackSkip_tied, St.tSkip, Id.run]; rfl

theorem Skipf_tied (io : IOFail) (st : St) (t : T) (format : Text) (args : List Text) :
    Generated.FuncsIO.Skipf io st t format args =
      { st with skipped := st.skipped ++ [t.name],
                tev := st.tev ++ [TEvent.log Generated.go_skippedMsg, TEvent.skipf []] } := by
  simp [Generated.FuncsIO.Skipf, trackSkip_tied, St.tSkipf, Id.run]; rfl

theorem SkipNow_tied (io : IOFail) (st : St) (t : T) :
    Generated.FuncsIO.SkipNow io st t =
      { st with skipped := st.skipped ++ [t.name],
                tev := st.tev ++ [TEvent.log Generated.go_skippedMsg, TEvent.skipNow] } := by
  simp [Generated.FuncsIO.SkipNow, trackSkip_tied, St.tSkipNow, Id.run]; rfl

/-- whichever wrapper is used, the name is on the skip list when `testing` takes over, and the skip
    list of the state follows the model's `trackSkip` -/
theorem skip_wrappers_model (io : IOFail) (st : St) (w : World) (t : T) (format : Text) (args : List Text)
    (h : st.skipped = w.skipped) :
    (Generated.FuncsIO.Skip io st t args).skipped = (GoSnaps.trackSkip w t.name).skipped ∧
    (Generated.FuncsIO.Skipf io st t format args).skipped = (GoSnaps.trackSkip w t.name).skipped ∧
    (Generated.FuncsIO.SkipNow io st t).skipped = (GoSnaps.trackSkip w t.name).skipped := by
  rw [Skip_tied, Skipf_tied, SkipNow_tied]; simp [GoSnaps.trackSkip, h]

theorem skip_wrappers_frame (io : IOFail) (st : St) (t : T) (format : Text) (args : List Text) :
    (Generated.FuncsIO.Skip io st t args).fs = st.fs ∧ (Generated.FuncsIO.Skipf io st t format args).fs = st.fs ∧
    (Generated.FuncsIO.SkipNow io st t).fs = st.fs ∧
    (Generated.FuncsIO.Skip io st t args).reg = st.reg ∧ (Generated.FuncsIO.Skipf io st t format args).reg = st.reg ∧
    (Generated.FuncsIO.SkipNow io st t).reg = st.reg ∧
    (Generated.FuncsIO.Skip io st t args).events = st.events ∧
    (Generated.FuncsIO.Skipf io st t format args).events = st.events ∧
    (Generated.FuncsIO.SkipNow io st t).events = st.events := by
  rw [Skip_tied, Skipf_tied, SkipNow_tied]; simp

example : (Generated.FuncsIO.Skip IOFail.never { env := ⟨false, ""⟩, skipped := [[65]] } ⟨[66], 0⟩ []).skipped = [[65], [66]] ∧
    (Generated.FuncsIO.SkipNow IOFail.never { env := ⟨false, ""⟩ } ⟨[66], 0⟩).tev =
      [TEvent.log Generated.go_skippedMsg, TEvent.skipNow] := ⟨rfl, rfl⟩

/-! ## `os.ReadDir`: GoIO's `dirEntries` is the model's `readDir` -/

def entPair (e : DirEntry) : Text × Bool := (e.name, e.isDir)

theorem dirEntries_ins_map (x : DirEntry) (l : List DirEntry) :
    (dirEntries.ins x l).map entPair = readDir.ins (entPair x) (l.map entPair) := by
  induction l with
  | nil => rfl
  | cons y ys ih =>
    simp only [dirEntries.ins, readDir.ins, List.map_cons, entPair]
    split
    · simp only [List.map_cons, entPair]; rw [ih]; rfl
    · rfl

theorem dirEntries_uniq_map (ents acc : List DirEntry) :
    (ents.foldl (fun acc e => if acc.any (·.name = e.name) then acc else acc ++ [e]) acc).map entPair =
      (ents.map entPair).foldl (fun acc e => if acc.any (·.1 = e.1) then acc else acc ++ [e]) (acc.map entPair) := by
  induction ents generalizing acc with
  | nil => rfl
  | cons e es ih =>
    rw [List.foldl_cons, List.map_cons, List.foldl_cons, ih]
    congr 1
    have : (acc.map entPair).any (fun x => decide (x.1 = (entPair e).1)) = acc.any (fun x => decide (x.name = e.name)) := by
      rw [List.any_map]; rfl
    rw [this]
    split <;> simp

theorem dirEntries_sort_map (l : List DirEntry) :
    (l.foldr (fun x acc => dirEntries.ins x acc) []).map entPair =
      (l.map entPair).foldr (fun x acc => readDir.ins x acc) [] := by
  induction l with
  | nil => rfl
  | cons x xs ih => rw [List.foldr_cons, List.map_cons, List.foldr_cons, dirEntries_ins_map, ih]

theorem dirEntries_eq (fs : FS) (dir : Text) :
    (dirEntries fs dir).map (fun e => (e.name, e.isDir)) = GoSnaps.readDir fs dir := by
  show (dirEntries fs dir).map entPair = GoSnaps.readDir fs dir
  unfold dirEntries GoSnaps.readDir
  simp only
  rw [dirEntries_sort_map, dirEntries_uniq_map, List.map_filterMap]
  have hs : slash = 47 := rfl
  simp only [List.map_nil, hs]
  generalize (if dir = [47] then dir else dir ++ [47]) = pre
  congr 2
  apply filterMap_congr_mem
  intro x _
  cases hpx : hasPrefix x.1 pre with
  | false => simp
  | true =>
    simp only [if_true]
    split <;> simp [entPair]

/-- `os.ReadDir` under any failure oracle returns the model's listing or nothing (an error: the
    loop over `dirContents` then has nothing to iterate, like the model on an empty listing) -/
theorem readDir_entries (io : IOFail) (fs : FS) (dir : Text) :
    ((GoIO.readDir io fs dir).1).map entPair = GoSnaps.readDir fs dir ∨ (GoIO.readDir io fs dir).1 = [] := by
  unfold GoIO.readDir
  cases io .readDir dir with
  | some m => exact Or.inr rfl
  | none =>
    simp only
    split
    · exact Or.inr rfl
    · exact Or.inl (dirEntries_eq fs dir)

theorem readDir_never (fs : FS) (dir : Text) :
    ((GoIO.readDir IOFail.never fs dir).1).map entPair = GoSnaps.readDir fs dir := by
  unfold GoIO.readDir
  simp only [IOFail.never]
  split
  · rename_i h
    rw [← dirEntries_eq, show (fun e : DirEntry => (e.name, e.isDir)) = entPair from rfl, h]
  · exact dirEntries_eq fs dir

example : GoIO.dirEntries [([47, 100, 47, 98], [1]), ([47, 100, 47, 97, 47, 120], [2]), ([47, 101], [])] [47, 100] =
    [⟨[97], true⟩, ⟨[98], false⟩] := by decide +kernel
example : GoSnaps.readDir [([47, 100, 47, 98], [1]), ([47, 100, 47, 97, 47, 120], [2]), ([47, 101], [])] [47, 100] =
    [([97], true), ([98], false)] := by decide +kernel

end GoSnaps.Tie
