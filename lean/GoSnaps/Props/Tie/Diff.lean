/-
Tie by proof (conventions: GoSnaps/Props/Tie.lean): `isSingleline`, `shouldPrintHighlights`, `splitNewlines`, `intPadding` (snaps/diff.go)
-/
import GoSnaps.Generated.Funcs
import GoSnaps.Lemmas.Clean
namespace GoSnaps.Tie
open GoSnaps

theorem indexOf_lt (s sep : Text) (i : Nat) (hsep : sep ≠ []) (h : indexOf s sep = some i) : i < s.length := by
  have h2 := (indexOf_go_spec sep s 0 i h).2
  by_cases hlt : i < s.length
  · exact hlt
  · have hd : s.drop (i - 0) = [] := by simp; omega
    rw [hd] at h2
    cases sep with
    | nil => exact absurd rfl hsep
    | cons c cs => simp at h2

/-- **Tie**: `strings.Index` returning `-1` against the model's `Option` -/
theorem isSingleline_tied (s : Text) : Generated.Funcs.isSingleline s = GoSnaps.isSingleline s := by
  unfold Generated.Funcs.isSingleline GoSnaps.isSingleline GoSem.indexInt
  have hnl : nl = 10 := rfl
  cases h : indexOf s [10] with
  | none => simp [Id.run, pure, hnl, h]
  | some i =>
    have := indexOf_lt s [10] i (by simp) h
    simp [Id.run, pure, hnl, h, GoSem.len]
    rw [Bool.eq_iff_iff]; simp; omega

/-- **Tie**: `colors.NOCOLOR` is the parameter `nocolor`; the model takes `colour = !nocolor` -/
theorem shouldPrintHighlights_tied (nocolor : Bool) (a b : Text) :
    Generated.Funcs.shouldPrintHighlights nocolor a b = GoSnaps.shouldPrintHighlights (!nocolor) a b := by
  unfold Generated.Funcs.shouldPrintHighlights GoSnaps.shouldPrintHighlights
  simp only [Id.run, pure, isSingleline_tied]
  rw [Bool.eq_iff_iff]; simp

/-- `strings.SplitAfter(s, "\n")` against `strings.Split(s, "\n")` (the model's `lines`) -/
theorem splitAfterNL_spec (s : Text) : ∃ init last, lines s = init ++ [last] ∧
    GoSem.splitAfterNL s = init.map (· ++ [nl]) ++ [last] := by
  induction s with
  | nil => exact ⟨[], [], by simp [lines, GoSem.splitAfterNL]⟩
  | cons c cs ih =>
    obtain ⟨init, last, h1, h2⟩ := ih
    by_cases hc : c = nl
    · exact ⟨[] :: init, last, by simp [lines, GoSem.splitAfterNL, hc, h1, h2]⟩
    · cases init with
      | nil => exact ⟨[], c :: last, by simp_all [lines, GoSem.splitAfterNL]⟩
      | cons l ls => exact ⟨(c :: l) :: ls, last, by simp_all [lines, GoSem.splitAfterNL]⟩

/-- **Tie**: `lines[len(lines)-1] += "\n"` never panics (`strings.SplitAfter` returns at least one
    piece) and the result is the model's `splitNewlines` -/
theorem splitNewlines_tied (s : Text) :
    Generated.Funcs.splitNewlines s = some (GoSnaps.splitNewlines s) := by
  obtain ⟨init, last, h1, h2⟩ := splitAfterNL_spec s
  unfold Generated.Funcs.splitNewlines GoSnaps.splitNewlines
  rw [h1, h2]
  have hl : GoSem.len (init.map (· ++ [nl]) ++ [last]) - 1 = ((init.map (· ++ [nl])).length : Int) := by
    simp [GoSem.len]
  simp only [hl, GoSem.index_append_length, GoSem.setIndex_append_length]
  simp
  rfl

theorem flatten_replicate_singleton (n : Nat) (c : Byte) : (List.replicate n [c]).flatten = List.replicate n c := by
  induction n with
  | zero => rfl
  | succ n ih => simp [List.replicate_succ, ih]

theorem stringsRepeat_space (n : Int) (h : 0 ≤ n) : GoSem.stringsRepeat [32] n = some (spaces n.toNat) := by
  unfold GoSem.stringsRepeat spaces
  rw [if_neg (by omega), flatten_replicate_singleton]

/-- **closed form**, arbitrary `int` arguments (also negative ones, rendered with a sign):
    `strings.Repeat` is reached with a positive count only, so `intPadding` never panics -/
theorem intPadding_closed (inserted deleted : Int) (i d : Nat)
    (hi : (GoSem.itoa inserted).length = i) (hd : (GoSem.itoa deleted).length = d) :
    Generated.Funcs.intPadding inserted deleted = some
      (if i = d then ([], []) else if i > d then ([], spaces (i - d)) else (spaces (d - i), [])) := by
  unfold Generated.Funcs.intPadding
  simp only [GoSem.len, hi, hd]
  by_cases h1 : i = d
  · simp [h1]
  · have hne : ¬ ((i : Int) = (d : Int)) := by omega
    by_cases h2 : i > d
    · have e : ((i : Int) - (d : Int)).toNat = i - d := by omega
      have hr := stringsRepeat_space ((i : Int) - (d : Int)) (by omega)
      rw [e] at hr
      simp [h1, h2, hne, hr]
    · have e : (-((i : Int) - (d : Int))).toNat = d - i := by omega
      have hr := stringsRepeat_space (-((i : Int) - (d : Int))) (by omega)
      rw [e] at hr
      have h3 : ¬ ((d : Int) < (i : Int)) := by omega
      simp [h1, h2, hne, hr, h3]

/-- **Tie**: for non-negative counts (the only ones `buildDiffReport` passes) the result is the
    model's; `strconv.Itoa` is `natToText` there (`GoSem.itoa_natCast`) -/
theorem intPadding_tied (inserted deleted : Nat) :
    Generated.Funcs.intPadding (inserted : Int) (deleted : Int) = some (GoSnaps.intPadding inserted deleted) := by
  rw [intPadding_closed _ _ _ _ rfl rfl, GoSem.itoa_natCast, GoSem.itoa_natCast]; rfl

theorem intPadding_no_panic (inserted deleted : Int) :
    (Generated.Funcs.intPadding inserted deleted).isSome = true := by
  rw [intPadding_closed _ _ _ _ rfl rfl]; rfl

end GoSnaps.Tie
