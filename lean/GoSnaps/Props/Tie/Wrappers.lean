/-
Tie by proof: the exported entry points (snaps/match*.go).

Each exported function is a thin wrapper of the flow proved in Tie/Flows.lean — in the transliteration
`do let r ← flow …; return r`, which is the flow by `bind_pure`; the theorems below say exactly which
flow, with which Config.  They pin three things a wrapper could get wrong:
the package-level functions use the package default Config (`{}` = `Config{snapsDir: "__snapshots__"}`,
fact group `defaultConfig`), the methods use THEIR Config, and `MatchStandaloneJSON` defaults the
extension to ".json" on a COPY (value semantics: the translator rejects any assignment through the
`*Config` receiver, so the caller's Config cannot change — property C12).
-/
import GoSnaps.GoIO
import GoSnaps.Generated.FuncsIO
import GoSnaps.Props.Tie.Snapshot
namespace GoSnaps.Tie
open GoSnaps GoSnaps.GoIO
open GoSnaps.Generated.FuncsIO

theorem Config_MatchSnapshot_eq (io : IOFail) (st : St) (tp : Bool) (caller : Text) (c : Cfg) (t : T) (vals : List Text) :
    Config_MatchSnapshot io st tp caller c t vals = matchSnapshot io st tp caller c t vals :=
  bind_pure _

theorem MatchSnapshot_eq (io : IOFail) (st : St) (tp : Bool) (caller : Text) (t : T) (vals : List Text) :
    MatchSnapshot io st tp caller t vals = matchSnapshot io st tp caller {} t vals :=
  bind_pure _

theorem Config_MatchStandaloneSnapshot_eq (io : IOFail) (st : St) (tp : Bool) (caller : Text) (c : Cfg) (t : T) (input : Text) :
    Config_MatchStandaloneSnapshot io st tp caller c t input = matchStandaloneSnapshot io st tp caller c t input :=
  bind_pure _

theorem MatchStandaloneSnapshot_eq (io : IOFail) (st : St) (tp : Bool) (caller : Text) (t : T) (input : Text) :
    MatchStandaloneSnapshot io st tp caller t input = matchStandaloneSnapshot io st tp caller {} t input :=
  bind_pure _

section
variable (io : IOFail) (st : St) (tp : Bool) (caller : Text)
  (run : Matcher → Text → Text × List MErr) (validate : Text → Text × Err) (takeJSON : Cfg → Text → Text)
  (c : Cfg) (t : T) (input : Text) (ms : List Matcher)

theorem Config_MatchJSON_eq :
    Config_MatchJSON io st tp caller run validate takeJSON c t input ms =
      matchJSON io st tp caller run validate takeJSON c t input ms :=
  bind_pure _

theorem MatchJSON_eq :
    MatchJSON io st tp caller run validate takeJSON t input ms =
      matchJSON io st tp caller run validate takeJSON {} t input ms :=
  bind_pure _

theorem Config_MatchYAML_eq :
    Config_MatchYAML io st tp caller run validate c t input ms =
      matchYAML io st tp caller run validate c t input ms :=
  bind_pure _

theorem MatchYAML_eq :
    MatchYAML io st tp caller run validate t input ms =
      matchYAML io st tp caller run validate {} t input ms :=
  bind_pure _

/-- the Config a standalone JSON call really uses: the caller's, with `.json` when no extension
    was configured -/
def withJSONExt (c : Cfg) : Cfg := if c.extension = [] then { c with extension := [46, 106, 115, 111, 110] } else c

theorem Config_MatchStandaloneJSON_eq :
    Config_MatchStandaloneJSON io st tp caller run validate takeJSON c t input ms =
      matchStandaloneJSON io st tp caller run validate takeJSON (withJSONExt c) t input ms := by
  unfold Config_MatchStandaloneJSON withJSONExt
  by_cases h : c.extension = []
  · simp [h]
  · simp [h]

theorem MatchStandaloneJSON_eq :
    MatchStandaloneJSON io st tp caller run validate takeJSON t input ms =
      matchStandaloneJSON io st tp caller run validate takeJSON (withJSONExt {}) t input ms := by
  unfold MatchStandaloneJSON withJSONExt
  simp

/-- the default extension only applies when none was configured, and changes nothing else -/
theorem withJSONExt_spec :
    (withJSONExt c).extension = (if c.extension = [] then [46, 106, 115, 111, 110] else c.extension) ∧
    (withJSONExt c).filename = c.filename ∧ (withJSONExt c).snapsDir = c.snapsDir ∧
    (withJSONExt c).update = c.update := by
  unfold withJSONExt
  by_cases h : c.extension = [] <;> simp [h]

/-- the generated ".json" literal is the extracted constant -/
example : ([46, 106, 115, 111, 110] : Text) = Generated.saJSONExt := by decide +kernel
end

/-! ## Config options (snaps/snapshot.go `Update`, `Filename`, `Dir`, `Ext`, `WithConfig`)

An option is a function `Cfg → Cfg` (the Go closure writes one field of the Config it is handed).
`WithConfig` starts from the package default and applies the options in order: the Config it returns
depends on its arguments only — property C12 "Configs built by WithConfig are independent of each
other and of the package-level defaults". -/

theorem Update_eq (u : Bool) (c : Cfg) : Update u c = { c with update := some u } := rfl
theorem Filename_eq (n : Text) (c : Cfg) : Filename n c = { c with filename := n } := rfl
theorem Dir_eq (d : Text) (c : Cfg) : Dir d c = { c with snapsDir := d } := rfl
theorem Ext_eq (e : Text) (c : Cfg) : Ext e c = { c with extension := e } := rfl

/-- **`WithConfig` is a fold over its arguments, starting from the default Config** -/
theorem WithConfig_eq (opts : List (Cfg → Cfg)) : WithConfig opts = opts.foldl (fun c o => o c) {} := by
  unfold WithConfig
  exact GoSem.forIn_yield_foldl (m := Id) opts _ (fun c o => o c) (fun _ _ => rfl) {}

/-- later options win, field by field; an option leaves the other fields alone -/
example : WithConfig [Dir [97], Filename [98], Dir [99]] = { filename := [98], snapsDir := [99] } := by decide +kernel
example : (WithConfig [Update false]).update = some false ∧ (WithConfig [Update false]).snapsDir = Generated.defaultSnapsDir := by
  decide +kernel

end GoSnaps.Tie
