/-
`goRun_fileAfter_canon`: the order hypothesis of `FileAfter` discharged from the INPUTS (one lemma; the C07 / C09 /
C10 end-to-end theorems take `FileAfter` and are stated elsewhere).

`Tie/EndToEndClean.goRun_fileAfter` proves that ANY history of the transliterated flows leaves a well-formed
snapshot file, but hands the totality of `natural.Less` on the ids of that file on to its caller
(`sortOpt = true → TotalOn (es.map tidOf)`): the one field of `FileAfter` that `goRun_fileAfter` does not discharge from
hypotheses about the inputs.  With `Props/C10Order` (the natural order is a strict total order on ids whose
digit runs are canonical numerals) it follows from: canonical ids in the initial file, canonical names of the
called tests, and no ordinal of 10^19 or more in the file.  The end-to-end theorems of `Tie/EndToEndClean`,
`EndToEndClean2`, `EndToEndSkip` take `FileAfter` as their hypothesis, so they apply as they are.
-/
import GoSnaps.Props.Tie.EndToEndClean
import GoSnaps.Props.C10Order
namespace GoSnaps.Tie
open GoSnaps GoSnaps.GoIO
open GoSnaps.Generated.FuncsIO
open GoSnaps.C06Refine GoSnaps.Wld GoSnaps.CleanWorld
open GoSnaps.C01World (Step Scoped calledNames texts entriesFrom entriesOf headers Inv)
open GoSnaps.C03 (testID)
open GoSnaps.Generated (Env shouldCreate shouldUpdate)
open GoSnaps.NatOrd (Canon)

/-- `goRun_fileAfter` for EVERY sort option: after any history, in any mix of modes, the file is as the
    `Clean` theorems need it — sorting included — when the ids in play are canonical -/
theorem goRun_fileAfter_canon (env : Env) (fs₀ : FS) (c : Cfg) (caller p rel : Text) (es₀ : List Entry)
    (h : List Step)
    (hsp : ∀ t, snapshotPath c caller t false = (p, some rel))
    (hfile : Holds fs₀ p es₀) (hgood : Good es₀)
    (hns : NoShadowAll es₀ (calledNames h) (texts h))
    (hrec₀ : ∀ e ∈ es₀, Recognised e)
    (htest : ∀ t ∈ calledNames h, (32 : Byte) ∉ t)
    (hce : fsRead fs₀ p ≠ none ∨ shouldCreate env c.update = true)
    (hcan₀ : ∀ e ∈ es₀, Canon (tidOf e)) (hcanN : ∀ t ∈ calledNames h, Canon t) :
    ∃ st1 es, goRun IOFail.never c caller (freshSt env fs₀) h = some st1 ∧
      FileInv es₀ (calledNames h) (texts h) es ∧
      ((∀ o ∈ es, ∀ t k, o.id = testID t k → k < 10 ^ 19) → ∀ sortOpt, FileAfter st1.fs p es h sortOpt) := by
  obtain ⟨st1, es, hrun, hinv, hfa⟩ := goRun_fileAfter env fs₀ c caller p rel es₀ h hsp hfile hgood hns hrec₀ htest hce
  exact ⟨st1, es, hrun, hinv, fun hk sortOpt =>
    hfa sortOpt (fun _ => C10Order.totalOn_of_fileInv hinv hcan₀ hcanN hk)⟩

end GoSnaps.Tie
