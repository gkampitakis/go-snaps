/-
Bridge between the hand-written model of the colour path (`prettyDiffNonEmpty`, whose parameter
`dmpSingleEqual : Text → Text → Bool` says "diffmatchpatch returned a single Equal chunk") and the transliteration of
`singlelineDiff` (Generated/FuncsIO.lean, tied in Tie/SingleLine.lean): the parameter IS the guard of the
translated function, and under the reconstruction contract of diffmatchpatch (the chunks that are not Insert
spell the first text, those that are not Delete spell the second) it can only be true for identical texts —
so the report of the colour path is non-empty iff the texts differ even WITHOUT the structural fall-back
to line rows.
-/
import GoSnaps.Props.C02
import GoSnaps.Props.Tie.SingleLine
namespace GoSnaps.Tie
open GoSnaps GoSnaps.Generated GoSnaps.GoIO

/-- the verdict the model's parameter stands for, read off the chunk list -/
def dmpVerdict (dmpDiff : Text → Text → List DiffChunk) : Text → Text → Bool :=
  fun x y => singleEqB (dmpDiff x y)

/-- the reconstruction contract of diffmatchpatch, for every pair of texts -/
def DmpContract (dmpDiff : Text → Text → List DiffChunk) : Prop :=
  ∀ x y, chunkSrc (dmpDiff x y) = x ∧ chunkDst (dmpDiff x y) = y

/-- the model's parameter is exactly "the translated `singlelineDiff` returns the empty report" -/
theorem dmpVerdict_is_translated_guard (dmpDiff : Text → Text → List DiffChunk) (e r text : Text) (i d : Int)
    (h : FuncsIO.singlelineDiff dmpDiff e r = some (text, i, d)) :
    dmpVerdict dmpDiff e r = true ↔ text = [] := by
  unfold dmpVerdict
  rw [singleEqB_iff]
  exact ((singlelineDiff_empty_iff dmpDiff e r text i d h).1).symm

/-- under the contract the verdict is false for different texts -/
theorem dmpVerdict_false_of_ne (dmpDiff : Text → Text → List DiffChunk) (hc : DmpContract dmpDiff)
    (x y : Text) (hne : x ≠ y) : dmpVerdict dmpDiff x y = false := by
  cases hv : dmpVerdict dmpDiff x y with
  | false => rfl
  | true =>
    exfalso
    obtain ⟨v, hv'⟩ := Option.isSome_iff_exists.mp (singlelineDiff_isSome dmpDiff x y)
    obtain ⟨text, i, d⟩ := v
    have h0 : text = [] := (dmpVerdict_is_translated_guard dmpDiff x y text i d hv').mp hv
    exact hne (singlelineDiff_empty_same dmpDiff x y text i d (hc x y) hv' h0)

/-- **colour path, no fall-back needed**: with the translated `singlelineDiff` and a diffmatchpatch that honours
its contract, the report is non-empty iff the texts differ -/
theorem colour_report_iff_of_contract (dmpDiff : Text → Text → List DiffChunk) (hc : DmpContract dmpDiff)
    (e r : Text) : prettyDiffNonEmpty true false (dmpVerdict dmpDiff) e r = true ↔ e ≠ r :=
  C02.prettyDiffNonEmpty_colour_iff (dmpVerdict dmpDiff) (dmpVerdict_false_of_ne dmpDiff hc) e r

/-- non-vacuity: a chunk function that honours the contract on every input (Delete everything, Insert everything) -/
example : DmpContract (fun x y => [⟨-1, x⟩, ⟨1, y⟩]) := by
  intro x y
  simp [chunkSrc, chunkDst]

end GoSnaps.Tie
