/-
Tie (by proof) of the transliterated methods of package `match` (match/any.go, custom.go, type.go;
`Generated/FuncsIO.lean`: `anyMatcher_*`, `typeMatcher_*`, `customMatcher_*`) to the abstract loops
of C16 (`mask`, `maskWith`), the pipeline of C15/C17 and the flows of Tie/Flows.lean.

The document libraries are PARAMETERS of the transliterations (`gjsonGet`, `sjsonSet`, `yamlParse`,
`yamlGet`, `yamlGetValue`, `yamlUpdate`, `yamlMarshal`, `typeCheckFn`, `typePlaceholderFn`); values
of Go type `any` are opaque `Text`.

Every Any/Type loop is brought to the closed form (`*_eq`: fold of `next` over the paths, `errsOf`: the errors
of the paths in order, each for the document at the time the path is reached; `pathStep` is one round);
Custom to a decision tree (`customJSONSpec`, `customYAMLSpec`).  From these: the error accounting of
C17 (`*_errors`, `*_errors_named`, `missing_path_ignored`), the ties to `C16.mask` / `C16.maskWith`
under hypotheses connecting the libraries to a lens (`JSONLens`, `YAMLLens`), and the composition
with the flows, where concrete matchers instantiate `run` (`pipeline_masks`, `matchJSON_masks`,
`docPre_fails`).  The examples run on the toy libraries `MToy`.

What the Go loops do that the abstract model does not say (all proved below):
* Any/Type keep going after an error: errors accumulate in path order and later paths are applied
  to the document built so far; the partially masked document IS returned next to the errors (it is
  the caller, `applyJSONMatchers`, that drops it — C15).
* Custom returns nil on every error and at most one error.
* YAML: `yaml.Update` works on the parsed file in place, so after a FAILED update the loops of
  Any/Type continue with (and finally marshal) whatever the failed update left (`anyYNext`).
* Custom.YAML on a missing path with `ErrOnMissingPath(false)` returns the input BYTES, whereas
  Any/Type.YAML always return the re-marshalled file.

Byte legend: "path does not exist" = `pathNotFound`, "*" = [42], "\n" = [10], "?" = [63].
-/
import GoSnaps.GoIO
import GoSnaps.Generated.FuncsIO
import GoSnaps.Props.C15
import GoSnaps.Props.C16
import GoSnaps.Props.C17
import GoSnaps.Props.Tie.Flows
namespace GoSnaps.Tie
open GoSnaps GoSnaps.GoIO
open GoSnaps.Generated.FuncsIO

/-! ## generic lemmas -/

/-- `errPathNotFound.Error()` (match/utils.go) -/
def pathNotFound : Text := [112, 97, 116, 104, 32, 100, 111, 101, 115, 32, 110, 111, 116, 32, 101, 120, 105, 115, 116]

theorem pathNotFound_eq : pathNotFound = ofString "path does not exist" := by decide +kernel

/-- the Go variable `errPathNotFound` -/
def errPathNotFound : Err := .other pathNotFound

/-- every element of a list paired with the state at the time it is reached, for a loop whose
    state evolves by `next` -/
def withDocs {α D : Type} (next : D → α → D) : D → List α → List (α × D)
  | _, [] => []
  | d, p :: ps => (p, d) :: withDocs next (next d p) ps

theorem withDocs_map_fst {α D : Type} (next : D → α → D) (d : D) (ps : List α) :
    (withDocs next d ps).map (·.1) = ps := by
  induction ps generalizing d with
  | nil => rfl
  | cons p ps ih => simp [withDocs, ih]

theorem withDocs_length {α D : Type} (next : D → α → D) (d : D) (ps : List α) :
    (withDocs next d ps).length = ps.length := by
  rw [← List.length_map (f := (·.1)), withDocs_map_fst]

theorem withDocs_eq_prefix {α D : Type} (next : D → α → D) (d : D) (ps : List α) (x : α × D)
    (hx : x ∈ withDocs next d ps) : ∃ pre post, ps = pre ++ x.1 :: post ∧ x.2 = pre.foldl next d := by
  induction ps generalizing d with
  | nil => cases hx
  | cons p ps ih =>
    rcases List.mem_cons.mp hx with rfl | hx
    · exact ⟨[], ps, rfl, rfl⟩
    · obtain ⟨pre, post, h1, h2⟩ := ih _ hx
      exact ⟨p :: pre, post, by rw [h1]; rfl, h2⟩

/-- if two state transformers agree on every (element, state) the first one reaches, they reach
    the same states -/
theorem withDocs_congr {α D : Type} (f g : D → α → D) (d : D) (ps : List α)
    (h : ∀ x ∈ withDocs f d ps, f x.2 x.1 = g x.2 x.1) :
    withDocs f d ps = withDocs g d ps ∧ ps.foldl f d = ps.foldl g d := by
  induction ps generalizing d with
  | nil => exact ⟨rfl, rfl⟩
  | cons p ps ih =>
    have hp : f d p = g d p := h (p, d) (by simp [withDocs])
    have := ih (f d p) (fun x hx => h x (by simp [withDocs, hx]))
    simp only [withDocs, List.foldl_cons]
    rw [← hp]
    exact ⟨by rw [this.1], this.2⟩

/-- one iteration of a matcher loop on the state (document, errors): the document moves by `next`,
    at most one error is appended, and it names the matcher and the path -/
def pathStep {D : Type} (name : Text) (next : D → Text → D) (err : D → Text → Option Err)
    (s : D × List MErr) (p : Text) : D × List MErr :=
  (next s.1 p, match err s.1 p with
    | some e => s.2 ++ [({ reason := e, matcher := name, path := p } : MErr)]
    | none => s.2)

/-- the errors of a loop started on `d`: for each path, in order, the error (if any) reported for
    the document at the time the path is reached -/
def errsOf {D : Type} (name : Text) (next : D → Text → D) (err : D → Text → Option Err) (d : D)
    (ps : List Text) : List MErr :=
  (withDocs next d ps).filterMap (fun x => (err x.2 x.1).map (fun e => ({ reason := e, matcher := name, path := x.1 } : MErr)))

theorem errsOf_nil {D : Type} (name : Text) (next : D → Text → D) (err : D → Text → Option Err) (d : D) :
    errsOf name next err d [] = [] := rfl

theorem errsOf_cons {D : Type} (name : Text) (next : D → Text → D) (err : D → Text → Option Err) (d : D)
    (p : Text) (ps : List Text) :
    errsOf name next err d (p :: ps) =
      (match err d p with
        | some e => [({ reason := e, matcher := name, path := p } : MErr)]
        | none => []) ++ errsOf name next err (next d p) ps := by
  unfold errsOf
  simp only [withDocs, List.filterMap_cons]
  cases err d p <;> rfl

theorem errsOf_named {D : Type} (name : Text) (next : D → Text → D) (err : D → Text → Option Err) (d : D)
    (ps : List Text) (e : MErr) (he : e ∈ errsOf name next err d ps) :
    e.matcher = name ∧ e.path ∈ ps ∧ ∃ d', (e.path, d') ∈ withDocs next d ps ∧ err d' e.path = some e.reason := by
  unfold errsOf at he
  obtain ⟨x, hx, hxe⟩ := List.mem_filterMap.mp he
  cases hq : err x.2 x.1 with
  | none => rw [hq] at hxe; cases hxe
  | some r =>
    rw [hq] at hxe
    simp only [Option.map_some, Option.some.injEq] at hxe
    subst hxe
    refine ⟨rfl, ?_, x.2, hx, hq⟩
    have := List.mem_map_of_mem (f := (·.1)) hx
    rwa [withDocs_map_fst] at this

/-- the paths of the errors, in the order of the errors, are a sub-list of the matcher's paths:
    at most one error per path, in path order -/
theorem errsOf_paths_sublist {D : Type} (name : Text) (next : D → Text → D) (err : D → Text → Option Err) (d : D)
    (ps : List Text) : ((errsOf name next err d ps).map (·.path)).Sublist ps := by
  induction ps generalizing d with
  | nil => simp [errsOf_nil]
  | cons p ps ih =>
    rw [errsOf_cons]
    cases err d p with
    | none => simpa using (ih (next d p)).cons p
    | some e => simpa using (ih (next d p)).cons_cons p

theorem errsOf_accounting {D : Type} (name : Text) (next : D → Text → D) (err : D → Text → Option Err) (d : D)
    (ps : List Text) :
    (∀ e ∈ errsOf name next err d ps, e.matcher = name ∧ e.path ∈ ps) ∧
    ((errsOf name next err d ps).map (·.path)).Sublist ps ∧ (errsOf name next err d ps).length ≤ ps.length :=
  ⟨fun e he => ⟨(errsOf_named _ _ _ _ _ e he).1, (errsOf_named _ _ _ _ _ e he).2.1⟩,
    errsOf_paths_sublist _ _ _ _ _, by simpa using (errsOf_paths_sublist name next err d ps).length_le⟩

theorem errsOf_eq_nil_iff {D : Type} (name : Text) (next : D → Text → D) (err : D → Text → Option Err) (d : D)
    (ps : List Text) : errsOf name next err d ps = [] ↔ ∀ x ∈ withDocs next d ps, err x.2 x.1 = none := by
  unfold errsOf
  rw [List.filterMap_eq_nil_iff]
  constructor
  · intro h x hx
    have := h x hx
    cases hq : err x.2 x.1 with
    | none => rfl
    | some e => rw [hq] at this; cases this
  · intro h x hx
    rw [h x hx]; rfl

/-- **the loop in closed form**: a loop on the state `(errs, doc)` of the transliterations whose round
    is `pathStep` ends with the fold of `next` as document and the old errors followed by `errsOf` -/
theorem forIn_pathStep {D : Type} (name : Text) (next : D → Text → D) (err : D → Text → Option Err)
    (l : List Text) (F : Text → (List MErr × D) → Id (ForInStep ((List MErr × D))))
    (hF : ∀ p (s : (List MErr × D)), F p s = pure (ForInStep.yield
      ⟨(pathStep name next err (s.2, s.1) p).2, (pathStep name next err (s.2, s.1) p).1⟩))
    (d : D) (es : List MErr) :
    forIn (m := Id) l ((es, d) : List MErr × D) F = pure ⟨es ++ errsOf name next err d l, l.foldl next d⟩ := by
  induction l generalizing d es with
  | nil => simp [errsOf_nil]
  | cons p ps ih =>
    rw [List.forIn_cons, hF]
    simp only [pure_bind]
    rw [ih, errsOf_cons]
    simp only [pathStep]
    cases err d p <;> simp

/-! ### toy document libraries for the examples -/

namespace MToy

/-- JSON toy: a document is a byte string; the path `[k]` addresses the byte at position `k`
    (it exists iff `k < length`); no other path exists -/
def get (d p : Text) : Option Text :=
  match p with
  | [k] => (d[k.toNat]?).map (fun x => [x])
  | _ => none

/-- writes the first byte of `v` ('?' if `v` is empty) at position `k` -/
def set (d p v : Text) : Text :=
  match p with
  | [k] => d.set k.toNat (v.headD 63)
  | _ => d

def gjsonGet (d p : Text) : GResult := ⟨(get d p).isSome, (get d p).getD []⟩
def sjsonSet (d p v : Text) : Text × Err := (set d p v, .nil)
def nAny : Text := [65, 110, 121]
def nType : Text := [84, 121, 112, 101]
def nCustom : Text := [67, 117, 115, 116, 111, 109]
def eRO : Err := .other [114, 111]
def eBad : Err := .other [98, 97, 100]
def eHi : Err := .other [104, 105]
def eParse : Err := .other [101]
def eGet : Err := .other [112]
/-- a setter for which position 0 is read-only (error "ro") -/
def sjsonSetRO (d p v : Text) : Text × Err := if p = [0] then (d, eRO) else (set d p v, .nil)

/-- `typeCheck`: values made of bytes below 58 pass, others are "bad" -/
def chk (v : Text) : Err := if v.all (· < 58) then .nil else eBad
/-- `typePlaceholder`: "N" for values below 58, "S" otherwise -/
def ph (v : Text) : Text := if v.all (· < 58) then [78] else [83]

/-- `match.Any(paths...)` ("Any", placeholder "?") -/
def any (paths : List Text) (eomp : Bool := true) : AnyMatcher := ⟨paths, [63], eomp, nAny⟩
/-- `match.Type[…](paths...)` ("Type") -/
def type (paths : List Text) (eomp : Bool := true) : TypeMatcher := ⟨paths, eomp, nType, []⟩
/-- a callback: +1 on every byte; values containing a byte ≥ 200 are rejected ("hi") -/
def cb (v : Text) : Text × Err := if v.all (· < 200) then (v.map (· + 1), .nil) else ([], eHi)
/-- `match.Custom(path, cb)` ("Custom") -/
def custom (path : Text) (eomp : Bool := true) : CustomMatcher := ⟨cb, eomp, nCustom, path⟩

/-- YAML toy: the file is the input without its final newline; an input that is empty or starts
    with byte 255 does not parse ("e") -/
def yamlParse (b : Text) : YFile × Err :=
  if b.headD 255 = 255 then ([], eParse) else (if hasSuffix b [10] then b.dropLast else b, .nil)
def yamlGet (f : YFile) (p : Text) : YPath × YNode × Bool × Err := (p, (get f p).getD [], (get f p).isSome, .nil)
/-- a `yaml.Get` that rejects the empty path ("p") -/
def yamlGetE (f : YFile) (p : Text) : YPath × YNode × Bool × Err :=
  if p = [] then ([], [], false, eGet) else yamlGet f p
def yamlGetValue (n : YNode) : Text × Err := (n, .nil)
def yamlUpdate (f : YFile) (path : YPath) (v : Text) : YFile × Err := (set f path v, .nil)
/-- an update that fails on position 0 ("ro") AND leaves the file damaged (first byte zeroed) -/
def yamlUpdateRO (f : YFile) (path : YPath) (v : Text) : YFile × Err :=
  if path = [0] then (f.set 0 0, eRO) else (set f path v, .nil)
def yamlMarshal (f : YFile) (nl : Bool) : Text := if nl then f ++ [10] else f

end MToy

/-! ## closed forms -/

/-! ### `anyMatcher.JSON` -/

/-- next document / reported error of one path of `anyMatcher.JSON`, separately -/
def anyNext (gjsonGet : Text → Text → GResult) (sjsonSet : Text → Text → Text → Text × Err) (a : AnyMatcher)
    (d p : Text) : Text :=
  if (gjsonGet d p).exists = false then d
  else if (sjsonSet d p a.placeholder).2.notNil then d else (sjsonSet d p a.placeholder).1

def anyErr (gjsonGet : Text → Text → GResult) (sjsonSet : Text → Text → Text → Text × Err) (a : AnyMatcher)
    (d p : Text) : Option Err :=
  if (gjsonGet d p).exists = false then (if a.errOnMissingPath then some (Err.other pathNotFound) else none)
  else if (sjsonSet d p a.placeholder).2.notNil then some (sjsonSet d p a.placeholder).2 else none

/-- the loop keeps going after an error; the result is (document built
    by the successful paths, errors in path order) -/
theorem anyMatcher_JSON_eq (gjsonGet : Text → Text → GResult) (sjsonSet : Text → Text → Text → Text × Err)
    (a : AnyMatcher) (b : Text) :
    anyMatcher_JSON gjsonGet sjsonSet a b =
      (a.paths.foldl (anyNext gjsonGet sjsonSet a) b,
       errsOf a.name (anyNext gjsonGet sjsonSet a) (anyErr gjsonGet sjsonSet a) b a.paths) := by
  unfold anyMatcher_JSON
  simp only [Id.run, bind, pure]
  rw [forIn_pathStep a.name (anyNext gjsonGet sjsonSet a) (anyErr gjsonGet sjsonSet a) a.paths]
  · rfl
  · -- one round of the loop is `pathStep`: a case per leaf of the body, each by computation
    intro p s
    unfold pathStep anyNext anyErr
    dsimp only
    cases (gjsonGet s.2 p).exists with
    | false => cases a.errOnMissingPath <;> rfl
    | true => cases (sjsonSet s.2 p a.placeholder).2.notNil <;> rfl

/-- non-vacuity on the toy library, document [10, 20, 30]:
    (1) path [5] is missing and NOT the last, `ErrOnMissingPath(false)`: nothing reported, the later
        path [1] is still masked;
    (2) the same with `ErrOnMissingPath(true)`: one error naming [5], path [1] still masked;
    (3) the set of the first path [0] fails, the second path [2] succeeds: one error AND path [2] masked;
    (4) errors accumulate in path order (also for a repeated path) -/
example :
    open MToy in
    anyMatcher_JSON gjsonGet sjsonSet (any [[5], [1]] false) [10, 20, 30] = ([10, 63, 30], []) ∧
    anyMatcher_JSON gjsonGet sjsonSet (any [[5], [1]]) [10, 20, 30] = ([10, 63, 30], [⟨errPathNotFound, nAny, [5]⟩]) ∧
    anyMatcher_JSON gjsonGet sjsonSetRO (any [[0], [2]]) [10, 20, 30] = ([10, 20, 63], [⟨eRO, nAny, [0]⟩]) ∧
    anyMatcher_JSON gjsonGet sjsonSetRO (any [[0], [7], [2], [0]]) [10, 20, 30] =
      ([10, 20, 63], [⟨eRO, nAny, [0]⟩, ⟨errPathNotFound, nAny, [7]⟩, ⟨eRO, nAny, [0]⟩]) := by decide +kernel

/-! ### `typeMatcher.JSON` -/

def typeNext (gjsonGet : Text → Text → GResult) (sjsonSet : Text → Text → Text → Text × Err)
    (typeCheckFn : Text → Err) (typePlaceholderFn : Text → Text) (d p : Text) : Text :=
  if (gjsonGet d p).exists = false then d
  else if (typeCheckFn (gjsonGet d p).value).notNil then d
  else if (sjsonSet d p (typePlaceholderFn (gjsonGet d p).value)).2.notNil then d
  else (sjsonSet d p (typePlaceholderFn (gjsonGet d p).value)).1

def typeErr (gjsonGet : Text → Text → GResult) (sjsonSet : Text → Text → Text → Text × Err)
    (typeCheckFn : Text → Err) (typePlaceholderFn : Text → Text) (t : TypeMatcher) (d p : Text) : Option Err :=
  if (gjsonGet d p).exists = false then (if t.errOnMissingPath then some (Err.other pathNotFound) else none)
  else if (typeCheckFn (gjsonGet d p).value).notNil then some (typeCheckFn (gjsonGet d p).value)
  else if (sjsonSet d p (typePlaceholderFn (gjsonGet d p).value)).2.notNil then
    some (sjsonSet d p (typePlaceholderFn (gjsonGet d p).value)).2
  else none

/-- a value of the wrong type is reported and the path skipped; the placeholder is computed from the
    value found -/
theorem typeMatcher_JSON_eq (gjsonGet : Text → Text → GResult) (sjsonSet : Text → Text → Text → Text × Err)
    (typeCheckFn : Text → Err) (typePlaceholderFn : Text → Text) (t : TypeMatcher) (b : Text) :
    typeMatcher_JSON gjsonGet sjsonSet typeCheckFn typePlaceholderFn t b =
      (t.paths.foldl (typeNext gjsonGet sjsonSet typeCheckFn typePlaceholderFn) b,
       errsOf t.name (typeNext gjsonGet sjsonSet typeCheckFn typePlaceholderFn)
        (typeErr gjsonGet sjsonSet typeCheckFn typePlaceholderFn t) b t.paths) := by
  unfold typeMatcher_JSON
  simp only [Id.run, bind, pure]
  rw [forIn_pathStep t.name (typeNext gjsonGet sjsonSet typeCheckFn typePlaceholderFn)
    (typeErr gjsonGet sjsonSet typeCheckFn typePlaceholderFn t) t.paths]
  · rfl
  · intro p s
    unfold pathStep typeNext typeErr
    dsimp only
    cases (gjsonGet s.2 p).exists with
    | false => cases t.errOnMissingPath <;> rfl
    | true =>
      cases (typeCheckFn (gjsonGet s.2 p).value).notNil with
      | true => rfl
      | false => cases (sjsonSet s.2 p (typePlaceholderFn (gjsonGet s.2 p).value)).2.notNil <;> rfl

/-- [5] missing, [1] = 20 is masked by "N", [2] = 90 has the wrong type (reported, left alone),
    [0] = 10 is still masked afterwards; with the read-only setter the failing set of [0] is
    reported and [1] is masked -/
example :
    open MToy in
    typeMatcher_JSON gjsonGet sjsonSet chk ph (type [[5], [1], [2], [0]]) [10, 20, 90] =
      ([78, 78, 90], [⟨errPathNotFound, nType, [5]⟩, ⟨eBad, nType, [2]⟩]) ∧
    typeMatcher_JSON gjsonGet sjsonSet chk ph (type [[5], [1]] false) [10, 20, 90] = ([10, 78, 90], []) ∧
    typeMatcher_JSON gjsonGet sjsonSetRO chk ph (type [[0], [1]]) [10, 20, 90] = ([10, 78, 90], [⟨eRO, nType, [0]⟩]) := by
  decide +kernel

/-! ### `customMatcher.JSON` -/

/-- `customMatcher.JSON` in closed form: a single path and early returns — on any error the
    returned document is nil and there is exactly one error; a missing path with
    `ErrOnMissingPath(false)` returns the input unchanged -/
def customJSONSpec (gjsonGet : Text → Text → GResult) (sjsonSet : Text → Text → Text → Text × Err)
    (c : CustomMatcher) (b : Text) : Text × List MErr :=
  if (gjsonGet b c.path).exists = false then
    (if c.errOnMissingPath then ([], [{ reason := Err.other pathNotFound, matcher := c.name, path := c.path }])
     else (b, []))
  else if (c.callback (gjsonGet b c.path).value).2.notNil then
    ([], [{ reason := (c.callback (gjsonGet b c.path).value).2, matcher := c.name, path := c.path }])
  else if (sjsonSet b c.path (c.callback (gjsonGet b c.path).value).1).2.notNil then
    ([], [{ reason := (sjsonSet b c.path (c.callback (gjsonGet b c.path).value).1).2, matcher := c.name, path := c.path }])
  else ((sjsonSet b c.path (c.callback (gjsonGet b c.path).value).1).1, [])

theorem customMatcher_JSON_eq (gjsonGet : Text → Text → GResult) (sjsonSet : Text → Text → Text → Text × Err)
    (c : CustomMatcher) (b : Text) :
    customMatcher_JSON gjsonGet sjsonSet c b = customJSONSpec gjsonGet sjsonSet c b := by
  unfold customMatcher_JSON customJSONSpec
  simp only [Bool.not_eq_true']
  rfl

/-- success; missing path (error / ignored); callback error; set error — a failure returns nil -/
example :
    open MToy in
    customMatcher_JSON gjsonGet sjsonSet (custom [1]) [10, 20, 30] = ([10, 21, 30], []) ∧
    customMatcher_JSON gjsonGet sjsonSet (custom [5]) [10, 20, 30] = ([], [⟨errPathNotFound, nCustom, [5]⟩]) ∧
    customMatcher_JSON gjsonGet sjsonSet (custom [5] false) [10, 20, 30] = ([10, 20, 30], []) ∧
    customMatcher_JSON gjsonGet sjsonSet (custom [1]) [10, 220, 30] = ([], [⟨eHi, nCustom, [1]⟩]) ∧
    customMatcher_JSON gjsonGet sjsonSetRO (custom [0]) [10, 20, 30] = ([], [⟨eRO, nCustom, [0]⟩]) := by decide +kernel

/-! ### `anyMatcher.YAML` -/

/-- the file after path `p`: `yaml.Update` works on the parsed file in place, so the file after a
    FAILED update is whatever `yamlUpdate` left (its first component) -/
def anyYNext (yamlGet : YFile → Text → YPath × YNode × Bool × Err) (yamlUpdate : YFile → YPath → Text → YFile × Err)
    (a : AnyMatcher) (f : YFile) (p : Text) : YFile :=
  if (yamlGet f p).2.2.2.notNil then f
  else if (yamlGet f p).2.2.1 = false then f
  else (yamlUpdate f (yamlGet f p).1 a.placeholder).1

def anyYErr (yamlGet : YFile → Text → YPath × YNode × Bool × Err) (yamlUpdate : YFile → YPath → Text → YFile × Err)
    (a : AnyMatcher) (f : YFile) (p : Text) : Option Err :=
  if (yamlGet f p).2.2.2.notNil then some (yamlGet f p).2.2.2
  else if (yamlGet f p).2.2.1 = false then (if a.errOnMissingPath then some (Err.other pathNotFound) else none)
  else if (yamlUpdate f (yamlGet f p).1 a.placeholder).2.notNil then some (yamlUpdate f (yamlGet f p).1 a.placeholder).2
  else none

/-- parse error ⇒ the input and one error with path "*"; otherwise the
    marshalled file after the loop and the errors in path order -/
theorem anyMatcher_YAML_eq (yamlParse : Text → YFile × Err) (yamlGet : YFile → Text → YPath × YNode × Bool × Err)
    (yamlUpdate : YFile → YPath → Text → YFile × Err) (yamlMarshal : YFile → Bool → Text) (a : AnyMatcher) (b : Text) :
    anyMatcher_YAML yamlParse yamlGet yamlUpdate yamlMarshal a b =
      if (yamlParse b).2.notNil then (b, [{ reason := (yamlParse b).2, matcher := a.name, path := [42] }])
      else
        (yamlMarshal (a.paths.foldl (anyYNext yamlGet yamlUpdate a) (yamlParse b).1) (hasSuffix b [10]),
         errsOf a.name (anyYNext yamlGet yamlUpdate a) (anyYErr yamlGet yamlUpdate a) (yamlParse b).1 a.paths) := by
  unfold anyMatcher_YAML
  simp only [Id.run, bind, pure]
  rw [forIn_pathStep a.name (anyYNext yamlGet yamlUpdate a) (anyYErr yamlGet yamlUpdate a) a.paths]
  · rfl
  · intro p s
    unfold pathStep anyYNext anyYErr
    dsimp only
    cases (yamlGet s.2 p).2.2.2.notNil with
    | true => rfl
    | false =>
      cases (yamlGet s.2 p).2.2.1 with
      | false => cases a.errOnMissingPath <;> rfl
      | true => cases (yamlUpdate s.2 (yamlGet s.2 p).1 a.placeholder).2.notNil <;> rfl

/-- input "\x0a\x14\x1e\n": path [] → get error; [0] → update error (and the file keeps the damage
    the failed update did: first byte 0); [7] → missing; [2] → masked; the final newline is kept.
    A missing non-last path with `ErrOnMissingPath(false)`: ignored, [2] still masked.
    An input that does not parse comes back as is with one error for path "*". -/
example :
    open MToy in
    anyMatcher_YAML yamlParse yamlGetE yamlUpdateRO yamlMarshal (any [[], [0], [7], [2]]) [10, 20, 30, 10] =
      ([0, 20, 63, 10], [⟨eGet, nAny, []⟩, ⟨eRO, nAny, [0]⟩, ⟨errPathNotFound, nAny, [7]⟩]) ∧
    anyMatcher_YAML yamlParse yamlGetE yamlUpdateRO yamlMarshal (any [[7], [2]] false) [10, 20, 30] = ([10, 20, 63], []) ∧
    anyMatcher_YAML yamlParse yamlGetE yamlUpdateRO yamlMarshal (any [[2]]) [255, 20, 30] =
      ([255, 20, 30], [⟨eParse, nAny, [42]⟩]) := by decide +kernel

/-! ### `typeMatcher.YAML` -/

def typeYNext (yamlGet : YFile → Text → YPath × YNode × Bool × Err) (yamlGetValue : YNode → Text × Err)
    (yamlUpdate : YFile → YPath → Text → YFile × Err) (typeCheckFn : Text → Err) (typePlaceholderFn : Text → Text)
    (f : YFile) (p : Text) : YFile :=
  if (yamlGet f p).2.2.2.notNil then f
  else if (yamlGet f p).2.2.1 = false then f
  else if (yamlGetValue (yamlGet f p).2.1).2.notNil then f
  else if (typeCheckFn (yamlGetValue (yamlGet f p).2.1).1).notNil then f
  else (yamlUpdate f (yamlGet f p).1 (typePlaceholderFn (yamlGetValue (yamlGet f p).2.1).1)).1

def typeYErr (yamlGet : YFile → Text → YPath × YNode × Bool × Err) (yamlGetValue : YNode → Text × Err)
    (yamlUpdate : YFile → YPath → Text → YFile × Err) (typeCheckFn : Text → Err) (typePlaceholderFn : Text → Text)
    (t : TypeMatcher) (f : YFile) (p : Text) : Option Err :=
  if (yamlGet f p).2.2.2.notNil then some (yamlGet f p).2.2.2
  else if (yamlGet f p).2.2.1 = false then (if t.errOnMissingPath then some (Err.other pathNotFound) else none)
  else if (yamlGetValue (yamlGet f p).2.1).2.notNil then some (yamlGetValue (yamlGet f p).2.1).2
  else if (typeCheckFn (yamlGetValue (yamlGet f p).2.1).1).notNil then some (typeCheckFn (yamlGetValue (yamlGet f p).2.1).1)
  else if (yamlUpdate f (yamlGet f p).1 (typePlaceholderFn (yamlGetValue (yamlGet f p).2.1).1)).2.notNil then
    some (yamlUpdate f (yamlGet f p).1 (typePlaceholderFn (yamlGetValue (yamlGet f p).2.1).1)).2
  else none

theorem typeMatcher_YAML_eq (yamlParse : Text → YFile × Err) (yamlGet : YFile → Text → YPath × YNode × Bool × Err)
    (yamlGetValue : YNode → Text × Err) (yamlUpdate : YFile → YPath → Text → YFile × Err)
    (yamlMarshal : YFile → Bool → Text) (typeCheckFn : Text → Err) (typePlaceholderFn : Text → Text)
    (t : TypeMatcher) (b : Text) :
    typeMatcher_YAML yamlParse yamlGet yamlGetValue yamlUpdate yamlMarshal typeCheckFn typePlaceholderFn t b =
      if (yamlParse b).2.notNil then (b, [{ reason := (yamlParse b).2, matcher := t.name, path := [42] }])
      else
        (yamlMarshal (t.paths.foldl (typeYNext yamlGet yamlGetValue yamlUpdate typeCheckFn typePlaceholderFn)
            (yamlParse b).1) (hasSuffix b [10]),
         errsOf t.name (typeYNext yamlGet yamlGetValue yamlUpdate typeCheckFn typePlaceholderFn)
          (typeYErr yamlGet yamlGetValue yamlUpdate typeCheckFn typePlaceholderFn t) (yamlParse b).1 t.paths) := by
  unfold typeMatcher_YAML
  simp only [Id.run, bind, pure]
  rw [forIn_pathStep t.name (typeYNext yamlGet yamlGetValue yamlUpdate typeCheckFn typePlaceholderFn)
    (typeYErr yamlGet yamlGetValue yamlUpdate typeCheckFn typePlaceholderFn t) t.paths]
  · rfl
  · intro p s
    unfold pathStep typeYNext typeYErr
    dsimp only
    cases (yamlGet s.2 p).2.2.2.notNil with
    | true => rfl
    | false =>
      cases (yamlGet s.2 p).2.2.1 with
      | false => cases t.errOnMissingPath <;> rfl
      | true =>
        cases (yamlGetValue (yamlGet s.2 p).2.1).2.notNil with
        | true => rfl
        | false =>
          cases (typeCheckFn (yamlGetValue (yamlGet s.2 p).2.1).1).notNil with
          | true => rfl
          | false =>
            cases (yamlUpdate s.2 (yamlGet s.2 p).1
              (typePlaceholderFn (yamlGetValue (yamlGet s.2 p).2.1).1)).2.notNil <;> rfl

example :
    open MToy in
    typeMatcher_YAML yamlParse yamlGetE yamlGetValue yamlUpdateRO yamlMarshal chk ph (type [[], [0], [7], [2], [1]])
        [10, 20, 90, 10] =
      ([0, 78, 90, 10], [⟨eGet, nType, []⟩, ⟨eRO, nType, [0]⟩, ⟨errPathNotFound, nType, [7]⟩, ⟨eBad, nType, [2]⟩]) ∧
    typeMatcher_YAML yamlParse yamlGetE yamlGetValue yamlUpdateRO yamlMarshal chk ph (type [[7], [1]] false)
        [10, 20, 90, 10] = ([10, 78, 90, 10], []) ∧
    typeMatcher_YAML yamlParse yamlGetE yamlGetValue yamlUpdateRO yamlMarshal chk ph (type [[1]]) [255, 20] =
      ([255, 20], [⟨eParse, nType, [42]⟩]) := by decide +kernel

/-! ### `customMatcher.YAML` -/

def customYAMLSpec (yamlParse : Text → YFile × Err) (yamlGet : YFile → Text → YPath × YNode × Bool × Err)
    (yamlGetValue : YNode → Text × Err) (yamlUpdate : YFile → YPath → Text → YFile × Err)
    (yamlMarshal : YFile → Bool → Text) (c : CustomMatcher) (b : Text) : Text × List MErr :=
  let f := (yamlParse b).1
  let g := yamlGet f c.path
  let v := yamlGetValue g.2.1
  let r := c.callback v.1
  let u := yamlUpdate f g.1 r.1
  let fail (e : Err) : Text × List MErr := ([], [{ reason := e, matcher := c.name, path := c.path }])
  if (yamlParse b).2.notNil then fail (yamlParse b).2
  else if g.2.2.2.notNil then fail g.2.2.2
  else if g.2.2.1 = false then (if c.errOnMissingPath then fail (Err.other pathNotFound) else (b, []))
  else if v.2.notNil then fail v.2
  else if r.2.notNil then fail r.2
  else if u.2.notNil then fail u.2
  else (yamlMarshal u.1 (hasSuffix b [10]), [])

theorem customMatcher_YAML_eq (yamlParse : Text → YFile × Err) (yamlGet : YFile → Text → YPath × YNode × Bool × Err)
    (yamlGetValue : YNode → Text × Err) (yamlUpdate : YFile → YPath → Text → YFile × Err)
    (yamlMarshal : YFile → Bool → Text) (c : CustomMatcher) (b : Text) :
    customMatcher_YAML yamlParse yamlGet yamlGetValue yamlUpdate yamlMarshal c b =
      customYAMLSpec yamlParse yamlGet yamlGetValue yamlUpdate yamlMarshal c b := by
  unfold customMatcher_YAML customYAMLSpec
  simp only [Bool.not_eq_true']
  rfl

/-- success; update error; missing (error / input bytes unchanged); get error; callback error;
    parse error — every failure returns nil and exactly one error -/
example :
    open MToy in
    customMatcher_YAML yamlParse yamlGetE yamlGetValue yamlUpdateRO yamlMarshal (custom [1]) [10, 20, 30, 10] =
      ([10, 21, 30, 10], []) ∧
    customMatcher_YAML yamlParse yamlGetE yamlGetValue yamlUpdateRO yamlMarshal (custom [0]) [10, 20, 30, 10] =
      ([], [⟨eRO, nCustom, [0]⟩]) ∧
    customMatcher_YAML yamlParse yamlGetE yamlGetValue yamlUpdateRO yamlMarshal (custom [7]) [10, 20, 30, 10] =
      ([], [⟨errPathNotFound, nCustom, [7]⟩]) ∧
    customMatcher_YAML yamlParse yamlGetE yamlGetValue yamlUpdateRO yamlMarshal (custom [7] false) [10, 20, 30, 10] =
      ([10, 20, 30, 10], []) ∧
    customMatcher_YAML yamlParse yamlGetE yamlGetValue yamlUpdateRO yamlMarshal (custom []) [10, 20, 30, 10] =
      ([], [⟨eGet, nCustom, []⟩]) ∧
    customMatcher_YAML yamlParse yamlGetE yamlGetValue yamlUpdateRO yamlMarshal (custom [1]) [10, 220, 30, 10] =
      ([], [⟨eHi, nCustom, [1]⟩]) ∧
    customMatcher_YAML yamlParse yamlGetE yamlGetValue yamlUpdateRO yamlMarshal (custom [1]) [255, 20] =
      ([], [⟨eParse, nCustom, [1]⟩]) := by decide +kernel

/-! ## error accounting (C17: one failure that names every failing matcher and path) -/

/-- when does a path produce an error, and which: it is missing and `errOnMissingPath`, or its
    set failed -/
theorem anyErr_eq_some_iff (gjsonGet : Text → Text → GResult) (sjsonSet : Text → Text → Text → Text × Err)
    (a : AnyMatcher) (d p : Text) (e : Err) :
    anyErr gjsonGet sjsonSet a d p = some e ↔
      ((gjsonGet d p).exists = false ∧ a.errOnMissingPath = true ∧ e = Err.other pathNotFound) ∨
      ((gjsonGet d p).exists = true ∧ (sjsonSet d p a.placeholder).2.notNil = true ∧
        e = (sjsonSet d p a.placeholder).2) := by
  unfold anyErr
  cases (gjsonGet d p).exists with
  | false => cases a.errOnMissingPath <;> simp [@eq_comm _ e]
  | true => cases (sjsonSet d p a.placeholder).2.notNil <;> simp [@eq_comm _ e]

/-- the error list is exactly, in path order, one entry for every
    path that — on the document at the time it is reached — is missing (when `errOnMissingPath`)
    or whose set failed; the entry names `a.name` and that path -/
theorem anyMatcher_JSON_errors (gjsonGet : Text → Text → GResult) (sjsonSet : Text → Text → Text → Text × Err)
    (a : AnyMatcher) (b : Text) :
    (anyMatcher_JSON gjsonGet sjsonSet a b).2 =
      (withDocs (anyNext gjsonGet sjsonSet a) b a.paths).filterMap (fun x =>
        (anyErr gjsonGet sjsonSet a x.2 x.1).map (fun e => ({ reason := e, matcher := a.name, path := x.1 } : MErr))) := by
  rw [anyMatcher_JSON_eq]; rfl

/-- every error names the matcher and one of its paths; the error paths, in order, are a sub-list
    of the matcher's paths (at most one error per path occurrence) -/
theorem anyMatcher_JSON_errors_named (gjsonGet : Text → Text → GResult) (sjsonSet : Text → Text → Text → Text × Err)
    (a : AnyMatcher) (b : Text) :
    (∀ e ∈ (anyMatcher_JSON gjsonGet sjsonSet a b).2, e.matcher = a.name ∧ e.path ∈ a.paths) ∧
    ((anyMatcher_JSON gjsonGet sjsonSet a b).2.map (·.path)).Sublist a.paths ∧
    (anyMatcher_JSON gjsonGet sjsonSet a b).2.length ≤ a.paths.length := by
  rw [anyMatcher_JSON_eq]
  exact errsOf_accounting _ _ _ _ _

/-- `ErrOnMissingPath(false)` and no set errors ⇒ no errors at all (what `C17.missing_path_ignored`
    says of the abstract pipeline, for the transliteration) -/
theorem missing_path_ignored (gjsonGet : Text → Text → GResult)
    (sjsonSet : Text → Text → Text → Text × Err) (a : AnyMatcher) (b : Text)
    (he : a.errOnMissingPath = false) (hs : ∀ d p v, (sjsonSet d p v).2 = Err.nil) :
    (anyMatcher_JSON gjsonGet sjsonSet a b).2 = [] := by
  rw [anyMatcher_JSON_eq]
  apply (errsOf_eq_nil_iff _ _ _ _ _).mpr
  intro x _
  unfold anyErr
  simp [he, hs, Err.notNil]

/-- the toy instance: every path with the document at the time it is reached, and the resulting
    error paths (position 0 read-only, position 7 missing) -/
example :
    open MToy in
    withDocs (anyNext gjsonGet sjsonSetRO (any [[0], [1], [7], [2]])) [10, 20, 30] [[0], [1], [7], [2]] =
      [([0], [10, 20, 30]), ([1], [10, 20, 30]), ([7], [10, 63, 30]), ([2], [10, 63, 30])] ∧
    (anyMatcher_JSON gjsonGet sjsonSetRO (any [[0], [1], [7], [2]]) [10, 20, 30]).2.map (·.path) = [[0], [7]] ∧
    (anyMatcher_JSON gjsonGet sjsonSetRO (any [[0], [1], [7], [2]]) [10, 20, 30]).1 = [10, 63, 63] := by decide +kernel

example : (anyMatcher_JSON MToy.gjsonGet MToy.sjsonSet (MToy.any [[5], [1]] false) [10, 20, 30]).2 = [] :=
  missing_path_ignored _ _ _ _ rfl (fun _ _ _ => rfl)

theorem typeErr_eq_some_iff (gjsonGet : Text → Text → GResult) (sjsonSet : Text → Text → Text → Text × Err)
    (typeCheckFn : Text → Err) (typePlaceholderFn : Text → Text) (t : TypeMatcher) (d p : Text) (e : Err) :
    typeErr gjsonGet sjsonSet typeCheckFn typePlaceholderFn t d p = some e ↔
      ((gjsonGet d p).exists = false ∧ t.errOnMissingPath = true ∧ e = Err.other pathNotFound) ∨
      ((gjsonGet d p).exists = true ∧ (typeCheckFn (gjsonGet d p).value).notNil = true ∧
        e = typeCheckFn (gjsonGet d p).value) ∨
      ((gjsonGet d p).exists = true ∧ (typeCheckFn (gjsonGet d p).value).notNil = false ∧
        (sjsonSet d p (typePlaceholderFn (gjsonGet d p).value)).2.notNil = true ∧
        e = (sjsonSet d p (typePlaceholderFn (gjsonGet d p).value)).2) := by
  unfold typeErr
  cases (gjsonGet d p).exists with
  | false => cases t.errOnMissingPath <;> simp [@eq_comm _ e]
  | true =>
    cases (typeCheckFn (gjsonGet d p).value).notNil with
    | true => simp [@eq_comm _ e]
    | false => cases (sjsonSet d p (typePlaceholderFn (gjsonGet d p).value)).2.notNil <;> simp [@eq_comm _ e]

/-- one entry, in path order, for every path that is missing (when
    `errOnMissingPath`), holds a value of the wrong type, or whose set failed -/
theorem typeMatcher_JSON_errors (gjsonGet : Text → Text → GResult) (sjsonSet : Text → Text → Text → Text × Err)
    (typeCheckFn : Text → Err) (typePlaceholderFn : Text → Text) (t : TypeMatcher) (b : Text) :
    (typeMatcher_JSON gjsonGet sjsonSet typeCheckFn typePlaceholderFn t b).2 =
      (withDocs (typeNext gjsonGet sjsonSet typeCheckFn typePlaceholderFn) b t.paths).filterMap (fun x =>
        (typeErr gjsonGet sjsonSet typeCheckFn typePlaceholderFn t x.2 x.1).map
          (fun e => ({ reason := e, matcher := t.name, path := x.1 } : MErr))) := by
  rw [typeMatcher_JSON_eq]; rfl

theorem typeMatcher_JSON_errors_named (gjsonGet : Text → Text → GResult) (sjsonSet : Text → Text → Text → Text × Err)
    (typeCheckFn : Text → Err) (typePlaceholderFn : Text → Text) (t : TypeMatcher) (b : Text) :
    (∀ e ∈ (typeMatcher_JSON gjsonGet sjsonSet typeCheckFn typePlaceholderFn t b).2,
      e.matcher = t.name ∧ e.path ∈ t.paths) ∧
    ((typeMatcher_JSON gjsonGet sjsonSet typeCheckFn typePlaceholderFn t b).2.map (·.path)).Sublist t.paths ∧
    (typeMatcher_JSON gjsonGet sjsonSet typeCheckFn typePlaceholderFn t b).2.length ≤ t.paths.length := by
  rw [typeMatcher_JSON_eq]
  exact errsOf_accounting _ _ _ _ _

theorem typeMatcher_JSON_missing_path_ignored (gjsonGet : Text → Text → GResult)
    (sjsonSet : Text → Text → Text → Text × Err) (typeCheckFn : Text → Err) (typePlaceholderFn : Text → Text)
    (t : TypeMatcher) (b : Text)
    (he : t.errOnMissingPath = false) (hc : ∀ v, typeCheckFn v = Err.nil) (hs : ∀ d p v, (sjsonSet d p v).2 = Err.nil) :
    (typeMatcher_JSON gjsonGet sjsonSet typeCheckFn typePlaceholderFn t b).2 = [] := by
  rw [typeMatcher_JSON_eq]
  apply (errsOf_eq_nil_iff _ _ _ _ _).mpr
  intro x _
  unfold typeErr
  simp [he, hs, hc, Err.notNil]

/-- **custom matcher: at most one error, and then no document** (never a partially processed one);
    the error names the matcher and its path -/
def OneError (c : CustomMatcher) (r : Text × List MErr) : Prop :=
  r.2 = [] ∨ ∃ e, r = ([], [{ reason := e, matcher := c.name, path := c.path }])

theorem OneError.ite {c : CustomMatcher} {p : Prop} [Decidable p] {a b : Text × List MErr}
    (ha : OneError c a) (hb : OneError c b) : OneError c (if p then a else b) := by
  split <;> assumption

theorem OneError.errors {c : CustomMatcher} {r : Text × List MErr} (h : OneError c r) :
    r.2.length ≤ 1 ∧ (r.2 ≠ [] → r.1 = []) ∧ (∀ e ∈ r.2, e.matcher = c.name ∧ e.path = c.path) := by
  rcases h with h | ⟨e, rfl⟩
  · rw [h]; simp
  · simp

theorem customMatcher_JSON_errors (gjsonGet : Text → Text → GResult) (sjsonSet : Text → Text → Text → Text × Err)
    (c : CustomMatcher) (b : Text) :
    (customMatcher_JSON gjsonGet sjsonSet c b).2.length ≤ 1 ∧
    ((customMatcher_JSON gjsonGet sjsonSet c b).2 ≠ [] → (customMatcher_JSON gjsonGet sjsonSet c b).1 = []) ∧
    (∀ e ∈ (customMatcher_JSON gjsonGet sjsonSet c b).2, e.matcher = c.name ∧ e.path = c.path) := by
  rw [customMatcher_JSON_eq]
  -- every leaf of the closed form is a failure (nil and one error) or reports nothing
  exact OneError.errors (c := c)
    (.ite (.ite (.inr ⟨_, rfl⟩) (.inl rfl)) (.ite (.inr ⟨_, rfl⟩) (.ite (.inr ⟨_, rfl⟩) (.inl rfl))))

theorem customMatcher_YAML_errors (yamlParse : Text → YFile × Err) (yamlGet : YFile → Text → YPath × YNode × Bool × Err)
    (yamlGetValue : YNode → Text × Err) (yamlUpdate : YFile → YPath → Text → YFile × Err)
    (yamlMarshal : YFile → Bool → Text) (c : CustomMatcher) (b : Text) :
    let r := customMatcher_YAML yamlParse yamlGet yamlGetValue yamlUpdate yamlMarshal c b
    r.2.length ≤ 1 ∧ (r.2 ≠ [] → r.1 = []) ∧ (∀ e ∈ r.2, e.matcher = c.name ∧ e.path = c.path) := by
  rw [customMatcher_YAML_eq]
  exact OneError.errors (c := c) <|
    .ite (.inr ⟨_, rfl⟩) <| .ite (.inr ⟨_, rfl⟩) <| .ite (.ite (.inr ⟨_, rfl⟩) (.inl rfl)) <|
    .ite (.inr ⟨_, rfl⟩) <| .ite (.inr ⟨_, rfl⟩) <| .ite (.inr ⟨_, rfl⟩) (.inl rfl)

/-- the YAML loops: every error names the matcher and one of its paths or "*" -/
theorem anyMatcher_YAML_errors_named (yamlParse : Text → YFile × Err) (yamlGet : YFile → Text → YPath × YNode × Bool × Err)
    (yamlUpdate : YFile → YPath → Text → YFile × Err) (yamlMarshal : YFile → Bool → Text) (a : AnyMatcher) (b : Text) :
    ∀ e ∈ (anyMatcher_YAML yamlParse yamlGet yamlUpdate yamlMarshal a b).2,
      e.matcher = a.name ∧ (e.path ∈ a.paths ∨ e.path = [42]) := by
  intro e he
  rw [anyMatcher_YAML_eq] at he
  split at he
  · rw [List.mem_singleton.mp he]; exact ⟨rfl, .inr rfl⟩
  · exact ⟨(errsOf_named _ _ _ _ _ e he).1, .inl (errsOf_named _ _ _ _ _ e he).2.1⟩

theorem typeMatcher_YAML_errors_named (yamlParse : Text → YFile × Err) (yamlGet : YFile → Text → YPath × YNode × Bool × Err)
    (yamlGetValue : YNode → Text × Err) (yamlUpdate : YFile → YPath → Text → YFile × Err)
    (yamlMarshal : YFile → Bool → Text) (typeCheckFn : Text → Err) (typePlaceholderFn : Text → Text)
    (t : TypeMatcher) (b : Text) :
    ∀ e ∈ (typeMatcher_YAML yamlParse yamlGet yamlGetValue yamlUpdate yamlMarshal typeCheckFn typePlaceholderFn t b).2,
      e.matcher = t.name ∧ (e.path ∈ t.paths ∨ e.path = [42]) := by
  intro e he
  rw [typeMatcher_YAML_eq] at he
  split at he
  · rw [List.mem_singleton.mp he]; exact ⟨rfl, .inr rfl⟩
  · exact ⟨(errsOf_named _ _ _ _ _ e he).1, .inl (errsOf_named _ _ _ _ _ e he).2.1⟩

/-! ## ties to the abstract loops of C16 -/

section Lens
variable {D : Type}

/-- one iteration of `C16.maskWith` -/
def mwStep (get : D → Text → Option Text) (set : D → Text → Text → D) (f : Text → Text) (d : D) (p : Text) : D :=
  match get d p with
  | some v => set d p (f v)
  | none => d

theorem mwStep_some {get : D → Text → Option Text} {set : D → Text → Text → D} {f : Text → Text} {d : D} {p v : Text}
    (h : get d p = some v) : mwStep get set f d p = set d p (f v) := by
  simp only [mwStep, h]

theorem mwStep_none {get : D → Text → Option Text} {set : D → Text → Text → D} {f : Text → Text} {d : D} {p : Text}
    (h : get d p = none) : mwStep get set f d p = d := by
  simp only [mwStep, h]

theorem maskWith_eq_foldl (get : D → Text → Option Text) (set : D → Text → Text → D) (f : Text → Text)
    (M : List Text) (d : D) : C16.maskWith get set f M d = M.foldl (mwStep get set f) d := by
  induction M generalizing d with
  | nil => rfl
  | cons p M ih =>
    rw [List.foldl_cons, ← ih]
    cases h : get d p with
    | none => simp only [C16.maskWith, List.foldl_cons, h, mwStep_none h]
    | some v => simp only [C16.maskWith, List.foldl_cons, h, mwStep_some h]

/-- with a constant placeholder and every path present when it is reached, `maskWith` is `mask` -/
theorem maskWith_const_eq_mask (get : D → Text → Option Text) (set : D → Text → Text → D) (ph : Text)
    (M : List Text) (d : D) (hall : ∀ x ∈ withDocs (fun d p => set d p ph) d M, get x.2 x.1 ≠ none) :
    withDocs (fun d p => set d p ph) d M = withDocs (mwStep get set (fun _ => ph)) d M ∧
    C16.mask set M ph d = C16.maskWith get set (fun _ => ph) M d := by
  rw [maskWith_eq_foldl]
  refine withDocs_congr _ _ d M fun x hx => ?_
  cases h : get x.2 x.1 with
  | none => exact absurd h (hall x hx)
  | some v => rw [mwStep_some h]

/-- under the lens laws, pairwise disjoint paths that exist in the input still exist when they are
    reached -/
theorem paths_persist {get : D → Text → Option Text} {set : D → Text → Text → D}
    {Disj : Text → Text → Prop} {overlap : Text → Text → Text → Option Text}
    (h : C16.LensSpec get set Disj overlap) (ph : Text) (M : List Text) (d : D)
    (hM : M.Pairwise Disj) (hex : ∀ p ∈ M, get d p ≠ none) :
    ∀ x ∈ withDocs (fun d p => set d p ph) d M, get x.2 x.1 ≠ none := by
  induction M generalizing d with
  | nil => intro x hx; cases hx
  | cons p M ih =>
    obtain ⟨hp, hM'⟩ := List.pairwise_cons.mp hM
    intro x hx
    rcases List.mem_cons.mp hx with rfl | hx
    · exact hex p (by simp)
    · refine ih (set d p ph) hM' ?_ x hx
      intro q hq
      rw [h.get_set_other d p q ph (hp q hq)]
      exact hex q (by simp [hq])

/-- what a path of a Type-like loop needs in order to succeed on `d`: the value found passes the
    check; a missing path is tolerated only with `ErrOnMissingPath(false)` -/
def PathOK (get : D → Text → Option Text) (chk : Text → Err) (eomp : Bool) (d : D) (p : Text) : Prop :=
  match get d p with
  | some v => chk v = Err.nil
  | none => eomp = false

instance (get : D → Text → Option Text) (chk : Text → Err) (eomp : Bool) (d : D) (p : Text) :
    Decidable (PathOK get chk eomp d p) :=
  show Decidable (match get d p with | some v => chk v = Err.nil | none => eomp = false) from
  match get d p with
  | some v => inferInstanceAs (Decidable (chk v = Err.nil))
  | none => inferInstanceAs (Decidable (eomp = false))

/-- a generic loop that, on every (path, document) reached by `maskWith`, moves like `maskWith`
    and reports nothing, IS `maskWith` and reports nothing -/
theorem loop_eq_maskWith (get : D → Text → Option Text) (set : D → Text → Text → D) (f : Text → Text)
    (name : Text) (next : D → Text → D) (err : D → Text → Option Err) (M : List Text) (d : D)
    (h : ∀ x ∈ withDocs (mwStep get set f) d M, next x.2 x.1 = mwStep get set f x.2 x.1 ∧ err x.2 x.1 = none) :
    M.foldl next d = C16.maskWith get set f M d ∧ errsOf name next err d M = [] := by
  obtain ⟨hw, hf⟩ := withDocs_congr (mwStep get set f) next d M (fun x hx => (h x hx).1.symm)
  refine ⟨by rw [maskWith_eq_foldl, hf], (errsOf_eq_nil_iff _ _ _ _ _).mpr ?_⟩
  intro x hx
  rw [← hw] at hx
  exact (h x hx).2

end Lens

/-! ### JSON -/

/-- how `gjson.GetBytes` / `sjson.SetBytesOptions` implement an abstract lens on `Doc := Text`,
    `Path := Text`, `Val := Text` (no set errors) -/
structure JSONLens (gjsonGet : Text → Text → GResult) (sjsonSet : Text → Text → Text → Text × Err)
    (get : Text → Text → Option Text) (set : Text → Text → Text → Text) : Prop where
  exists_iff : ∀ d p, (gjsonGet d p).exists = (get d p).isSome
  value_eq : ∀ d p v, get d p = some v → (gjsonGet d p).value = v
  set_eq : ∀ d p v, sjsonSet d p v = (set d p v, Err.nil)

theorem MToy.lens : JSONLens MToy.gjsonGet MToy.sjsonSet MToy.get MToy.set where
  exists_iff _ _ := rfl
  value_eq d p v h := by simp [MToy.gjsonGet, h]
  set_eq _ _ _ := rfl

namespace MToy
/-- a second toy, satisfying ALL lens laws of C16: the only path is the empty path, which
    addresses the whole document -/
def wget (d p : Text) : Option Text := if p = [] then some d else none
def wset (d p v : Text) : Text := if p = [] then v else d
def wgjson (d p : Text) : GResult := ⟨decide (p = []), d⟩
def wsjson (d p v : Text) : Text × Err := (wset d p v, .nil)

theorem wspec : C16.LensSpec wget wset (fun p q => p ≠ [] ∨ q ≠ []) (fun _ _ v => some v) where
  get_set_same d p v h := by
    by_cases hp : p = [] <;> simp_all [wget, wset]
  get_set_other d p q v h := by
    by_cases hp : p = [] <;> by_cases hq : q = [] <;> simp_all [wget, wset]
  get_set_overlap d p q v h _ := by
    by_cases hp : p = [] <;> by_cases hq : q = [] <;> simp_all [wget, wset]
  ext a b h := by simpa [wget] using h []

theorem wlens : JSONLens wgjson wsjson wget wset where
  exists_iff d p := by by_cases hp : p = [] <;> simp [wgjson, wget, hp]
  value_eq d p v h := by by_cases hp : p = [] <;> simp_all [wgjson, wget]
  set_eq _ _ _ := rfl
end MToy

section JSON
variable {gjsonGet : Text → Text → GResult} {sjsonSet : Text → Text → Text → Text × Err}
  {get : Text → Text → Option Text} {set : Text → Text → Text → Text}

theorem typeNext_lens (h : JSONLens gjsonGet sjsonSet get set) (chk : Text → Err) (ph : Text → Text) (t : TypeMatcher)
    (d p : Text) (hok : PathOK get chk t.errOnMissingPath d p) :
    typeNext gjsonGet sjsonSet chk ph d p = mwStep get set ph d p ∧
    typeErr gjsonGet sjsonSet chk ph t d p = none := by
  unfold typeNext typeErr PathOK at *
  cases hg : get d p with
  | none =>
    rw [hg] at hok
    simp [h.exists_iff, hg, mwStep_none hg, hok]
  | some v =>
    rw [hg] at hok
    simp [h.exists_iff, hg, mwStep_some hg, h.value_eq d p v hg, hok, h.set_eq, Err.notNil]

/-- **Type, JSON**: the type check succeeds on the values found, missing paths only with
    `ErrOnMissingPath(false)` ⇒ the transliteration is `C16.maskWith` and reports nothing -/
theorem typeMatcher_JSON_lens (h : JSONLens gjsonGet sjsonSet get set) (chk : Text → Err) (ph : Text → Text)
    (t : TypeMatcher) (b : Text)
    (hok : ∀ x ∈ withDocs (mwStep get set ph) b t.paths, PathOK get chk t.errOnMissingPath x.2 x.1) :
    typeMatcher_JSON gjsonGet sjsonSet chk ph t b = (C16.maskWith get set ph t.paths b, []) := by
  rw [typeMatcher_JSON_eq]
  obtain ⟨h1, h2⟩ := loop_eq_maskWith get set ph t.name (typeNext gjsonGet sjsonSet chk ph)
    (typeErr gjsonGet sjsonSet chk ph t) t.paths b (fun x hx => typeNext_lens h chk ph t x.2 x.1 (hok x hx))
  rw [h1, h2]

/-- in particular: the check never fails, `ErrOnMissingPath(false)`; some paths may be
    missing -/
theorem typeMatcher_JSON_lens_missing (h : JSONLens gjsonGet sjsonSet get set) (chk : Text → Err) (ph : Text → Text)
    (t : TypeMatcher) (b : Text) (hc : ∀ v, chk v = Err.nil) (he : t.errOnMissingPath = false) :
    typeMatcher_JSON gjsonGet sjsonSet chk ph t b = (C16.maskWith get set ph t.paths b, []) := by
  apply typeMatcher_JSON_lens h
  intro x _
  unfold PathOK
  cases get x.2 x.1 <;> simp [hc, he]

/-- **Any, JSON** in general: without set errors the document is `maskWith` with the constant
    placeholder (a missing path is left alone) … -/
theorem anyMatcher_JSON_lens_maskWith (h : JSONLens gjsonGet sjsonSet get set) (a : AnyMatcher) (b : Text)
    (hok : ∀ x ∈ withDocs (mwStep get set (fun _ => a.placeholder)) b a.paths,
      get x.2 x.1 = none → a.errOnMissingPath = false) :
    anyMatcher_JSON gjsonGet sjsonSet a b = (C16.maskWith get set (fun _ => a.placeholder) a.paths b, []) := by
  rw [anyMatcher_JSON_eq]
  -- `anyNext` / `anyErr` unfold to `typeNext` / `typeErr` at the check `fun _ => nil`, the placeholder
  -- `fun _ => a.placeholder` and a `TypeMatcher` carrying `a`'s paths, option and name, so the step
  -- lemma of Type applies as it stands
  obtain ⟨h1, h2⟩ := loop_eq_maskWith get set (fun _ => a.placeholder) a.name (anyNext gjsonGet sjsonSet a)
    (anyErr gjsonGet sjsonSet a) a.paths b (fun x hx =>
      typeNext_lens h (fun _ => Err.nil) (fun _ => a.placeholder) ⟨a.paths, a.errOnMissingPath, a.name, []⟩ x.2 x.1 (by
        unfold PathOK
        cases hg : get x.2 x.1 with
        | none => exact hok x hx hg
        | some v => rfl))
  rw [h1, h2]

/-- … and **if every path exists in the document at the time it is reached, it is `C16.mask`** -/
theorem anyMatcher_JSON_lens (h : JSONLens gjsonGet sjsonSet get set) (a : AnyMatcher) (b : Text)
    (hall : ∀ x ∈ withDocs (fun d p => set d p a.placeholder) b a.paths, get x.2 x.1 ≠ none) :
    anyMatcher_JSON gjsonGet sjsonSet a b = (C16.mask set a.paths a.placeholder b, []) := by
  obtain ⟨hw, hm⟩ := maskWith_const_eq_mask get set a.placeholder a.paths b hall
  rw [hm]
  apply anyMatcher_JSON_lens_maskWith h
  intro x hx hg
  rw [← hw] at hx
  exact absurd hg (hall x hx)

/-- the same from the lens laws: pairwise disjoint paths that exist in the INPUT -/
theorem anyMatcher_JSON_lens_spec (h : JSONLens gjsonGet sjsonSet get set)
    {Disj : Text → Text → Prop} {overlap : Text → Text → Text → Option Text}
    (hl : C16.LensSpec get set Disj overlap) (a : AnyMatcher) (b : Text)
    (hM : a.paths.Pairwise Disj) (hex : ∀ p ∈ a.paths, get b p ≠ none) :
    anyMatcher_JSON gjsonGet sjsonSet a b = (C16.mask set a.paths a.placeholder b, []) :=
  anyMatcher_JSON_lens h a b (paths_persist hl a.placeholder a.paths b hM hex)

/-- hence C16's `masked_irrelevant` for the transliteration: two inputs that agree off the masked
    paths give the same document, whatever stands at the masked paths -/
theorem anyMatcher_JSON_masked_irrelevant (h : JSONLens gjsonGet sjsonSet get set)
    {Disj : Text → Text → Prop} {overlap : Text → Text → Text → Option Text}
    (hl : C16.LensSpec get set Disj overlap) (a : AnyMatcher) (b b' : Text)
    (hM : a.paths.Pairwise Disj) (hex : ∀ p ∈ a.paths, get b p ≠ none) (hex' : ∀ p ∈ a.paths, get b' p ≠ none)
    (hag : ∀ q, (∀ p ∈ a.paths, Disj p q) → get b q = get b' q) :
    anyMatcher_JSON gjsonGet sjsonSet a b = anyMatcher_JSON gjsonGet sjsonSet a b' := by
  rw [anyMatcher_JSON_lens_spec h hl a b hM hex, anyMatcher_JSON_lens_spec h hl a b' hM hex',
    C16.masked_irrelevant hl a.paths a.placeholder b b' hM hex hex' hag]

/-- **Custom, JSON**, general form: the callback succeeds on the value found (a missing path only
    with `ErrOnMissingPath(false)`) ⇒ `maskWith` on the single path with the callback's value -/
theorem customMatcher_JSON_lens_ok (h : JSONLens gjsonGet sjsonSet get set) (c : CustomMatcher) (b : Text)
    (hok : PathOK get (fun v => (c.callback v).2) c.errOnMissingPath b c.path) :
    customMatcher_JSON gjsonGet sjsonSet c b = (C16.maskWith get set (fun v => (c.callback v).1) [c.path] b, []) := by
  rw [customMatcher_JSON_eq, maskWith_eq_foldl]
  unfold customJSONSpec
  unfold PathOK at hok
  simp only [List.foldl_cons, List.foldl_nil]
  cases hg : get b c.path with
  | none =>
    rw [hg] at hok
    simp [h.exists_iff, hg, mwStep_none hg, hok]
  | some v =>
    rw [hg] at hok
    simp [h.exists_iff, hg, mwStep_some hg, h.value_eq b c.path v hg, hok, h.set_eq, Err.notNil]

/-- **Custom, JSON**: a callback `cb v = (f v, nil)` on a present path (or a missing one with
    `ErrOnMissingPath(false)`) is `maskWith f` on the single path -/
theorem customMatcher_JSON_lens (h : JSONLens gjsonGet sjsonSet get set) (c : CustomMatcher) (f : Text → Text)
    (b : Text) (hcb : ∀ v, c.callback v = (f v, Err.nil))
    (hm : c.errOnMissingPath = false ∨ get b c.path ≠ none) :
    customMatcher_JSON gjsonGet sjsonSet c b = (C16.maskWith get set f [c.path] b, []) := by
  have hf : (fun v => (c.callback v).1) = f := by funext v; rw [hcb]
  rw [← hf]
  apply customMatcher_JSON_lens_ok h
  unfold PathOK
  cases hg : get b c.path with
  | none =>
    rcases hm with hm | hm
    · exact hm
    · exact absurd hg hm
  | some v => simp [hcb]

end JSON

/-! non-vacuity of the JSON lens ties on the toy libraries -/

/-- toy: both paths present ⇒ the transliteration IS `C16.mask`; and with a missing non-last path
    and `ErrOnMissingPath(false)` it is `maskWith` with the constant placeholder (later path masked) -/
example :
    open MToy in
    anyMatcher_JSON gjsonGet sjsonSet (any [[0], [2]]) [10, 20, 30] = (C16.mask set [[0], [2]] [63] [10, 20, 30], []) ∧
    C16.mask set [[0], [2]] [63] [10, 20, 30] = [63, 20, 63] ∧
    anyMatcher_JSON gjsonGet sjsonSet (any [[5], [2]] false) [10, 20, 30] =
      (C16.maskWith get set (fun _ => [63]) [[5], [2]] [10, 20, 30], []) ∧
    C16.maskWith get set (fun _ => [63]) [[5], [2]] [10, 20, 30] = [10, 20, 63] :=
  ⟨anyMatcher_JSON_lens MToy.lens _ _ (by decide +kernel), by decide +kernel,
   anyMatcher_JSON_lens_maskWith MToy.lens (MToy.any [[5], [2]] false) _ (by decide +kernel), by decide +kernel⟩

/-- toy: a missing non-last path, `ErrOnMissingPath(false)`, the later path is still masked -/
example :
    open MToy in
    typeMatcher_JSON gjsonGet sjsonSet chk ph (type [[5], [1]] false) [10, 20, 90] =
      (C16.maskWith get set ph [[5], [1]] [10, 20, 90], []) ∧
    C16.maskWith get set ph [[5], [1]] [10, 20, 90] = [10, 78, 90] :=
  ⟨typeMatcher_JSON_lens MToy.lens _ _ (MToy.type [[5], [1]] false) _ (by decide +kernel), by decide +kernel⟩

/-- the whole-document toy satisfies the lens laws: two different inputs, path [] masked ⇒ same
    result "?" -/
example :
    anyMatcher_JSON MToy.wgjson MToy.wsjson (MToy.any [[]]) [1, 2] = anyMatcher_JSON MToy.wgjson MToy.wsjson (MToy.any [[]]) [3] ∧
    anyMatcher_JSON MToy.wgjson MToy.wsjson (MToy.any [[]]) [1, 2] = ([63], []) :=
  ⟨anyMatcher_JSON_masked_irrelevant MToy.wlens MToy.wspec (MToy.any [[]]) [1, 2] [3] (by simp [MToy.any])
    (by decide +kernel) (by decide +kernel) (fun q hq => by
      have : q ≠ [] := by simpa [MToy.any] using hq
      simp [MToy.wget, this]), by decide +kernel⟩

/-- toy: Custom, general form and `cb v = (f v, nil)` form (present path; missing path ignored) -/
example :
    open MToy in
    customMatcher_JSON gjsonGet sjsonSet (custom [1]) [10, 20, 30] =
      (C16.maskWith get set (fun v => (cb v).1) [[1]] [10, 20, 30], []) ∧
    C16.maskWith get set (fun v => (cb v).1) [[1]] [10, 20, 30] = [10, 21, 30] ∧
    customMatcher_JSON gjsonGet sjsonSet ⟨fun v => (v.map (· + 1), Err.nil), true, nCustom, [1]⟩ [10, 20, 30] =
      (C16.maskWith get set (fun v => v.map (· + 1)) [[1]] [10, 20, 30], []) ∧
    customMatcher_JSON gjsonGet sjsonSet ⟨fun v => (v.map (· + 1), Err.nil), false, nCustom, [7]⟩ [10, 20, 30] =
      (C16.maskWith get set (fun v => v.map (· + 1)) [[7]] [10, 20, 30], []) :=
  ⟨customMatcher_JSON_lens_ok MToy.lens (MToy.custom [1]) _ (by decide +kernel), by decide +kernel,
   customMatcher_JSON_lens MToy.lens _ _ _ (fun _ => rfl) (.inr (by decide +kernel)),
   customMatcher_JSON_lens MToy.lens _ _ _ (fun _ => rfl) (.inl rfl)⟩


/-! ### YAML: the abstract document is the parsed file -/

/-- how `yaml.Get` / `yaml.Update` implement an abstract lens on `Doc := YFile` (no errors) -/
structure YAMLLens (yamlGet : YFile → Text → YPath × YNode × Bool × Err) (yamlUpdate : YFile → YPath → Text → YFile × Err)
    (get : YFile → Text → Option Text) (set : YFile → Text → Text → YFile) : Prop where
  get_ok : ∀ f p, (yamlGet f p).2.2.2 = Err.nil
  exists_iff : ∀ f p, (yamlGet f p).2.2.1 = (get f p).isSome
  update_eq : ∀ f p v, yamlUpdate f (yamlGet f p).1 v = (set f p v, Err.nil)

theorem MToy.ylens : YAMLLens MToy.yamlGet MToy.yamlUpdate MToy.get MToy.set where
  get_ok _ _ := rfl
  exists_iff _ _ := rfl
  update_eq _ _ _ := rfl

theorem MToy.yvalue (f : YFile) (p v : Text) (h : MToy.get f p = some v) :
    MToy.yamlGetValue (MToy.yamlGet f p).2.1 = (v, Err.nil) := by
  simp [MToy.yamlGetValue, MToy.yamlGet, h]

section YAML
variable {yamlGet : YFile → Text → YPath × YNode × Bool × Err} {yamlUpdate : YFile → YPath → Text → YFile × Err}
  {get : YFile → Text → Option Text} {set : YFile → Text → Text → YFile}

theorem anyYNext_lens (h : YAMLLens yamlGet yamlUpdate get set) (a : AnyMatcher) (f : YFile) (p : Text)
    (hok : get f p = none → a.errOnMissingPath = false) :
    anyYNext yamlGet yamlUpdate a f p = mwStep get set (fun _ => a.placeholder) f p ∧
    anyYErr yamlGet yamlUpdate a f p = none := by
  unfold anyYNext anyYErr
  cases hg : get f p with
  | none => simp [h.get_ok, h.exists_iff, hg, mwStep_none hg, hok hg, Err.notNil]
  | some v => simp [h.get_ok, h.exists_iff, hg, mwStep_some hg, h.update_eq, Err.notNil]

/-- **Any, YAML**: every path present when it is reached ⇒ the marshalled `C16.mask` of the
    parsed file, no errors -/
theorem anyMatcher_YAML_lens (h : YAMLLens yamlGet yamlUpdate get set) (yamlParse : Text → YFile × Err)
    (yamlMarshal : YFile → Bool → Text) (a : AnyMatcher) (b : Text) (f0 : YFile) (hp : yamlParse b = (f0, Err.nil))
    (hall : ∀ x ∈ withDocs (fun d p => set d p a.placeholder) f0 a.paths, get x.2 x.1 ≠ none) :
    anyMatcher_YAML yamlParse yamlGet yamlUpdate yamlMarshal a b =
      (yamlMarshal (C16.mask set a.paths a.placeholder f0) (hasSuffix b [10]), []) := by
  obtain ⟨hw, hm⟩ := maskWith_const_eq_mask get set a.placeholder a.paths f0 hall
  rw [hm]
  simp only [anyMatcher_YAML_eq, hp, Err.notNil, Bool.false_eq_true, ↓reduceIte]
  obtain ⟨h1, h2⟩ := loop_eq_maskWith get set (fun _ => a.placeholder) a.name (anyYNext yamlGet yamlUpdate a)
    (anyYErr yamlGet yamlUpdate a) a.paths f0
    (fun x hx => anyYNext_lens h a x.2 x.1 fun hg => absurd hg (hall x (hw ▸ hx)))
  rw [h1, h2]

theorem typeYNext_lens (h : YAMLLens yamlGet yamlUpdate get set) (yamlGetValue : YNode → Text × Err)
    (hv : ∀ f p v, get f p = some v → yamlGetValue (yamlGet f p).2.1 = (v, Err.nil))
    (chk : Text → Err) (ph : Text → Text) (t : TypeMatcher) (f : YFile) (p : Text)
    (hok : PathOK get chk t.errOnMissingPath f p) :
    typeYNext yamlGet yamlGetValue yamlUpdate chk ph f p = mwStep get set ph f p ∧
    typeYErr yamlGet yamlGetValue yamlUpdate chk ph t f p = none := by
  unfold typeYNext typeYErr PathOK at *
  cases hg : get f p with
  | none =>
    rw [hg] at hok
    simp [h.get_ok, h.exists_iff, hg, mwStep_none hg, hok, Err.notNil]
  | some v =>
    rw [hg] at hok
    simp [h.get_ok, h.exists_iff, hg, mwStep_some hg, hv f p v hg, hok, h.update_eq, Err.notNil]

theorem typeMatcher_YAML_lens (h : YAMLLens yamlGet yamlUpdate get set) (yamlParse : Text → YFile × Err)
    (yamlGetValue : YNode → Text × Err) (yamlMarshal : YFile → Bool → Text)
    (hv : ∀ f p v, get f p = some v → yamlGetValue (yamlGet f p).2.1 = (v, Err.nil))
    (chk : Text → Err) (ph : Text → Text) (t : TypeMatcher) (b : Text) (f0 : YFile)
    (hp : yamlParse b = (f0, Err.nil))
    (hok : ∀ x ∈ withDocs (mwStep get set ph) f0 t.paths, PathOK get chk t.errOnMissingPath x.2 x.1) :
    typeMatcher_YAML yamlParse yamlGet yamlGetValue yamlUpdate yamlMarshal chk ph t b =
      (yamlMarshal (C16.maskWith get set ph t.paths f0) (hasSuffix b [10]), []) := by
  simp only [typeMatcher_YAML_eq, hp, Err.notNil, Bool.false_eq_true, ↓reduceIte]
  obtain ⟨h1, h2⟩ := loop_eq_maskWith get set ph t.name (typeYNext yamlGet yamlGetValue yamlUpdate chk ph)
    (typeYErr yamlGet yamlGetValue yamlUpdate chk ph t) t.paths f0
    (fun x hx => typeYNext_lens h yamlGetValue hv chk ph t x.2 x.1 (hok x hx))
  rw [h1, h2]

/-- **Custom, YAML**: on a present path; a missing path with `ErrOnMissingPath(false)` returns
    the INPUT BYTES (not the re-marshalled file) -/
theorem customMatcher_YAML_lens (h : YAMLLens yamlGet yamlUpdate get set) (yamlParse : Text → YFile × Err)
    (yamlGetValue : YNode → Text × Err) (yamlMarshal : YFile → Bool → Text)
    (hv : ∀ f p v, get f p = some v → yamlGetValue (yamlGet f p).2.1 = (v, Err.nil))
    (c : CustomMatcher) (f : Text → Text) (b : Text) (f0 : YFile) (hp : yamlParse b = (f0, Err.nil))
    (hcb : ∀ v, c.callback v = (f v, Err.nil)) :
    customMatcher_YAML yamlParse yamlGet yamlGetValue yamlUpdate yamlMarshal c b =
      if get f0 c.path = none then
        (if c.errOnMissingPath then ([], [{ reason := Err.other pathNotFound, matcher := c.name, path := c.path }])
         else (b, []))
      else (yamlMarshal (C16.maskWith get set f [c.path] f0) (hasSuffix b [10]), []) := by
  rw [customMatcher_YAML_eq, maskWith_eq_foldl]
  unfold customYAMLSpec
  simp only [List.foldl_cons, List.foldl_nil, hp]
  cases hg : get f0 c.path with
  | none => cases c.errOnMissingPath <;> simp [h.get_ok, h.exists_iff, hg, Err.notNil]
  | some v => simp [h.get_ok, h.exists_iff, hg, mwStep_some hg, hv f0 c.path v hg, hcb, h.update_eq, Err.notNil]

/-- **Custom, YAML**, general form: the callback succeeds on the value found -/
theorem customMatcher_YAML_lens_ok (h : YAMLLens yamlGet yamlUpdate get set) (yamlParse : Text → YFile × Err)
    (yamlGetValue : YNode → Text × Err) (yamlMarshal : YFile → Bool → Text)
    (hv : ∀ f p v, get f p = some v → yamlGetValue (yamlGet f p).2.1 = (v, Err.nil))
    (c : CustomMatcher) (b : Text) (f0 : YFile) (hp : yamlParse b = (f0, Err.nil))
    (hok : PathOK get (fun v => (c.callback v).2) c.errOnMissingPath f0 c.path) :
    customMatcher_YAML yamlParse yamlGet yamlGetValue yamlUpdate yamlMarshal c b =
      (if get f0 c.path = none then b
       else yamlMarshal (C16.maskWith get set (fun v => (c.callback v).1) [c.path] f0) (hasSuffix b [10]), []) := by
  rw [customMatcher_YAML_eq, maskWith_eq_foldl]
  unfold customYAMLSpec
  unfold PathOK at hok
  simp only [List.foldl_cons, List.foldl_nil, hp]
  cases hg : get f0 c.path with
  | none =>
    rw [hg] at hok
    simp [h.get_ok, h.exists_iff, hg, hok, Err.notNil]
  | some v =>
    rw [hg] at hok
    simp [h.get_ok, h.exists_iff, hg, mwStep_some hg, hv f0 c.path v hg, hok, h.update_eq, Err.notNil]

end YAML

/-- toy, input "\x0a\x14\x5a\n": Any masks [0] and [2]; Type skips the missing [5] and masks [1];
    Custom maps [1]; the final newline comes back -/
example :
    open MToy in
    anyMatcher_YAML yamlParse yamlGet yamlUpdate yamlMarshal (any [[0], [2]]) [10, 20, 90, 10] =
      (yamlMarshal (C16.mask set [[0], [2]] [63] [10, 20, 90]) true, []) ∧
    yamlMarshal (C16.mask set [[0], [2]] [63] [10, 20, 90]) true = [63, 20, 63, 10] ∧
    typeMatcher_YAML yamlParse yamlGet yamlGetValue yamlUpdate yamlMarshal chk ph (type [[5], [1]] false) [10, 20, 90, 10] =
      (yamlMarshal (C16.maskWith get set ph [[5], [1]] [10, 20, 90]) true, []) ∧
    yamlMarshal (C16.maskWith get set ph [[5], [1]] [10, 20, 90]) true = [10, 78, 90, 10] ∧
    customMatcher_YAML yamlParse yamlGet yamlGetValue yamlUpdate yamlMarshal
        ⟨fun v => (v.map (· + 1), Err.nil), true, nCustom, [1]⟩ [10, 20, 90, 10] = ([10, 21, 90, 10], []) :=
  ⟨anyMatcher_YAML_lens MToy.ylens _ _ (MToy.any [[0], [2]]) _ [10, 20, 90] (by decide +kernel) (by decide +kernel), by decide +kernel,
   typeMatcher_YAML_lens MToy.ylens _ _ _ MToy.yvalue _ _ (MToy.type [[5], [1]] false) _ [10, 20, 90] (by decide +kernel)
     (by decide +kernel), by decide +kernel,
   by rw [customMatcher_YAML_lens MToy.ylens _ _ _ MToy.yvalue _ (fun v => v.map (· + 1)) _ [10, 20, 90] (by decide +kernel)
        (fun _ => rfl)]; decide +kernel⟩


/-! ## option methods, `matcherError`, reuse -/

/-- the receiver is changed AND returned: statement-style use (`a.Placeholder(p)`) and chained use
    (`a.Placeholder(p).…`) see the same matcher -/
theorem anyMatcher_Placeholder_eq (a : AnyMatcher) (p : Text) :
    anyMatcher_Placeholder a p = ({ a with placeholder := p }, { a with placeholder := p }) := rfl

theorem anyMatcher_ErrOnMissingPath_eq (a : AnyMatcher) (e : Bool) :
    anyMatcher_ErrOnMissingPath a e = ({ a with errOnMissingPath := e }, { a with errOnMissingPath := e }) := rfl

theorem customMatcher_ErrOnMissingPath_eq (c : CustomMatcher) (e : Bool) :
    customMatcher_ErrOnMissingPath c e = ({ c with errOnMissingPath := e }, { c with errOnMissingPath := e }) := rfl

theorem typeMatcher_ErrOnMissingPath_eq (t : TypeMatcher) (e : Bool) :
    typeMatcher_ErrOnMissingPath t e = ({ t with errOnMissingPath := e }, { t with errOnMissingPath := e }) := rfl

/-- the options touch their own field only, commute, and the last call wins -/
theorem anyMatcher_options (a : AnyMatcher) (p : Text) (e e' : Bool) :
    (anyMatcher_Placeholder a p).1.paths = a.paths ∧ (anyMatcher_Placeholder a p).1.name = a.name ∧
    (anyMatcher_Placeholder a p).1.errOnMissingPath = a.errOnMissingPath ∧
    (anyMatcher_ErrOnMissingPath a e).1.placeholder = a.placeholder ∧
    (anyMatcher_ErrOnMissingPath (anyMatcher_Placeholder a p).1 e).1 =
      (anyMatcher_Placeholder (anyMatcher_ErrOnMissingPath a e).1 p).1 ∧
    (anyMatcher_ErrOnMissingPath (anyMatcher_ErrOnMissingPath a e).1 e').1 = (anyMatcher_ErrOnMissingPath a e').1 :=
  ⟨rfl, rfl, rfl, rfl, rfl, rfl⟩

theorem anyMatcher_matcherError_eq (a : AnyMatcher) (err : Err) (path : Text) :
    anyMatcher_matcherError a err path = { reason := err, matcher := a.name, path := path } := rfl

theorem typeMatcher_matcherError_eq (t : TypeMatcher) (err : Err) (path : Text) :
    typeMatcher_matcherError t err path = { reason := err, matcher := t.name, path := path } := rfl

theorem customMatcher_matcherError_eq (c : CustomMatcher) (err : Err) :
    customMatcher_matcherError c err = [{ reason := err, matcher := c.name, path := c.path }] := rfl

/-- **reuse**: `JSON` has a value receiver and returns (document, errors) only — the result is a
    function of (matcher, input): applying one matcher value to two inputs, in either order, or
    twice to the same input, gives the same results -/
theorem anyMatcher_JSON_reuse (g : Text → Text → GResult) (s : Text → Text → Text → Text × Err) (a : AnyMatcher)
    (b₁ b₂ : Text) :
    (let r₁ := anyMatcher_JSON g s a b₁; let r₂ := anyMatcher_JSON g s a b₂; (r₁, r₂)) =
    (let r₂ := anyMatcher_JSON g s a b₂; let r₁ := anyMatcher_JSON g s a b₁; (r₁, r₂)) := rfl

/-! ## composition with the flows: concrete matchers instantiate `run` -/

/-- the JSON document library as the transliterations take it -/
structure JSONLib where
  gjsonGet : Text → Text → GResult
  sjsonSet : Text → Text → Text → Text × Err
  /-- `typeCheck[ExpectedType]`, indexed by the matcher's `expectedType` -/
  typeCheck : Text → Text → Err
  typePlaceholder : Text → Text

/-- a `match.JSONMatcher` / `match.YAMLMatcher` value: one of the three kinds of matcher -/
inductive AnyM
  | any (a : AnyMatcher)
  | type (t : TypeMatcher)
  | custom (c : CustomMatcher)

/-- `m.JSON(b)`: dynamic dispatch to the three transliterations -/
def runJSON (lib : JSONLib) : AnyM → Text → Text × List MErr
  | .any a, b => anyMatcher_JSON lib.gjsonGet lib.sjsonSet a b
  | .type t, b => typeMatcher_JSON lib.gjsonGet lib.sjsonSet (lib.typeCheck t.expectedType) lib.typePlaceholder t b
  | .custom c, b => customMatcher_JSON lib.gjsonGet lib.sjsonSet c b

/-- Flows.lean's opaque `Matcher` values are indices into the list of matchers handed to the
    Match* call: `runTable (runJSON lib) tbl` is the `run` parameter of `matchJSON` / `matchStandaloneJSON` -/
def runTable (run : AnyM → Text → Text × List MErr) (tbl : List AnyM) (i : Matcher) (b : Text) : Text × List MErr :=
  match tbl[i]? with
  | some m => run m b
  | none => (b, [])

/-- the matcher loop of the flows on the indices `0 … n-1` is the C15 fold over the concrete matchers -/
theorem applyMatchers_runTable (run : AnyM → Text → Text × List MErr) (tbl : List AnyM) (b : Text) :
    applyMatchers (runTable run tbl) b (List.range tbl.length) = C15.applyMatchers (tbl.map run) b [] := by
  rw [applyMatchers_eq_C15]
  congr 1
  apply List.ext_getElem
  · simp
  · intro i h1 h2
    have hi : i < tbl.length := by simpa using h1
    funext b
    simp [runTable, hi]

/-- if every matcher succeeds (`run m d = (abs d m, [])`) on the document that reaches it, the matcher
    loop of the flows yields the left-to-right composition of the `abs` results, and no error -/
theorem pipeline_of_succeeds (run : AnyM → Text → Text × List MErr) (abs : Text → AnyM → Text)
    (S : AnyM → Text → Prop) (hrun : ∀ m d, S m d → run m d = (abs d m, [])) (tbl : List AnyM) (b : Text)
    (hs : ∀ x ∈ withDocs abs b tbl, S x.1 x.2) :
    applyMatchers (runTable run tbl) b (List.range tbl.length) = (tbl.foldl abs b, []) := by
  rw [applyMatchers_runTable]
  induction tbl generalizing b with
  | nil => rfl
  | cons m ms ih =>
    have hm := hrun m b (hs (m, b) (by simp [withDocs]))
    rw [List.map_cons, C15.matchers_left_to_right _ _ _ _ (by rw [hm]), hm, List.foldl_cons]
    exact ih _ (fun x hx => hs x (by simp [withDocs, hx]))

/-- what a matcher does to the abstract document when it succeeds -/
def absJSON (get : Text → Text → Option Text) (set : Text → Text → Text → Text) (lib : JSONLib) (d : Text) : AnyM → Text
  | .any a => C16.mask set a.paths a.placeholder d
  | .type t => C16.maskWith get set lib.typePlaceholder t.paths d
  | .custom c => C16.maskWith get set (fun v => (c.callback v).1) [c.path] d

/-- the hypotheses of the lens ties for one matcher on the document `d` that reaches it -/
def Succeeds (get : Text → Text → Option Text) (set : Text → Text → Text → Text) (lib : JSONLib) (m : AnyM) (d : Text) : Prop :=
  match m with
  | .any a => ∀ x ∈ withDocs (fun d p => set d p a.placeholder) d a.paths, get x.2 x.1 ≠ none
  | .type t => ∀ x ∈ withDocs (mwStep get set lib.typePlaceholder) d t.paths,
      PathOK get (lib.typeCheck t.expectedType) t.errOnMissingPath x.2 x.1
  | .custom c => PathOK get (fun v => (c.callback v).2) c.errOnMissingPath d c.path

instance (get : Text → Text → Option Text) (set : Text → Text → Text → Text) (lib : JSONLib) (m : AnyM) (d : Text) :
    Decidable (Succeeds get set lib m d) :=
  match m with
  | .any a => inferInstanceAs (Decidable (∀ x ∈ withDocs (fun d p => set d p a.placeholder) d a.paths, get x.2 x.1 ≠ none))
  | .type t => inferInstanceAs (Decidable (∀ x ∈ withDocs (mwStep get set lib.typePlaceholder) d t.paths,
      PathOK get (lib.typeCheck t.expectedType) t.errOnMissingPath x.2 x.1))
  | .custom c => inferInstanceAs (Decidable (PathOK get (fun v => (c.callback v).2) c.errOnMissingPath d c.path))

theorem runJSON_succeeds {get : Text → Text → Option Text} {set : Text → Text → Text → Text} (lib : JSONLib)
    (h : JSONLens lib.gjsonGet lib.sjsonSet get set) (m : AnyM) (d : Text) (hs : Succeeds get set lib m d) :
    runJSON lib m d = (absJSON get set lib d m, []) := by
  cases m with
  | any a => exact anyMatcher_JSON_lens h a d hs
  | type t => exact typeMatcher_JSON_lens h _ _ t d hs
  | custom c => exact customMatcher_JSON_lens_ok h c d hs

/-- for `matchJSON`: the composition of the `mask` / `maskWith` results -/
theorem pipeline_masks {get : Text → Text → Option Text} {set : Text → Text → Text → Text} (lib : JSONLib)
    (h : JSONLens lib.gjsonGet lib.sjsonSet get set) (tbl : List AnyM) (b : Text)
    (hs : ∀ x ∈ withDocs (absJSON get set lib) b tbl, Succeeds get set lib x.1 x.2) :
    applyMatchers (runTable (runJSON lib) tbl) b (List.range tbl.length) = (tbl.foldl (absJSON get set lib) b, []) :=
  pipeline_of_succeeds _ _ _ (runJSON_succeeds lib h) tbl b hs

/-- toy: `Any([0])`, `Type([1],[9]).ErrOnMissingPath(false)`, `Custom([2])` on [10, 20, 30] -/
example :
    open MToy in
    let lib : JSONLib := ⟨gjsonGet, sjsonSet, fun _ => chk, ph⟩
    let tbl : List AnyM := [.any (any [[0]]), .type (type [[1], [9]] false), .custom (custom [2])]
    applyMatchers (runTable (runJSON lib) tbl) [10, 20, 30] (List.range tbl.length) = (tbl.foldl (absJSON get set lib) [10, 20, 30], []) ∧
    tbl.foldl (absJSON get set lib) [10, 20, 30] = [63, 78, 31] ∧
    applyJSONMatchers (runTable (runJSON lib) tbl) [10, 20, 30] [0, 1, 2] = ([63, 78, 31], []) := by
  intro lib tbl
  exact ⟨pipeline_masks lib MToy.lens tbl _ (by decide +kernel), by decide +kernel, by decide +kernel⟩

/-- … and with a failing matcher in the middle (`any [[7], [1]]`, path `[7]` is missing): its error only; the other two still
    act on the document that is handed on (C15: a failing matcher is skipped) -/
example :
    open MToy in
    let lib : JSONLib := ⟨gjsonGet, sjsonSet, fun _ => chk, ph⟩
    applyJSONMatchers (runTable (runJSON lib) [.any (any [[0]]), .any (any [[7], [1]]), .custom (custom [2])]) [10, 20, 30] [0, 1, 2] =
      ([63, 20, 31], [⟨errPathNotFound, nAny, [7]⟩]) := by decide +kernel

/-- `C17.failing_matcher_errors` for any error type -/
theorem failing_matcher_errors' {ε : Type} (ms : List (C15.Matcher ε)) (m : C15.Matcher ε) (hm : m ∈ ms)
    (hf : ∀ d, (m d).2 ≠ []) (b : Text) (errs : List ε) : (C15.applyMatchers ms b errs).2 ≠ [] := by
  induction ms generalizing b errs with
  | nil => cases hm
  | cons x xs ih =>
    simp only [C15.applyMatchers]
    rcases List.mem_cons.mp hm with rfl | hm'
    · simp only [hf b, ne_eq, not_false_eq_true, ↓reduceIte]
      obtain ⟨more, h⟩ := C15.errors_accumulate xs b (errs ++ (m b).2)
      rw [h]
      have := hf b
      cases hq : (m b).2 with
      | nil => exact absurd hq this
      | cons e es => simp
    · split
      · exact ih hm' _ _
      · exact ih hm' _ _

/-- a failing matcher anywhere in the list: `docPre` is the error message naming it, never a document -/
theorem docPre_fails (lib : JSONLib) (validate : Text → Text × Err) (render : Text → Text)
    (input : Text) (tbl : List AnyM) (hv : (validate input).2 = Err.nil) (m : AnyM) (hm : m ∈ tbl)
    (hf : ∀ d, (runJSON lib m d).2 ≠ []) :
    ∃ msg, msg ≠ [] ∧ docPre validate (runTable (runJSON lib) tbl) render input (List.range tbl.length) = .error msg := by
  have hne : (applyMatchers (runTable (runJSON lib) tbl) (validate input).1 (List.range tbl.length)).2 ≠ [] := by
    rw [applyMatchers_runTable]
    exact failing_matcher_errors' _ (runJSON lib m) (List.mem_map_of_mem hm) hf _ _
  refine ⟨matcherMsg (applyMatchers (runTable (runJSON lib) tbl) (validate input).1 (List.range tbl.length)).2, ?_, ?_⟩
  · unfold matcherMsg
    apply C17.errText_ne_nil
    simpa using hne
  · unfold docPre
    simp [hv, Err.notNil, hne]

/-- the whole call: `matchJSON` on concrete matchers that all succeed is `preFlow` on the rendered
    composition of their masks -/
theorem matchJSON_masks {get : Text → Text → Option Text} {set : Text → Text → Text → Text} (lib : JSONLib)
    (h : JSONLens lib.gjsonGet lib.sjsonSet get set) (io : IOFail) (st : St) (trimpath : Bool) (caller : Text)
    (validate : Text → Text × Err) (takeJSON : Cfg → Text → Text) (c : Cfg) (t : T) (input : Text) (tbl : List AnyM)
    (hv : (validate input).2 = Err.nil)
    (hs : ∀ x ∈ withDocs (absJSON get set lib) (validate input).1 tbl, Succeeds get set lib x.1 x.2) :
    matchJSON io st trimpath caller (runTable (runJSON lib) tbl) validate takeJSON c t input (List.range tbl.length) =
      match syncRegistry_getTestID st.reg (Generated.Funcs.snapshotPath trimpath caller c t.name false).1 t.name with
      | none => none
      | some (r', id) =>
        some (preFlow io (enterSt st t (Generated.Funcs.snapshotPath trimpath caller c t.name false).1 r') t c
          (Generated.Funcs.snapshotPath trimpath caller c t.name false).1
          (Generated.Funcs.snapshotPath trimpath caller c t.name false).2 id
          (.ok (takeJSON c (tbl.foldl (absJSON get set lib) (validate input).1))) (Wld.cmpText .raw)) := by
  -- the document reaching `takeJSON` (the `.ok` of `docPre`) is the rendered composition
  have hpre : docPre validate (runTable (runJSON lib) tbl) (takeJSON c) input (List.range tbl.length) =
      .ok (takeJSON c (tbl.foldl (absJSON get set lib) (validate input).1)) := by
    unfold docPre
    rw [pipeline_masks lib h tbl _ hs, hv]
    simp [Err.notNil]
  rw [matchJSON_eq, hpre]
  rfl

/-- a Custom matcher on a missing path with `ErrOnMissingPath(false)` is the identity step of the
    pipeline (C17 `missing_path_ignored`, for the transliteration) -/
theorem custom_missing_identity_step (lib : JSONLib) (c : CustomMatcher) (ms : List (C15.Matcher MErr)) (b : Text)
    (errs : List MErr) (hm : (lib.gjsonGet b c.path).exists = false) (he : c.errOnMissingPath = false) :
    C15.applyMatchers (runJSON lib (.custom c) :: ms) b errs = C15.applyMatchers ms b errs := by
  have : runJSON lib (.custom c) b = (b, []) := by
    show customMatcher_JSON _ _ c b = _
    rw [customMatcher_JSON_eq]; unfold customJSONSpec; simp [hm, he]
  simp [C15.applyMatchers, this]

/-! ### the same for `matchYAML` -/

structure YAMLLib where
  yamlParse : Text → YFile × Err
  yamlGet : YFile → Text → YPath × YNode × Bool × Err
  yamlGetValue : YNode → Text × Err
  yamlUpdate : YFile → YPath → Text → YFile × Err
  yamlMarshal : YFile → Bool → Text
  typeCheck : Text → Text → Err
  typePlaceholder : Text → Text

/-- `m.YAML(b)` -/
def runYAML (lib : YAMLLib) : AnyM → Text → Text × List MErr
  | .any a, b => anyMatcher_YAML lib.yamlParse lib.yamlGet lib.yamlUpdate lib.yamlMarshal a b
  | .type t, b => typeMatcher_YAML lib.yamlParse lib.yamlGet lib.yamlGetValue lib.yamlUpdate lib.yamlMarshal
      (lib.typeCheck t.expectedType) lib.typePlaceholder t b
  | .custom c, b => customMatcher_YAML lib.yamlParse lib.yamlGet lib.yamlGetValue lib.yamlUpdate lib.yamlMarshal c b

/-- what a succeeding matcher does to the bytes: parse, mask the file, marshal (keeping a final
    newline); a Custom matcher whose path is missing hands the bytes on untouched -/
def absYAML (get : YFile → Text → Option Text) (set : YFile → Text → Text → YFile) (lib : YAMLLib) (d : Text) : AnyM → Text
  | .any a => lib.yamlMarshal (C16.mask set a.paths a.placeholder (lib.yamlParse d).1) (hasSuffix d [10])
  | .type t => lib.yamlMarshal (C16.maskWith get set lib.typePlaceholder t.paths (lib.yamlParse d).1) (hasSuffix d [10])
  | .custom c =>
    if get (lib.yamlParse d).1 c.path = none then d
    else lib.yamlMarshal (C16.maskWith get set (fun v => (c.callback v).1) [c.path] (lib.yamlParse d).1) (hasSuffix d [10])

def SucceedsY (get : YFile → Text → Option Text) (set : YFile → Text → Text → YFile) (lib : YAMLLib) (m : AnyM) (d : Text) : Prop :=
  (lib.yamlParse d).2 = Err.nil ∧
  match m with
  | .any a => ∀ x ∈ withDocs (fun d p => set d p a.placeholder) (lib.yamlParse d).1 a.paths, get x.2 x.1 ≠ none
  | .type t => ∀ x ∈ withDocs (mwStep get set lib.typePlaceholder) (lib.yamlParse d).1 t.paths,
      PathOK get (lib.typeCheck t.expectedType) t.errOnMissingPath x.2 x.1
  | .custom c => PathOK get (fun v => (c.callback v).2) c.errOnMissingPath (lib.yamlParse d).1 c.path

theorem runYAML_succeeds {get : YFile → Text → Option Text} {set : YFile → Text → Text → YFile} (lib : YAMLLib)
    (h : YAMLLens lib.yamlGet lib.yamlUpdate get set)
    (hv : ∀ f p v, get f p = some v → lib.yamlGetValue (lib.yamlGet f p).2.1 = (v, Err.nil))
    (m : AnyM) (d : Text) (hs : SucceedsY get set lib m d) :
    runYAML lib m d = (absYAML get set lib d m, []) := by
  obtain ⟨hp, hs⟩ := hs
  have hp' : lib.yamlParse d = ((lib.yamlParse d).1, Err.nil) := by rw [← hp]
  cases m with
  | any a => exact anyMatcher_YAML_lens h _ _ a d _ hp' hs
  | type t => exact typeMatcher_YAML_lens h _ _ _ hv _ _ t d _ hp' hs
  | custom c =>
    show customMatcher_YAML _ _ _ _ _ c d = _
    rw [customMatcher_YAML_lens_ok h _ _ _ hv c d _ hp' hs]
    rfl

/-- for `matchYAML`: the document reaching `takeYAMLSnapshot` -/
theorem pipeline_masks_yaml {get : YFile → Text → Option Text} {set : YFile → Text → Text → YFile} (lib : YAMLLib)
    (h : YAMLLens lib.yamlGet lib.yamlUpdate get set)
    (hv : ∀ f p v, get f p = some v → lib.yamlGetValue (lib.yamlGet f p).2.1 = (v, Err.nil))
    (tbl : List AnyM) (b : Text)
    (hs : ∀ x ∈ withDocs (absYAML get set lib) b tbl, SucceedsY get set lib x.1 x.2) :
    applyMatchers (runTable (runYAML lib) tbl) b (List.range tbl.length) = (tbl.foldl (absYAML get set lib) b, []) :=
  pipeline_of_succeeds _ _ _ (runYAML_succeeds lib h hv) tbl b hs

/-- toy: `Any([0])` then `Type([1],[9]).ErrOnMissingPath(false)` then `Custom([2])` on
    "\x0a\x14\x1e\n"; every stage parses the bytes the previous one marshalled -/
example :
    open MToy in
    let lib : YAMLLib := ⟨yamlParse, yamlGet, yamlGetValue, yamlUpdate, yamlMarshal, fun _ => chk, ph⟩
    let tbl : List AnyM := [.any (any [[0]]), .type (type [[1], [9]] false), .custom (custom [2])]
    applyYAMLMatchers (runTable (runYAML lib) tbl) [10, 20, 30, 10] [0, 1, 2] = ([63, 78, 31, 10], []) ∧
    tbl.foldl (absYAML get set lib) [10, 20, 30, 10] = [63, 78, 31, 10] := by decide +kernel

end GoSnaps.Tie
