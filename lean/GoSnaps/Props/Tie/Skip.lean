/-
Tie by proof (conventions: GoSnaps/Props/Tie.lean): `testSkipped` (snaps/skip.go)

Parameters: `regexpMatchString : Text → Text → Bool × Bool` stands for `regexp.MatchString`
(result and `err != nil`; Go discards the error with `_`), `skipped` for `skippedTests.values`.
`strings.Split(testID, " - ")[0]` is `GoSem.splitHead`, which is the model's `beforeSep` for a
non-empty separator.
-/
import GoSnaps.Generated.Funcs
import GoSnaps.Clean
namespace GoSnaps.Tie
open GoSnaps

theorem splitHead_eq_beforeSep (s sep : Text) (h : sep ≠ []) : GoSem.splitHead s sep = beforeSep s sep := by
  unfold GoSem.splitHead beforeSep
  cases indexOf s sep <;> simp [h]

/-- `for _, x := range l { if p x { return true } }` -/
theorem forIn_find_loop {α : Type} (p : α → Bool) (l : List α) :
    forIn (m := Id) l ((none, ()) : Option Bool × PUnit) (fun x _ =>
        if p x = true then pure (ForInStep.done (some true, ())) else pure (ForInStep.yield (none, ()))) =
      pure (if l.any p then some true else none, ()) := by
  induction l with
  | nil => simp
  | cons n ns ih =>
    cases hp : p n
    · simp [hp, ih]
    · simp [hp]

/-- **closed form** of the transliteration: skip-listed (the test name or a parent of it), else not
    matched by `runOnly` -/
theorem testSkipped_closed (re : Text → Text → Bool × Bool) (skipped : List Text) (testID runOnly : Text) :
    Generated.Funcs.testSkipped re skipped testID runOnly =
      if skipped.any (fun name => beforeSep testID Generated.skipSep = name ||
          hasPrefix (beforeSep testID Generated.skipSep) (name ++ [slash])) then true
      else !(re runOnly testID).1 := by
  have hsep : Generated.skipSep = [32, 45, 32] := by decide
  have key := forIn_find_loop (fun name => beforeSep testID [32, 45, 32] == name ||
    hasPrefix (beforeSep testID [32, 45, 32]) (name ++ [47])) skipped
  unfold Generated.Funcs.testSkipped
  simp [Id.run, pure, hsep, slash, splitHead_eq_beforeSep] at key ⊢
  rw [key]
  split
  · simp [*]; rfl
  · simp [*]; rfl

/-- **Tie**: whenever the model's regexp oracle answers the one query `(runOnly, testID)` like the
    function standing for `regexp.MatchString`, the model returns Go's result (never `none`) -/
theorem testSkipped_tied (o : Oracles) (re : Text → Text → Bool × Bool) (skipped : List Text)
    (testID runOnly : Text) (h : o.reMatch runOnly testID = some (re runOnly testID).1) :
    GoSnaps.testSkipped o skipped testID runOnly =
      some (Generated.Funcs.testSkipped re skipped testID runOnly) := by
  rw [testSkipped_closed, GoSnaps.testSkipped, h]
  split <;> rfl

/-- the same with `regexp.MatchString` abstracted as a plain predicate `Text → Text → Bool`
    (an error counts as "no match", which is what Go's `matched` is when `err != nil`) -/
theorem testSkipped_tied_pred (o : Oracles) (re : Text → Text → Bool) (skipped : List Text)
    (testID runOnly : Text) (h : o.reMatch runOnly testID = some (re runOnly testID)) :
    GoSnaps.testSkipped o skipped testID runOnly =
      some (Generated.Funcs.testSkipped (fun p s => (re p s, false)) skipped testID runOnly) :=
  testSkipped_tied o (fun p s => (re p s, false)) skipped testID runOnly h

/-- a skip-listed parent decides without consulting the regexp (no oracle hypothesis); "skip-listed" is
    said through the transliteration itself: it answers `true` although the regexp matches everything -/
theorem testSkipped_listed (o : Oracles) (re : Text → Text → Bool × Bool) (skipped : List Text)
    (testID runOnly : Text) (h : Generated.Funcs.testSkipped (fun _ _ => (true, false)) skipped testID runOnly = true) :
    GoSnaps.testSkipped o skipped testID runOnly = some true ∧
      Generated.Funcs.testSkipped re skipped testID runOnly = true := by
  rw [testSkipped_closed] at h ⊢
  rw [GoSnaps.testSkipped]
  -- with a regexp that matches everything, `true` can only come from the skip list
  split at h
  · rename_i hl; rw [if_pos hl, if_pos hl]; exact ⟨rfl, rfl⟩
  · cases h

end GoSnaps.Tie
