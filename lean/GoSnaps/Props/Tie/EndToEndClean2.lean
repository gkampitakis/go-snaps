/-
Tie by proof: completeness and idempotence of `Clean`, and `-count > 1` — end to end, about the
TRANSLITERATED code (`goRun` of `Tie/EndToEnd.lean` followed by `Generated.FuncsIO.Clean`).

**C09, completeness** (`go_stale_reported`; model-level core, for any skip list: `clean_exact_skip`): after a run
that made at least one call, `Clean` EXAMINES the snapshot file — the listing of its directory names it
(`InDir`, `CleanWorld.readDir_lists_file`) — and reports EXACTLY the entries whose id is not a registered slot and
EXACTLY the other regular `.snap` files of that directory; in the deleting modes exactly those are gone afterwards.
**C10, idempotence in EVERY mode** (`go_second_clean_changes_nothing_every_mode`; listing lemmas
`CleanWorld.examineFiles_one_again`).  **C07 for `-count > 1`**: a history of `cnt` closed rounds (`Rounds`).
Closed histories beside them.
-/
import GoSnaps.Props.Tie.EndToEndClean
import GoSnaps.Lemmas.EndToEndClean2
namespace GoSnaps.Tie
open GoSnaps GoSnaps.GoIO
open GoSnaps.Generated.FuncsIO
open GoSnaps.C06Refine GoSnaps.Wld GoSnaps.CleanWorld
open GoSnaps.C01World (Step Scoped calledNames texts entriesFrom entriesOf headers Inv)
open GoSnaps.C03 (testID)
open GoSnaps.Generated (Env shouldCreate shouldUpdate)

/-- the snapshot file sits in its directory under a simple name (not empty, no `/`, `.snap` in it): `p` is
    `filepath.Dir(p) + "/" + name`.  True of every clean absolute path whose last component is such a name
    (`inDir_abs`); it is what makes `os.ReadDir(filepath.Dir(p))` able to name `p`. -/
def InDir (p : Text) : Prop := ∃ name, SimpleName name ∧ p = dirPrefix (fpDir p) ++ name

/-- `Clean` deletes: `UPDATE_SNAPS=true|clean`, off CI -/
abbrev deleting (env : Env) : Bool := Generated.shouldClean env && !env.isCI

theorem cleanComps_normal_trail (cs out : List Text) (h : ∀ c ∈ cs, NormalComp c) :
    cleanComps true (cs ++ [[]]) out = cs.reverse ++ out := by
  induction cs generalizing out with
  | nil => simp [cleanComps]
  | cons c cs ih =>
    obtain ⟨h1, _, h3, h4⟩ := h c (by simp)
    simp only [List.cons_append, cleanComps, h1, h3, h4, decide_false, Bool.or_self, Bool.false_eq_true,
      ↓reduceIte]
    rw [ih _ (fun x hx => h x (by simp [hx]))]
    simp

/-- `filepath.Dir` of an absolute clean path `/c₁/…/cₙ/name` is `/c₁/…/cₙ` -/
theorem fpDir_abs (comps : List Text) (name : Text) (hne : comps ≠ []) (hc : ∀ c ∈ comps, NormalComp c)
    (hn : slash ∉ name) : fpDir (slash :: joinSlash (comps ++ [name])) = slash :: joinSlash comps := by
  rw [joinSlash_append_one comps name hne]
  have hsplit : (lastSlashSplit (slash :: (joinSlash comps ++ slash :: name))).1 =
      slash :: (joinSlash comps ++ [slash]) := by
    unfold lastSlashSplit
    have hr : (slash :: (joinSlash comps ++ slash :: name)).reverse =
        name.reverse ++ slash :: ((joinSlash comps).reverse ++ [slash]) := by simp
    have ht : (name.reverse ++ slash :: ((joinSlash comps).reverse ++ [slash])).takeWhile (· ≠ slash) =
        name.reverse := by
      rw [List.takeWhile_append_of_pos (fun a ha => by
        have : a ≠ slash := fun e => hn (e ▸ List.mem_reverse.mp ha)
        simpa using this)]
      simp
    simp only [hr, ht, List.length_reverse]
    have : (name.reverse ++ slash :: ((joinSlash comps).reverse ++ [slash])).drop name.length =
        slash :: ((joinSlash comps).reverse ++ [slash]) := by
      rw [← List.length_reverse (as := name), List.drop_left]
    rw [this]
    simp
  unfold fpDir
  rw [hsplit]
  unfold fpClean
  have e2 : splitSlash (slash :: (joinSlash comps ++ [slash])) = [] :: (comps ++ [[]]) := by
    simp only [splitSlash, ↓reduceIte]
    rw [splitSlash_joinSlash comps [] (fun c hc' => (hc c hc').2.1) (by simp) hne]
  have e3 : cleanComps true ([] :: (comps ++ [[]])) [] = comps.reverse := by
    simp only [cleanComps, decide_true, Bool.true_or, ↓reduceIte]
    rw [cleanComps_normal_trail _ _ hc]
    simp
  have e4 : (slash :: (joinSlash comps ++ [slash])).head? = some slash := rfl
  simp [e2, e3, e4]

/-- **`InDir` for every absolute clean path** `/c₁/…/cₙ/name` (`n ≥ 1`, no component empty, `.`, `..` or
    containing a slash) whose last component is a simple name: the shape of every absolute snapshot path -/
theorem inDir_abs (comps : List Text) (name : Text) (hne : comps ≠ []) (hc : ∀ c ∈ comps, NormalComp c)
    (hs : SimpleName name) : InDir (slash :: joinSlash (comps ++ [name])) := by
  refine ⟨name, hs, ?_⟩
  rw [fpDir_abs comps name hne hc hs.2.1, joinSlash_append_one comps name hne]
  have hd : (slash :: joinSlash comps) ≠ [slash] := by
    intro e
    have : joinSlash comps = [] := by simpa using e
    cases comps with
    | nil => exact hne rfl
    | cons c cs =>
      have hc1 := (hc c (by simp)).1
      cases cs with
      | nil => exact hc1 (by simpa [joinSlash] using this)
      | cons c' cs' => simp [joinSlash] at this
  unfold dirPrefix
  simp [hd]

/-- the keys of the model's cleanup registry after a run from a fresh process: pairwise different, all called -/
theorem regExact_fresh (env : Env) (fs₀ : FS) (c : Cfg) (caller : Text) (h : List Step) :
    RegExact (C01World.run c caller { env := env, fs := fs₀ } h).1 (calledNames h).reverse := by
  have := run_regExact c caller h { env := env, fs := fs₀ } [] ⟨List.nodup_nil, fun _ hkv => by cases hkv⟩
  rwa [List.append_nil] at this

/-- no test was skipped: a history consists of Match* calls and test ends only -/
theorem Reached.noSkip {env : Env} {fs₀ : FS} {c : Cfg} {caller p : Text} {h : List Step} {st1 : St}
    (hr : Reached env fs₀ c caller p h st1) :
    (C01World.run c caller { env := env, fs := fs₀ } h).1.skipped = [] := by
  rw [← hr.crel.skipped, hr.skipped]

theorem slotId_reverse (seen : List Text) (cnt : Nat) (tid : Text) :
    SlotId seen.reverse cnt tid ↔ SlotId seen cnt tid := by
  unfold SlotId
  simp only [List.mem_reverse, List.count_reverse]

/-- **what `occurrences` registers after a run**: exactly the slots of the called tests -/
theorem Reached.registered {env : Env} {fs₀ : FS} {c : Cfg} {caller p : Text} {h : List Step} {st1 : St}
    (hr : Reached env fs₀ c caller p h st1) (cnt : Nat) (registered : List Text)
    (hreg : registeredFor (C01World.run c caller { env := env, fs := fs₀ } h).1.cleanup p cnt = some registered)
    (tid : Text) : tid ∈ registered ↔ SlotId (calledNames h) cnt tid := by
  rw [← slotId_reverse]
  exact registered_iff_slot _ p _ cnt registered hr.reg (regExact_fresh env fs₀ c caller h) hreg tid

theorem Reached.cleanup_ne_nil {env : Env} {fs₀ : FS} {c : Cfg} {caller p : Text} {h : List Step} {st1 : St}
    (hr : Reached env fs₀ c caller p h st1) (hcalls : calledNames h ≠ []) :
    (C01World.run c caller { env := env, fs := fs₀ } h).1.cleanup ≠ [] := by
  obtain ⟨t, ht⟩ := List.exists_mem_of_ne_nil _ hcalls
  intro h0
  have := hr.reg.mem t (List.mem_reverse.mpr ht)
  rw [h0] at this
  cases this

theorem fsRead_fsAfter (update : Bool) (fs : FS) (R : List Text) (q : Text) :
    fsRead (if update then R.foldl fsRemove fs else fs) q =
      if update = true ∧ q ∈ R then none else fsRead fs q := by
  cases update with
  | false => simp
  | true => simp [fsRead_foldl_fsRemove_iff]

theorem keptId_skip (registered sk : List Text) :
    keptId {} registered sk [] = fun tid => registered.contains tid || skipListed sk tid := by
  funext tid
  exact keptId_noRun {} registered sk tid

/-- **the model's `clean` on one examined snapshot file, with ANY skip list** (the model-level core of
    `go_stale_reported` — the case `w1.skipped = []` — and of `go_skip_exact`): a world whose registry knows only the file `p`
    (`RegInv`, `RegExact` for the calls `seen`, at least one), `p` is `dir/name` and is not a directory, it
    holds the `CleanFile` `es`.  A supported `clean` without a `-run` filter reports EXACTLY the entries that are
    neither registered nor skip-listed, leaves a permutation of the others (of all, unless deleting), reports
    exactly the other `.snap` files of the directory and removes them iff deleting. -/
theorem clean_exact_skip (w1 : World) (p : Text) (sortOpt : Bool) (cnt : Nat) (es : List Entry)
    (seen : List Text) (hri : RegInv p w1 seen) (hrx : RegExact w1 seen) (hne : w1.cleanup ≠ [])
    (hjf : JoinFaithful (fpDir p)) (hin : InDir p) (hnotdir : NotDir w1.fs p)
    (hf : CleanFile es) (hread1 : fsRead w1.fs p = some (render es))
    (fr : FilesResult) (obsT : List Text) (fs2 : FS) (wr : List Text)
    (crun : CleanRun {} w1 sortOpt [] cnt [] fr obsT fs2 wr) :
    ∃ registered : List Text,
      (∀ tid, tid ∈ registered ↔ SlotId seen cnt tid) ∧
      obsT = (es.filter (fun e =>
        !(registered.contains (tidOf e) || skipListed w1.skipped (tidOf e)))).map tidOf ∧
      (∃ es', fsRead fs2 p = some (render es') ∧ CleanFile es' ∧
        es'.Perm (es.filter (fun e =>
          (registered.contains (tidOf e) || skipListed w1.skipped (tidOf e)) || !deleting w1.env))) ∧
      (∀ q, q ∈ fr.obsolete ↔ ∃ name, SimpleName name ∧ (name, false) ∈ GoSnaps.readDir w1.fs (fpDir p) ∧
        q = dirPrefix (fpDir p) ++ name ∧ q ≠ p) ∧
      (∀ q ∈ fr.obsolete, fsRead fs2 q = if deleting w1.env then none else fsRead w1.fs q) ∧
      (∀ q, q ≠ p → q ∉ fr.obsolete → fsRead fs2 q = fsRead w1.fs q) := by
  have hkeys := hri.keys
  obtain ⟨registered, hreg⟩ : ∃ r, registeredFor w1.cleanup p cnt = some r :=
    occurrences_snapshot_total _ cnt
  have hslots := registered_iff_slot w1 p seen cnt registered hri hrx hreg
  have hupdF : Generated.cleanFilesUpdate w1.env sortOpt = deleting w1.env := by
    unfold Generated.cleanFilesUpdate; rfl
  -- the first stage in closed form
  have hfiles := crun.files
  rw [cleanRegPaths_single w1 p hne hkeys, examineFiles_one, hupdF] at hfiles
  simp only [Option.some.injEq] at hfiles
  -- the listing names `p`
  obtain ⟨name, hs, hp⟩ := hin
  have hex : fsRead w1.fs p ≠ none := by rw [hread1]; simp
  have hlist : (name, false) ∈ GoSnaps.readDir w1.fs (fpDir p) :=
    readDir_lists_file w1.fs (fpDir p) name hs.1 hs.2.1 (hp ▸ hex) (hp ▸ hnotdir)
  have hused : fr.used = [p] := by
    rw [← hfiles]; exact filesUsed_eq_single w1.fs p name hjf hs hp hlist
  have hobsF : fr.obsolete = filesObs p (fpDir p) (GoSnaps.readDir w1.fs (fpDir p)) := by rw [← hfiles]
  have hpR : p ∉ fr.obsolete := by
    rw [hobsF]
    intro hm
    obtain ⟨_, _, _, _, hne'⟩ := (mem_filesObs_iff w1.fs p hjf p).mp hm
    exact hne' rfl
  have hfrfs : ∀ q, fsRead fr.fs q =
      if deleting w1.env = true ∧ q ∈ fr.obsolete then none else fsRead w1.fs q := by
    intro q
    rw [hobsF, ← hfiles]
    exact fsRead_fsAfter _ _ _ _
  have hread : fsRead fr.fs p = some (render es) := by
    rw [hfrfs p, if_neg (fun hh => hpR hh.2)]; exact hread1
  obtain ⟨hobs, es', hfs2p, hf', hperm, hfs2q⟩ := snaps_single_holds crun p es registered hreg hf
    (fun e _ => classified_noRun {} registered w1.skipped _) hused hread
  rw [keptId_skip] at hobs hperm
  refine ⟨registered, hslots, hobs, ⟨es', hfs2p, hf', hperm⟩, ?_, ?_, ?_⟩
  · intro q
    rw [hobsF]
    exact mem_filesObs_iff w1.fs p hjf q
  · intro q hq
    have hqp : q ≠ p := fun e => hpR (e ▸ hq)
    rw [hfs2q q hqp, hfrfs q]
    cases hd : deleting w1.env <;> simp [hq]
  · intro q hqp hq
    rw [hfs2q q hqp, hfrfs q, if_neg (fun hh => hq hh.2)]

/-- **C09, end to end: `Clean` reports EXACTLY the stale items and removes them exactly in the deleting modes.**

A fresh process runs the history `h` (at least one Match* call: otherwise `Clean` knows no directory and
examines nothing) with the transliterated flows, then the transliterated `Clean` with `-count = cnt`, no
`-run` filter, any sort option, in whatever mode `env` says.  Let the snapshot file hold the well-formed entry
list `es` after the run (`FileAfter`).  Then neither panics and `Clean` prints the summary of two lists
`obsFiles`, `obsTests` such that, with `registered` the ids `occurrences` computes:

* `registered` is exactly the set of slots of the called tests (`SlotId`: `t - k` for a called `t`,
  `1 ≤ k ≤ (calls of t)/cnt`, and `t - c` for `c = (calls of t)/cnt` itself — even when that is 0: what the
  code registers);
* `obsTests` is EXACTLY the list of ids of the entries of the file that are not registered, in file order: the
  snapshot file IS examined (the directory listing names it: `readDir_lists_file`);
* afterwards the file holds a well-formed PERMUTATION of the registered entries when deleting
  (`UPDATE_SNAPS=true|clean` off CI), and of ALL its entries in every other mode;
* `obsFiles` is EXACTLY the set of `dir/name` for the regular files of the listing of the snapshot directory
  with `.snap` in their name other than `p`; each of them is gone afterwards when deleting, and reads as before
  in every other mode; every other path reads as before.

Hypotheses beyond those of `go_matched_survive_clean`: `hjf` in every mode (to recognise `p` in the listing),
`InDir p` (`p` is `dir/name`), `NotDir fs₀ p` (no path of the initial file system lies under `p/`: a file is
not a directory — the model's file system is a list of paths and does not enforce it).  Skip protection does
not occur: a history has no skip step (`Reached.noSkip`). -/
theorem go_stale_reported (env : Env) (fs₀ : FS) (c : Cfg) (caller p rel : Text) (h : List Step)
    (parseFile : Text → List GoDecl × Err) (re : Text → Text → Bool × Bool) (cnt : Nat) (err : Err)
    (opts : List Bool)
    (hsp : ∀ t, snapshotPath c caller t false = (p, some rel)) (hok : HistOK h) (hcnt : cnt > 0)
    (hre : ∀ s, (re [] s).1 = true)
    (hjf : JoinFaithful (fpDir p)) (hin : InDir p) (hnd : NotDir fs₀ p) (hcalls : calledNames h ≠ []) :
    ∃ st1, goRun IOFail.never c caller (freshSt env fs₀) h = some st1 ∧
    ∀ es, FileAfter st1.fs p es h (opts.head?.getD false) →
    ∃ (fs2 : FS) (obsFiles obsTests registered : List Text),
      Generated.FuncsIO.Clean IOFail.never st1 parseFile re [] ((cnt : Int), err) () opts =
        some { st1 with fs := fs2, stdout := st1.stdout ++ summaryLine (Generated.FuncsIO.summary obsFiles
          obsTests (GoSem.len st1.skipped) st1.events (cleanUpd st1)) } ∧
      (∀ tid, tid ∈ registered ↔ SlotId (calledNames h) cnt tid) ∧
      obsTests = (es.filter (fun e => !registered.contains (tidOf e))).map tidOf ∧
      (∃ es', fsRead fs2 p = some (render es') ∧ CleanFile es' ∧
        es'.Perm (es.filter (fun e => registered.contains (tidOf e) || !deleting env))) ∧
      (∀ q, q ∈ obsFiles ↔ ∃ name, SimpleName name ∧ (name, false) ∈ GoSnaps.readDir st1.fs (fpDir p) ∧
        q = dirPrefix (fpDir p) ++ name ∧ q ≠ p) ∧
      (∀ q ∈ obsFiles, fsRead fs2 q = if deleting env then none else fsRead st1.fs q) ∧
      (∀ q, q ≠ p → q ∉ obsFiles → fsRead fs2 q = fsRead st1.fs q) := by
  obtain ⟨st1, hr⟩ := goRun_reached env fs₀ c caller p rel h hsp hok
  refine ⟨st1, hr.run, fun es hfa => ?_⟩
  obtain ⟨fr, obsT, fs2, wr, crun, hclean⟩ := hr.clean_run parseFile re cnt err opts hcnt hre (fun _ => hjf) hfa
  have hread1 : fsRead (C01World.run c caller { env := env, fs := fs₀ } h).1.fs p = some (render es) :=
    hr.rel.fs ▸ hfa.read hcalls
  obtain ⟨registered, k1, k2, k3, k4, k5, k6⟩ := clean_exact_skip _ p (opts.head?.getD false) cnt es
    (calledNames h).reverse hr.reg (regExact_fresh env fs₀ c caller h) (hr.cleanup_ne_nil hcalls) hjf hin
    (run_notDir c caller p rel hsp h { env := env, fs := fs₀ } hnd) hfa.clean hread1 fr obsT fs2 wr crun
  -- no test was skipped: "kept" is "registered"
  rw [hr.noSkip] at k2 k3
  simp only [skipListed, List.any_nil, Bool.or_false] at k2 k3
  rw [hr.wenv] at k3 k5
  refine ⟨fs2, fr.obsolete, obsT, registered, hclean, fun tid => ?_, k2, k3, ?_, ?_, ?_⟩
  · rw [k1, slotId_reverse]
  · intro q; rw [k4, hr.rel.fs]
  · intro q hq; rw [k5 q hq, hr.rel.fs]
  · intro q hqp hq; rw [k6 q hqp hq, hr.rel.fs]

/-- an entry whose slot no call addressed is not registered -/
theorem not_registered_of_stale {registered names : List Text} {cnt : Nat}
    (hslots : ∀ tid, tid ∈ registered ↔ SlotId names cnt tid) {e : Entry} (hrec : Recognised e)
    (hstale : ∀ t ∈ names, ∀ k, e.id = testID t k →
      ¬ (k = names.count t / cnt ∨ (1 ≤ k ∧ k ≤ names.count t / cnt))) :
    registered.contains (tidOf e) = false := by
  have hn : tidOf e ∉ registered := by
    intro hm
    obtain ⟨t, ht, k, hk, hslot⟩ := (hslots _).mp hm
    exact hstale t ht k (id_eq_testID_of_tid hrec hk) hslot
  simpa using hn

/-- what the two conclusions of the exactness theorems (`obsT`: the ids of the entries not kept; afterwards a
    permutation of the kept ones, of all unless deleting) say about ONE entry that is not kept -/
theorem reported_of_not_kept {K : Text → Bool} {es es' : List Entry} {obsT : List Text} {del : Bool}
    (hobs : obsT = (es.filter (fun e => !K (tidOf e))).map tidOf)
    (hperm : es'.Perm (es.filter (fun e => K (tidOf e) || !del)))
    {e : Entry} (he : e ∈ es) (hk : K (tidOf e) = false) :
    tidOf e ∈ obsT ∧ (del = true → ∀ e' ∈ es', e'.id ≠ e.id) ∧ (del = false → e ∈ es') := by
  refine ⟨?_, ?_, ?_⟩
  · rw [hobs]
    exact List.mem_map.mpr ⟨e, List.mem_filter.mpr ⟨he, by rw [hk]; rfl⟩, rfl⟩
  · intro hd e' he' hid
    have := (List.mem_filter.mp (hperm.mem_iff.mp he')).2
    rw [hd, tidOf_congr hid, hk] at this
    cases this
  · intro hd
    exact hperm.mem_iff.mpr (List.mem_filter.mpr ⟨he, by simp [hd]⟩)

/-- **C09 completeness in the words of the property.**  Setting of `go_stale_reported`.  After `Clean`:

* every entry `e` of the snapshot file whose header is not `[t - k]` for a called test `t` and a protected
  ordinal `k` (`1 ≤ k ≤ (calls of t)/cnt`, or `k = (calls of t)/cnt`) has its id in the printed list
  `obsTests`; when deleting, NO entry with that header is in the file any more; in every other mode `e` itself
  still is, header and body;
* every existing regular file `dir/name` (`.snap` in `name`; not a directory: `NotDir`) of the snapshot
  directory other than `p` — no step of `h` addressed it: all address `p` — is in the printed list `obsFiles`;
  when deleting it does not exist any more, in every other mode it reads as before. -/
theorem go_stale_reported_words (env : Env) (fs₀ : FS) (c : Cfg) (caller p rel : Text) (h : List Step)
    (parseFile : Text → List GoDecl × Err) (re : Text → Text → Bool × Bool) (cnt : Nat) (err : Err)
    (opts : List Bool)
    (hsp : ∀ t, snapshotPath c caller t false = (p, some rel)) (hok : HistOK h) (hcnt : cnt > 0)
    (hre : ∀ s, (re [] s).1 = true)
    (hjf : JoinFaithful (fpDir p)) (hin : InDir p) (hnd : NotDir fs₀ p) (hcalls : calledNames h ≠ []) :
    ∃ st1, goRun IOFail.never c caller (freshSt env fs₀) h = some st1 ∧
    ∀ es, FileAfter st1.fs p es h (opts.head?.getD false) →
    ∃ (fs2 : FS) (obsFiles obsTests : List Text) (es' : List Entry),
      Generated.FuncsIO.Clean IOFail.never st1 parseFile re [] ((cnt : Int), err) () opts =
        some { st1 with fs := fs2, stdout := st1.stdout ++ summaryLine (Generated.FuncsIO.summary obsFiles
          obsTests (GoSem.len st1.skipped) st1.events (cleanUpd st1)) } ∧
      fsRead fs2 p = some (render es') ∧ CleanFile es' ∧
      (∀ e ∈ es,
        (∀ t ∈ calledNames h, ∀ k, e.id = testID t k →
          ¬ (k = (calledNames h).count t / cnt ∨ (1 ≤ k ∧ k ≤ (calledNames h).count t / cnt))) →
        tidOf e ∈ obsTests ∧
        (deleting env = true → ∀ e' ∈ es', e'.id ≠ e.id) ∧ (deleting env = false → e ∈ es')) ∧
      (∀ name, SimpleName name → dirPrefix (fpDir p) ++ name ≠ p →
        fsRead st1.fs (dirPrefix (fpDir p) ++ name) ≠ none → NotDir st1.fs (dirPrefix (fpDir p) ++ name) →
        dirPrefix (fpDir p) ++ name ∈ obsFiles ∧
        (deleting env = true → fsRead fs2 (dirPrefix (fpDir p) ++ name) = none) ∧
        (deleting env = false →
          fsRead fs2 (dirPrefix (fpDir p) ++ name) = fsRead st1.fs (dirPrefix (fpDir p) ++ name))) := by
  obtain ⟨st1, e1, hmain⟩ := go_stale_reported env fs₀ c caller p rel h parseFile re cnt err opts hsp hok hcnt
    hre hjf hin hnd hcalls
  refine ⟨st1, e1, fun es hfa => ?_⟩
  obtain ⟨fs2, obsF, obsT, registered, hclean, hslots, hobs, ⟨es', hr2, hf', hperm⟩, hfiles, hrem, _⟩ :=
    hmain es hfa
  refine ⟨fs2, obsF, obsT, es', hclean, hr2, hf', ?_, ?_⟩
  · intro e he hstale
    exact reported_of_not_kept (K := fun tid => registered.contains tid) hobs hperm he
      (not_registered_of_stale hslots (hfa.clean.recognised e he) hstale)
  · intro name hs hne hex hnd'
    have hm : dirPrefix (fpDir p) ++ name ∈ obsF :=
      (hfiles _).mpr ⟨name, hs, readDir_lists_file st1.fs (fpDir p) name hs.1 hs.2.1 hex hnd', rfl, hne⟩
    refine ⟨hm, fun hd => ?_, fun hd => ?_⟩
    · rw [hrem _ hm, hd]; rfl
    · rw [hrem _ hm, hd]; rfl

/-- **C09 completeness, ANY mix of modes in the run** (`go_stale_reported_words` with `FileAfter` discharged
    from hypotheses on the INPUTS as in `goRun_fileAfter`: `Good` initial file with recognised headers, NoShadow,
    test names without a space, the file exists or creation is allowed) -/
theorem go_stale_reported_any_run (env : Env) (fs₀ : FS) (c : Cfg) (caller p rel : Text)
    (es₀ : List Entry) (h : List Step)
    (parseFile : Text → List GoDecl × Err) (re : Text → Text → Bool × Bool) (cnt : Nat) (err : Err)
    (opts : List Bool)
    (hsp : ∀ t, snapshotPath c caller t false = (p, some rel))
    (hfile : Holds fs₀ p es₀) (hgood : Good es₀)
    (hns : NoShadowAll es₀ (calledNames h) (texts h))
    (hrec₀ : ∀ e ∈ es₀, Recognised e)
    (htest : ∀ t ∈ calledNames h, (32 : Byte) ∉ t)
    (hce : fsRead fs₀ p ≠ none ∨ shouldCreate env c.update = true)
    (hcnt : cnt > 0) (hre : ∀ s, (re [] s).1 = true)
    (hjf : JoinFaithful (fpDir p)) (hin : InDir p) (hnd : NotDir fs₀ p) (hcalls : calledNames h ≠ []) :
    ∃ st1 es, goRun IOFail.never c caller (freshSt env fs₀) h = some st1 ∧
      Holds st1.fs p es ∧ CleanFile es ∧
      ((opts.head?.getD false = true → TotalOn (es.map tidOf)) →
      ∃ (fs2 : FS) (obsFiles obsTests : List Text) (es' : List Entry),
        Generated.FuncsIO.Clean IOFail.never st1 parseFile re [] ((cnt : Int), err) () opts =
          some { st1 with fs := fs2, stdout := st1.stdout ++ summaryLine (Generated.FuncsIO.summary obsFiles
            obsTests (GoSem.len st1.skipped) st1.events (cleanUpd st1)) } ∧
        fsRead fs2 p = some (render es') ∧ CleanFile es' ∧
        (∀ e ∈ es,
          (∀ t ∈ calledNames h, ∀ k, e.id = testID t k →
            ¬ (k = (calledNames h).count t / cnt ∨ (1 ≤ k ∧ k ≤ (calledNames h).count t / cnt))) →
          tidOf e ∈ obsTests ∧
          (deleting env = true → ∀ e' ∈ es', e'.id ≠ e.id) ∧ (deleting env = false → e ∈ es')) ∧
        (∀ name, SimpleName name → dirPrefix (fpDir p) ++ name ≠ p →
          fsRead st1.fs (dirPrefix (fpDir p) ++ name) ≠ none → NotDir st1.fs (dirPrefix (fpDir p) ++ name) →
          dirPrefix (fpDir p) ++ name ∈ obsFiles ∧
          (deleting env = true → fsRead fs2 (dirPrefix (fpDir p) ++ name) = none) ∧
          (deleting env = false →
            fsRead fs2 (dirPrefix (fpDir p) ++ name) = fsRead st1.fs (dirPrefix (fpDir p) ++ name)))) := by
  obtain ⟨st1, es, e1, h1, h2, _, h3⟩ := of_fileAfter
    (goRun_fileAfter env fs₀ c caller p rel es₀ h hsp hfile hgood hns hrec₀ htest hce)
    (go_stale_reported_words env fs₀ c caller p rel h parseFile re cnt err opts hsp
      (HistOK_of_bodies h hns.bodies) hcnt hre hjf hin hnd hcalls)
  exact ⟨st1, es, e1, h1, h2, h3⟩

/-- the second `Clean`, stage by stage (model level): after a supported first `Clean` of a world whose registry
    knows only the file `p`, the stages of a second one over the file system the first left succeed, write
    nothing, remove nothing; when deleting they report nothing, otherwise the same items again -/
theorem second_clean_stages (w1 : World) (p : Text) (sortOpt : Bool) (cnt : Nat) (es : List Entry)
    (hkeys : ∀ kv ∈ w1.cleanup, kv.1.1 = p) (hjf : JoinFaithful (fpDir p))
    (hf : CleanFile es) (hfile : Holds w1.fs p es) (hto : sortOpt = true → TotalOn (es.map tidOf))
    (fr : FilesResult) (obsT : List Text) (fs2 : FS) (wr : List Text)
    (crun : CleanRun {} w1 sortOpt [] cnt [] fr obsT fs2 wr) :
    ∃ fr2 obs2, GoSnaps.examineFiles {} fs2 (cleanRegPaths w1) [] []
        (Generated.cleanFilesUpdate w1.env sortOpt) = some fr2 ∧
      examineSnaps {} fr2.fs w1.cleanup w1.skipped fr2.used [] cnt (Generated.cleanSnapsUpdate w1.env sortOpt)
        (Generated.cleanSnapsSort w1.env sortOpt) = .ok obs2 fs2 [] ∧
      (Generated.cleanFilesUpdate w1.env sortOpt = true → fr2.obsolete = [] ∧ obs2 = []) ∧
      (Generated.cleanFilesUpdate w1.env sortOpt = false → fr2.obsolete = fr.obsolete ∧ obs2.Perm obsT) := by
  have hupd : Generated.cleanSnapsUpdate w1.env sortOpt = Generated.cleanFilesUpdate w1.env sortOpt := rfl
  have hfiles := crun.files
  have hsn := crun.snaps
  by_cases hne : w1.cleanup = []
  · -- no call was made: nothing is listed, nothing is examined
    rw [cleanRegPaths_nil w1 hne, examineFiles_none] at hfiles
    simp only [Option.some.injEq] at hfiles
    subst hfiles
    unfold examineSnaps at hsn
    rw [examineSnaps_go_nil] at hsn
    simp only [SnapsOutcome.ok.injEq] at hsn
    obtain ⟨rfl, rfl, rfl⟩ := hsn
    refine ⟨{ fs := w1.fs }, [], ?_, ?_, fun _ => ⟨rfl, rfl⟩, fun _ => ⟨rfl, List.Perm.refl _⟩⟩
    · rw [cleanRegPaths_nil w1 hne, examineFiles_none]
    · unfold examineSnaps; rw [examineSnaps_go_nil]
  · have hnrem : p ∉ fr.removed := regPath_not_removed {} w1 p hkeys [] _ fr hfiles
    have hframe := (C09.examineFiles_untouched _ _ _ _ _ _ _ hfiles).2.2.2 p hnrem
    rw [cleanRegPaths_single w1 p hne hkeys] at hfiles ⊢
    have hcf := hfiles
    rw [examineFiles_one] at hcf
    simp only [Option.some.injEq] at hcf
    have hused : fr.used = [] ∨ fr.used = [p] := by
      rw [← hcf]; exact filesUsed_nil_or_single w1.fs p hjf
    rcases hused with hu | hu
    · -- the first `Clean` examined no file: the second lists the same directory, `p` is still not named
      rw [hu] at hsn
      unfold examineSnaps at hsn
      rw [examineSnaps_go_nil] at hsn
      simp only [SnapsOutcome.ok.injEq] at hsn
      obtain ⟨rfl, rfl, rfl⟩ := hsn
      have h2 := examineFiles_one_again {} w1.fs fr.fs p _ hjf fr hfiles rfl
      refine ⟨_, [], h2, ?_, fun hd => ⟨by simp [hd], rfl⟩, fun hd => ⟨by simp [hd], List.Perm.refl _⟩⟩
      simp only [hu]
      unfold examineSnaps; rw [examineSnaps_go_nil]
    · -- the first `Clean` examined `p`: its second examination writes nothing
      rw [hu] at hsn
      obtain ⟨cc, hcc⟩ := examineSnaps_go_reads {} _ _ _ _ _ _ _ _ _ _ _ _ _ hsn p (by simp)
      have hread : fsRead fr.fs p = some (render es) := by
        rcases hfile with h1 | ⟨h1, _⟩
        · rw [hframe]; exact h1
        · rw [hframe, h1] at hcc; cases hcc
      obtain ⟨registered, hreg⟩ : ∃ r, registeredFor w1.cleanup p cnt = some r :=
        occurrences_snapshot_total _ cnt
      have hcls : ∀ e ∈ es, Classified {} registered w1.skipped [] (tidOf e) :=
        fun e _ => classified_noRun {} registered _ _
      obtain ⟨obs', hsec, hobsT, hobsP⟩ := C10.second_run_writes_nothing {} fr.fs w1.cleanup w1.skipped p [] cnt
        _ _ registered es hf hread hreg hcls
        (fun hs => hto (by
          unfold Generated.cleanSnapsSort at hs
          simp only [Bool.and_eq_true] at hs
          exact hs.1)) obsT fs2 wr hsn
      have hpaths : fs2.map (·.1) = fr.fs.map (·.1) := by
        have hsn' := hsn
        rw [examineSnaps_single {} registered w1.skipped [] fr.fs w1.cleanup p cnt _ _ es hf hread hreg hcls]
          at hsn'
        obtain ⟨_, es', _, _, hcase⟩ := cleanOutcome_holds _ es hf p fr.fs _ _ obsT fs2 wr hsn'
        rcases hcase with ⟨h1, _, _⟩ | ⟨h1, _⟩
        · rw [h1]
        · rw [h1]; exact paths_fsWrite_of_exists _ _ _ (by rw [hread]; simp)
      have h2 := examineFiles_one_again {} w1.fs fs2 p _ hjf fr hfiles hpaths
      refine ⟨_, obs', h2, ?_, fun hd => ⟨by simp [hd], hobsT (hupd ▸ hd)⟩,
        fun hd => ⟨by simp [hd], hobsP (hupd ▸ hd)⟩⟩
      simp only [hu]
      exact hsec

/-- **C10, end to end: a second `Clean` changes nothing — in EVERY mode** (report, sort, CI,
    `UPDATE_SNAPS=true|clean` off CI, sort on or off).

After any run, with the snapshot file well-formed (`FileAfter`), the first `Clean` may remove obsolete files
and prune and sort the snapshot file (`st2`); a second `Clean` in the state the first one left (same process:
same registries, same counters) does not panic, leaves the FILE SYSTEM EXACTLY as the first one left it, and
prints the summary of two lists `obsF2`, `obsT2` which are EMPTY when deleting — no item the first call removed
is reported again — and in every other mode are the same files and a permutation of the same ids.

`hjf` (`filepath.Join` is faithful on the snapshot directory) is the only hypothesis beyond those of
`go_matched_survive_clean`; it is used to recognise the snapshot file and the obsolete files in the listing.
No `InDir` / `NotDir` hypothesis: whether or not the listing names `p`, the second listing names it iff the
first did (`examineFiles_one_again`). -/
theorem go_second_clean_changes_nothing_every_mode (env : Env) (fs₀ : FS) (c : Cfg) (caller p rel : Text)
    (h : List Step) (parseFile : Text → List GoDecl × Err) (re : Text → Text → Bool × Bool) (cnt : Nat)
    (err : Err) (opts : List Bool)
    (hsp : ∀ t, snapshotPath c caller t false = (p, some rel)) (hok : HistOK h) (hcnt : cnt > 0)
    (hre : ∀ s, (re [] s).1 = true) (hjf : JoinFaithful (fpDir p)) :
    ∃ st1, goRun IOFail.never c caller (freshSt env fs₀) h = some st1 ∧
    ∀ es, FileAfter st1.fs p es h (opts.head?.getD false) →
    ∃ (fs2 : FS) (obsF1 obsT1 : List Text) (st2 : St),
      st2 = { st1 with fs := fs2, stdout := st1.stdout ++ summaryLine (Generated.FuncsIO.summary obsF1
        obsT1 (GoSem.len st1.skipped) st1.events (cleanUpd st1)) } ∧
      Generated.FuncsIO.Clean IOFail.never st1 parseFile re [] ((cnt : Int), err) () opts = some st2 ∧
      ∃ (obsF2 obsT2 : List Text),
        Generated.FuncsIO.Clean IOFail.never st2 parseFile re [] ((cnt : Int), err) () opts =
          some { st2 with stdout := st2.stdout ++ summaryLine (Generated.FuncsIO.summary obsF2
            obsT2 (GoSem.len st2.skipped) st2.events (cleanUpd st2)) } ∧
        (deleting env = true → obsF2 = [] ∧ obsT2 = []) ∧
        (deleting env = false → obsF2 = obsF1 ∧ obsT2.Perm obsT1) := by
  obtain ⟨st1, hr⟩ := goRun_reached env fs₀ c caller p rel h hsp hok
  refine ⟨st1, hr.run, fun es hfa => ?_⟩
  obtain ⟨fr, obsT, fs2, wr, crun, hclean⟩ := hr.clean_run parseFile re cnt err opts hcnt hre (fun _ => hjf) hfa
  have hrel1 := hr.crel
  have hkeys := hr.reg.keys
  have hscl := hr.reg.sclean
  have hwenv := hr.wenv
  have hfile1 : Holds (C01World.run c caller { env := env, fs := fs₀ } h).1.fs p es := hr.rel.fs ▸ hfa.holds
  generalize (C01World.run c caller { env := env, fs := fs₀ } h).1 = w1 at *
  have hupdF : Generated.cleanFilesUpdate w1.env (opts.head?.getD false) = deleting env := by
    unfold Generated.cleanFilesUpdate; rw [hwenv]
  obtain ⟨fr2, obs2, hfiles2, hsn2, hA, hB⟩ := second_clean_stages w1 p (opts.head?.getD false) cnt es hkeys hjf
    hfa.clean hfile1 hfa.total fr obsT fs2 wr crun
  have hfs2 : fr2.fs = fs2 := by
    have inv := GoSnaps.examineFiles_inv _ _ _ _ _ _ _ hfiles2
    cases hd : Generated.cleanFilesUpdate w1.env (opts.head?.getD false) with
    | false => exact ((C09.examineFiles_untouched _ _ _ _ _ _ _ hfiles2).2.1 hd).2
    | true =>
      have hrm : fr2.removed = [] := by rw [inv.removed_eq, (hA hd).1]; simp
      rw [inv.fs_eq, hrm]; rfl
  rw [hfs2] at hsn2
  have crun2 := CleanRun.of_stages (o := {}) (w := { w1 with fs := fs2 }) (sortOpt := opts.head?.getD false)
    (runOnly := []) (count := cnt) (fs := fs2) (by omega) (by rw [hscl]; rfl) hfiles2 (by rw [hfs2]; exact hsn2)
  have hrel2 := hrel1.after_clean fs2 (st1.stdout ++ summaryLine (Generated.FuncsIO.summary fr.obsolete
    obsT (GoSem.len st1.skipped) st1.events (cleanUpd st1)))
  have hclean2 := Clean_oneFile hrel2 p hkeys hscl parseFile re cnt err opts hcnt hre (fun _ => hjf)
    crun2.supported
  rw [crun2.result, cleanStdout_go hrel2] at hclean2
  refine ⟨fs2, fr.obsolete, obsT, _, rfl, hclean, fr2.obsolete, obs2, hclean2, ?_, ?_⟩
  · intro hd; exact hA (hupdF.trans hd)
  · intro hd; exact hB (hupdF.trans hd)

/-- **C10 without the summaries**: the second `Clean` leaves the file system as the first left it, every mode -/
theorem go_second_clean_changes_nothing_every_mode' (env : Env) (fs₀ : FS) (c : Cfg) (caller p rel : Text)
    (h : List Step) (parseFile : Text → List GoDecl × Err) (re : Text → Text → Bool × Bool) (cnt : Nat)
    (err : Err) (opts : List Bool)
    (hsp : ∀ t, snapshotPath c caller t false = (p, some rel)) (hok : HistOK h) (hcnt : cnt > 0)
    (hre : ∀ s, (re [] s).1 = true) (hjf : JoinFaithful (fpDir p)) :
    ∃ st1, goRun IOFail.never c caller (freshSt env fs₀) h = some st1 ∧
    ∀ es, FileAfter st1.fs p es h (opts.head?.getD false) →
    ∃ st2, Generated.FuncsIO.Clean IOFail.never st1 parseFile re [] ((cnt : Int), err) () opts = some st2 ∧
    ∃ st3, Generated.FuncsIO.Clean IOFail.never st2 parseFile re [] ((cnt : Int), err) () opts = some st3 ∧
      st3.fs = st2.fs := by
  obtain ⟨st1, e1, hmain⟩ := go_second_clean_changes_nothing_every_mode env fs₀ c caller p rel h parseFile re cnt
    err opts hsp hok hcnt hre hjf
  refine ⟨st1, e1, fun es hfa => ?_⟩
  obtain ⟨fs2, oF, oT, st2, _, hc1, oF2, oT2, hc2, _⟩ := hmain es hfa
  exact ⟨st2, hc1, _, hc2, rfl⟩

/-- **C10 in the modes without deletion** (report mode with or without `Sort`, CI): an instance of
    `go_second_clean_changes_nothing_every_mode'`, which does not need `hnd` -/
theorem go_second_clean_changes_nothing (env : Env) (fs₀ : FS) (c : Cfg) (caller p rel : Text) (h : List Step)
    (parseFile : Text → List GoDecl × Err) (re : Text → Text → Bool × Bool) (cnt : Nat) (err : Err)
    (opts : List Bool)
    (hsp : ∀ t, snapshotPath c caller t false = (p, some rel)) (hok : HistOK h) (hcnt : cnt > 0)
    (hre : ∀ s, (re [] s).1 = true)
    (hnd : (Generated.shouldClean env && !env.isCI) = false) (hjf : JoinFaithful (fpDir p)) :
    ∃ st1, goRun IOFail.never c caller (freshSt env fs₀) h = some st1 ∧
    ∀ es, FileAfter st1.fs p es h (opts.head?.getD false) →
    ∃ st2, Generated.FuncsIO.Clean IOFail.never st1 parseFile re [] ((cnt : Int), err) () opts = some st2 ∧
    ∃ st3, Generated.FuncsIO.Clean IOFail.never st2 parseFile re [] ((cnt : Int), err) () opts = some st3 ∧
      st3.fs = st2.fs :=
  go_second_clean_changes_nothing_every_mode' env fs₀ c caller p rel h parseFile re cnt err opts hsp hok hcnt hre
    hjf

/-- **C10, end to end, ANY mix of modes in the run** (`go_second_clean_changes_nothing` with `FileAfter`
    discharged; stated for the modes without deletion, but `hnd` is not needed: `…_any_run`) -/
theorem go_second_clean_changes_nothing_any_mode (env : Env) (fs₀ : FS) (c : Cfg) (caller p rel : Text)
    (es₀ : List Entry) (h : List Step)
    (parseFile : Text → List GoDecl × Err) (re : Text → Text → Bool × Bool) (cnt : Nat) (err : Err)
    (opts : List Bool)
    (hsp : ∀ t, snapshotPath c caller t false = (p, some rel))
    (hfile : Holds fs₀ p es₀) (hgood : Good es₀)
    (hns : NoShadowAll es₀ (calledNames h) (texts h))
    (hrec₀ : ∀ e ∈ es₀, Recognised e)
    (htest : ∀ t ∈ calledNames h, (32 : Byte) ∉ t)
    (hce : fsRead fs₀ p ≠ none ∨ shouldCreate env c.update = true)
    (hcnt : cnt > 0) (hre : ∀ s, (re [] s).1 = true)
    (hnd : (Generated.shouldClean env && !env.isCI) = false) (hjf : JoinFaithful (fpDir p)) :
    ∃ st1 es, goRun IOFail.never c caller (freshSt env fs₀) h = some st1 ∧
      Holds st1.fs p es ∧ CleanFile es ∧
      ((opts.head?.getD false = true → TotalOn (es.map tidOf)) →
      ∃ st2, Generated.FuncsIO.Clean IOFail.never st1 parseFile re [] ((cnt : Int), err) () opts = some st2 ∧
      ∃ st3, Generated.FuncsIO.Clean IOFail.never st2 parseFile re [] ((cnt : Int), err) () opts = some st3 ∧
        st3.fs = st2.fs) := by
  obtain ⟨st1, es, e1, h1, h2, _, h3⟩ := of_fileAfter
    (goRun_fileAfter env fs₀ c caller p rel es₀ h hsp hfile hgood hns hrec₀ htest hce)
    (go_second_clean_changes_nothing env fs₀ c caller p rel h parseFile re cnt err
      opts hsp (HistOK_of_bodies h hns.bodies) hcnt hre hnd hjf)
  exact ⟨st1, es, e1, h1, h2, h3⟩

/-- **C10, end to end, ANY mix of modes in the run AND any mode of `Clean`** (`FileAfter` discharged from
    hypotheses on the inputs) -/
theorem go_second_clean_changes_nothing_any_run (env : Env) (fs₀ : FS) (c : Cfg) (caller p rel : Text)
    (es₀ : List Entry) (h : List Step)
    (parseFile : Text → List GoDecl × Err) (re : Text → Text → Bool × Bool) (cnt : Nat) (err : Err)
    (opts : List Bool)
    (hsp : ∀ t, snapshotPath c caller t false = (p, some rel))
    (hfile : Holds fs₀ p es₀) (hgood : Good es₀)
    (hns : NoShadowAll es₀ (calledNames h) (texts h))
    (hrec₀ : ∀ e ∈ es₀, Recognised e)
    (htest : ∀ t ∈ calledNames h, (32 : Byte) ∉ t)
    (hce : fsRead fs₀ p ≠ none ∨ shouldCreate env c.update = true)
    (hcnt : cnt > 0) (hre : ∀ s, (re [] s).1 = true) (hjf : JoinFaithful (fpDir p)) :
    ∃ st1 es, goRun IOFail.never c caller (freshSt env fs₀) h = some st1 ∧
      Holds st1.fs p es ∧ CleanFile es ∧
      ((opts.head?.getD false = true → TotalOn (es.map tidOf)) →
      ∃ st2, Generated.FuncsIO.Clean IOFail.never st1 parseFile re [] ((cnt : Int), err) () opts = some st2 ∧
      ∃ (obsF2 obsT2 : List Text),
        Generated.FuncsIO.Clean IOFail.never st2 parseFile re [] ((cnt : Int), err) () opts =
          some { st2 with stdout := st2.stdout ++ summaryLine (Generated.FuncsIO.summary obsF2
            obsT2 (GoSem.len st2.skipped) st2.events (cleanUpd st2)) } ∧
        (deleting env = true → obsF2 = [] ∧ obsT2 = [])) := by
  obtain ⟨st1, es, e1, h1, h2, _, h3⟩ := of_fileAfter
    (goRun_fileAfter env fs₀ c caller p rel es₀ h hsp hfile hgood hns hrec₀ htest hce)
    (go_second_clean_changes_nothing_every_mode env fs₀ c caller p rel h parseFile re
      cnt err opts hsp (HistOK_of_bodies h hns.bodies) hcnt hre hjf)
  refine ⟨st1, es, e1, h1, h2, fun hto => ?_⟩
  obtain ⟨fs2, oF, oT, st2, _, hc1, oF2, oT2, hc2, hA, _⟩ := h3 hto
  exact ⟨st2, hc1, oF2, oT2, hc2, hA⟩

/-! ## C07 with `-count > 1`: a history of `cnt` closed rounds

`go test -count=cnt` executes every test function `cnt` times, one execution after the other; go-snaps resets
its running counters in `t.Cleanup`.  A history of such a process is a list of ROUNDS: -/

/-- **a history of `cnt` executions**: `cnt` rounds; in each round every call is followed, within the round, by
    the end of the test execution that made it (`ClosedRound`: `t.Cleanup` ran before the next execution
    starts); every round makes the same number `m t` of calls of each test `t`.  The rounds need NOT be
    identical step by step: texts, `testing.T` identities and the interleaving of parallel tests may differ
    from round to round.  `cnt` identical rounds are the special case `Rounds.replicate`. -/
structure Rounds (cnt : Nat) (m : Text → Nat) (rounds : List (List Step)) : Prop where
  len : rounds.length = cnt
  closed : ∀ r ∈ rounds, ClosedRound r
  calls : ∀ r ∈ rounds, ∀ t, (calledNames r).count t = m t

theorem Rounds.replicate (cnt : Nat) (round : List Step) (hcl : ClosedRound round) :
    Rounds cnt (fun t => (calledNames round).count t) (List.replicate cnt round) :=
  ⟨List.length_replicate, fun r hr => (List.eq_of_mem_replicate hr) ▸ hcl,
    fun r hr t => by rw [List.eq_of_mem_replicate hr]⟩

/-- with `cnt` rounds of `m t` calls each, `occurrences` protects exactly the ordinals `1 … m t` of `t` -/
theorem Rounds.quotient {cnt : Nat} {m : Text → Nat} {rounds : List (List Step)} (hR : Rounds cnt m rounds)
    (hcnt : cnt > 0) (t : Text) : (calledNames rounds.flatten).count t / cnt = m t := by
  rw [count_rounds rounds t (m t) (fun r hr => hR.calls r hr t), hR.len]
  exact Nat.mul_div_cancel_left _ hcnt

theorem idle_fresh (env : Env) (fs₀ : FS) : Idle ({ env := env, fs := fs₀ } : World) :=
  ⟨fun _ => rfl, rfl⟩

/-- **the slot a call addresses is a protected one, for every `-count`.**  The history consists of rounds
    (executions); `R1` are the closed rounds before the current one, `h1 ++ call t … :: h2` is the current round
    and `R2` are the rounds after it; all `cnt` rounds make `m` calls of `t`.  Then the TRANSLITERATED
    `syncRegistry.getTestID` hands the call the header `[t - k]` with

    * `1 ≤ k ≤ (calls of t in the current round up to and including this one) ≤ m`, and
      `m = (calls of t in the whole history) / cnt`: `[t - k]` is a slot of `go_matched_survive_clean`;
    * `k = (calls of t earlier in the current round) + 1` EXACTLY when the current round is `Scoped` (a test is
      not called again after its execution ended): the `k`-th call of `t` in EVERY execution addresses
      `[t - k]`. -/
theorem go_call_addresses_count (env : Env) (fs₀ : FS) (c : Cfg) (caller p rel : Text)
    (R1 R2 : List (List Step)) (h1 h2 : List Step) (t s : Text) (cmp : Cmp) (x : Nat) (cnt m : Nat)
    (hsp : ∀ t, snapshotPath c caller t false = (p, some rel)) (hok : HistOK (R1.flatten ++ h1))
    (hlen : (R1 ++ (h1 ++ .call t s cmp x :: h2) :: R2).length = cnt)
    (hcl : ∀ r ∈ R1, ClosedRound r)
    (hm : ∀ r ∈ R1 ++ (h1 ++ .call t s cmp x :: h2) :: R2, (calledNames r).count t = m) :
    ∃ (mid : St) (k : Nat) (r' : Registry),
      goRun IOFail.never c caller (freshSt env fs₀) (R1.flatten ++ h1) = some mid ∧
      syncRegistry_getTestID mid.reg p t = some (r', testID t k) ∧ 1 ≤ k ∧
      k ≤ (calledNames h1).count t + 1 ∧ k ≤ m ∧
      k ≤ (calledNames (R1 ++ (h1 ++ .call t s cmp x :: h2) :: R2).flatten).count t / cnt ∧
      (Scoped [] (h1 ++ .call t s cmp x :: h2) → k = (calledNames h1).count t + 1) := by
  obtain ⟨mid, e, r, _⟩ := goRun_simulates' c caller (R1.flatten ++ h1) (StRel_init env fs₀) hok
    (run_supported c caller p rel hsp _ _)
  obtain ⟨r', id, hg, _, hid, _⟩ := syncRegistry_getTestID_tied mid.reg _ _ p t r.reg
  rw [C03.testID_eq] at hid
  cases hid
  have hsp1 : ∀ t, (snapshotPath c caller t false).1 = p := fun t => by rw [hsp t]
  have hle := ordinal_le_round c caller p hsp1 _ (idle_fresh env fs₀) R1 hcl h1 t
  have hround : (calledNames h1).count t + 1 ≤ m := by
    rw [← hm (h1 ++ .call t s cmp x :: h2) (by simp), calledNames_append, List.count_append]
    simp [calledNames]
  have hcnt : cnt > 0 := by rw [← hlen]; simp; omega
  have hq : (calledNames (R1 ++ (h1 ++ .call t s cmp x :: h2) :: R2).flatten).count t / cnt = m := by
    rw [count_rounds _ t m hm, hlen]
    exact Nat.mul_div_cancel_left _ hcnt
  refine ⟨mid, _, r', e, hg, by omega, hle, by omega, by omega, fun hsc => ?_⟩
  exact ordinal_eq_round c caller p (fun t => ⟨_, hsp t⟩) _ (idle_fresh env fs₀) R1 hcl h1 h2 t s cmp x hsc

/-- **C07, end to end, for every `-count`: `go_matched_survive_clean_count`.**  `go_matched_survive_clean`
    for a history of `cnt` rounds (`Rounds cnt m rounds`), with its arithmetic hypothesis on `must` discharged:
    every entry `[t - k]` of the file with `1 ≤ k ≤ m t` — `k` at most the number of calls of `t` in ONE
    execution; by `go_call_addresses_count` every call of every round addresses such a slot — is still in the
    file with its body after `Clean` with `-count = cnt`, and is not printed as obsolete. -/
theorem go_matched_survive_clean_count (env : Env) (fs₀ : FS) (c : Cfg) (caller p rel : Text)
    (rounds : List (List Step)) (cnt : Nat) (m : Text → Nat)
    (parseFile : Text → List GoDecl × Err) (re : Text → Text → Bool × Bool) (err : Err) (opts : List Bool)
    (hR : Rounds cnt m rounds)
    (hsp : ∀ t, snapshotPath c caller t false = (p, some rel)) (hok : HistOK rounds.flatten) (hcnt : cnt > 0)
    (hre : ∀ s, (re [] s).1 = true)
    (hj : (Generated.shouldClean env && !env.isCI) = true → JoinFaithful (fpDir p)) :
    ∃ st1, goRun IOFail.never c caller (freshSt env fs₀) rounds.flatten = some st1 ∧
    ∀ es, FileAfter st1.fs p es rounds.flatten (opts.head?.getD false) →
    ∃ (fs2 : FS) (obsFiles obsTests : List Text),
      Generated.FuncsIO.Clean IOFail.never st1 parseFile re [] ((cnt : Int), err) () opts =
        some { st1 with fs := fs2, stdout := st1.stdout ++ summaryLine (Generated.FuncsIO.summary obsFiles
          obsTests (GoSem.len st1.skipped) st1.events (cleanUpd st1)) } ∧
      ∀ must : List Entry, (∀ e ∈ must, e ∈ es) →
        (∀ e ∈ must, ∃ t k, e.id = testID t k ∧ 1 ≤ k ∧ k ≤ m t) →
        (∀ e ∈ must, tidOf e ∉ obsTests) ∧
        ∃ es', Holds fs2 p es' ∧ CleanFile es' ∧ (∀ e ∈ must, e ∈ es') ∧ (∀ e ∈ es', e ∈ es) := by
  obtain ⟨st1, e1, hmain⟩ := go_matched_survive_clean env fs₀ c caller p rel rounds.flatten parseFile re cnt err
    opts hsp hok hcnt hre hj
  refine ⟨st1, e1, fun es hfa => ?_⟩
  obtain ⟨fs2, oF, oT, hc, hk⟩ := hmain es hfa
  refine ⟨fs2, oF, oT, hc, fun must hall hcov => hk must hall (fun e he => ?_)⟩
  obtain ⟨t, k, hid, hk1, hk2⟩ := hcov e he
  exact ⟨t, k, hid, hk1, by rw [hR.quotient hcnt t]; exact hk2⟩

/-- **C07 in the words of the property, for every `-count`: what a step of ANY execution addressed and found or
    created survives `Clean`** (`go_addressed_survive_clean` is the case `-count=1`, without rounds).

The history is `cnt` rounds `R1 ++ [h1 ++ call t … :: h2] ++ R2` (`Rounds cnt m`), run from a fresh process
over a `Good` initial file, in any mix of modes.  The transliterated `getTestID` hands the call the header
`[t - k]`, `k ≤ m t`.  If the call found or created its entry (`[t - k]` is a header of what the file holds right
after the call) then it is a header of what the file holds at the end of the run, and after `Clean` with
`-count = cnt` (any mode, any sort option) the entry `⟨[t - k], b⟩` of the file is not printed as obsolete and is
still in the file with its body `b`. -/
theorem go_addressed_survive_clean_count (env : Env) (fs₀ : FS) (c : Cfg) (caller p rel : Text)
    (es₀ : List Entry) (R1 R2 : List (List Step)) (h1 h2 : List Step) (t s : Text) (cmp : Cmp) (x : Nat)
    (cnt : Nat) (m : Text → Nat)
    (parseFile : Text → List GoDecl × Err) (re : Text → Text → Bool × Bool) (err : Err) (opts : List Bool)
    (hR : Rounds cnt m (R1 ++ (h1 ++ .call t s cmp x :: h2) :: R2))
    (hsp : ∀ t, snapshotPath c caller t false = (p, some rel))
    (hfile : Holds fs₀ p es₀) (hgood : Good es₀)
    (hns : NoShadowAll es₀ (calledNames (R1 ++ (h1 ++ .call t s cmp x :: h2) :: R2).flatten)
      (texts (R1 ++ (h1 ++ .call t s cmp x :: h2) :: R2).flatten))
    (hrec₀ : ∀ e ∈ es₀, Recognised e)
    (htest : ∀ t' ∈ calledNames (R1 ++ (h1 ++ .call t s cmp x :: h2) :: R2).flatten, (32 : Byte) ∉ t')
    (hce : fsRead fs₀ p ≠ none ∨ shouldCreate env c.update = true)
    (hre : ∀ s, (re [] s).1 = true)
    (hj : (Generated.shouldClean env && !env.isCI) = true → JoinFaithful (fpDir p)) :
    ∃ (mid : St) (k : Nat) (r' : Registry),
      goRun IOFail.never c caller (freshSt env fs₀) (R1.flatten ++ h1) = some mid ∧
      syncRegistry_getTestID mid.reg p t = some (r', testID t k) ∧ 1 ≤ k ∧ k ≤ m t ∧
    ∃ aft esA, goRun IOFail.never c caller (freshSt env fs₀) ((R1.flatten ++ h1) ++ [.call t s cmp x]) = some aft ∧
      Holds aft.fs p esA ∧
    ∃ st1 es, goRun IOFail.never c caller (freshSt env fs₀)
        (R1 ++ (h1 ++ .call t s cmp x :: h2) :: R2).flatten = some st1 ∧
      Holds st1.fs p es ∧ CleanFile es ∧
      (testID t k ∈ ids esA → testID t k ∈ ids es) ∧
      ((opts.head?.getD false = true → TotalOn (es.map tidOf)) →
      ∃ (fs2 : FS) (obsFiles obsTests : List Text),
        Generated.FuncsIO.Clean IOFail.never st1 parseFile re [] ((cnt : Int), err) () opts =
          some { st1 with fs := fs2, stdout := st1.stdout ++ summaryLine (Generated.FuncsIO.summary obsFiles
            obsTests (GoSem.len st1.skipped) st1.events (cleanUpd st1)) } ∧
        ∀ b, (⟨testID t k, b⟩ : Entry) ∈ es →
          tidOf ⟨testID t k, b⟩ ∉ obsTests ∧
          ∃ es', Holds fs2 p es' ∧ CleanFile es' ∧ (⟨testID t k, b⟩ : Entry) ∈ es') := by
  have hH : (R1 ++ (h1 ++ .call t s cmp x :: h2) :: R2).flatten =
      ((R1.flatten ++ h1) ++ [.call t s cmp x]) ++ (h2 ++ R2.flatten) := by
    simp [List.flatten_append]
  have hcnt : cnt > 0 := by rw [← hR.len]; simp; omega
  have hokA : HistOK (R1.flatten ++ h1) := by
    have hok := HistOK_of_bodies _ hns.bodies
    rw [hH] at hok; exact hok.left.left
  obtain ⟨mid, k, r', emid, hg, hk1, _, hk2, hk3, _⟩ := go_call_addresses_count env fs₀ c caller p rel R1 R2 h1 h2
    t s cmp x cnt (m t) hsp hokA hR.len (fun r hr => hR.closed r (by simp [hr])) (fun r hr => hR.calls r hr t)
  rw [hH] at hns htest hk3 ⊢
  exact ⟨mid, k, r', emid, hg, hk1, hk2, slot_survives_clean env fs₀ c caller p rel es₀ _ _ t k cnt parseFile re
    err opts hsp hfile hgood hns hrec₀ htest hce hcnt hre hj hk1 hk3⟩

/-- **the slot a call addresses is a protected one (`-count=1`).**  In a history run from a fresh process,
    when the call of `t` that follows `h1` is made, the TRANSLITERATED `syncRegistry.getTestID` hands out the
    header `[t - k]` with `1 ≤ k ≤ (calls of t in the whole history)`: every entry that a step of the history
    found or created sits in a slot of the kind `must` ranges over in `go_matched_survive_clean` with
    `cnt = 1`.  (For `-count = cnt > 1` the history consists of `cnt` executions of every test function, each
    making the same calls; the ordinals of one execution are then at most `(calls of t) / cnt` — that
    arithmetic is the hypothesis on `must`, see the `-count=2` history `E2E.h2`.) -/
theorem go_call_addresses (env : Env) (fs₀ : FS) (c : Cfg) (caller p rel : Text) (h1 h2 : List Step)
    (t s : Text) (cmp : Cmp) (x : Nat)
    (hsp : ∀ t, snapshotPath c caller t false = (p, some rel)) (hok : HistOK h1) :
    ∃ (mid : St) (k : Nat) (r' : Registry),
      goRun IOFail.never c caller (freshSt env fs₀) h1 = some mid ∧
      syncRegistry_getTestID mid.reg p t = some (r', testID t k) ∧ 1 ≤ k ∧
      k ≤ (calledNames (h1 ++ .call t s cmp x :: h2)).count t / 1 := by
  obtain ⟨mid, k, r', e, hg, hk1, _, _, hk, _⟩ := go_call_addresses_count env fs₀ c caller p rel [] [] h1 h2 t s cmp x 1
    ((calledNames (h1 ++ .call t s cmp x :: h2)).count t) hsp hok rfl (fun _ h => nomatch h)
    (fun r hr => by simp only [List.nil_append, List.mem_singleton] at hr; rw [hr])
  exact ⟨mid, k, r', e, hg, hk1, by simpa using hk⟩

/-- **C07 in the words of the property: what a step addressed and found or created survives `Clean`**
    (`-count=1`, ANY mix of modes).

Split the history at any call: `h1 ++ call t s cmp x :: h2`.  The transliterated `getTestID` hands that call
the header `[t - k]`.  Let `esA` be what the file holds right after the call and `es` what it holds at the
end of the run (both exist and are well-formed: `goRun_fileAfter_split`).  If the call FOUND OR CREATED its
entry — `[t - k]` is a header of `esA` — then it is a header of `es` (no flow removes a header), and after
`Clean` (any mode, any sort option — `natural.Less` total on the ids if sorting) the entry `⟨[t - k], b⟩` of
`es` is not listed as obsolete and is still in the file `p`, with the body `b` it had when `Clean` was called. -/
theorem go_addressed_survive_clean (env : Env) (fs₀ : FS) (c : Cfg) (caller p rel : Text)
    (es₀ : List Entry) (h1 h2 : List Step) (t s : Text) (cmp : Cmp) (x : Nat)
    (parseFile : Text → List GoDecl × Err) (re : Text → Text → Bool × Bool) (err : Err) (opts : List Bool)
    (hsp : ∀ t, snapshotPath c caller t false = (p, some rel))
    (hfile : Holds fs₀ p es₀) (hgood : Good es₀)
    (hns : NoShadowAll es₀ (calledNames (h1 ++ .call t s cmp x :: h2)) (texts (h1 ++ .call t s cmp x :: h2)))
    (hrec₀ : ∀ e ∈ es₀, Recognised e)
    (htest : ∀ t' ∈ calledNames (h1 ++ .call t s cmp x :: h2),
      (32 : Byte) ∉ t')
    (hce : fsRead fs₀ p ≠ none ∨ shouldCreate env c.update = true)
    (hre : ∀ s, (re [] s).1 = true)
    (hj : (Generated.shouldClean env && !env.isCI) = true → JoinFaithful (fpDir p)) :
    ∃ (mid : St) (k : Nat) (r' : Registry),
      goRun IOFail.never c caller (freshSt env fs₀) h1 = some mid ∧
      syncRegistry_getTestID mid.reg p t = some (r', testID t k) ∧
    ∃ aft esA, goRun IOFail.never c caller (freshSt env fs₀) (h1 ++ [.call t s cmp x]) = some aft ∧
      Holds aft.fs p esA ∧
    ∃ st1 es, goRun IOFail.never c caller (freshSt env fs₀) (h1 ++ .call t s cmp x :: h2) = some st1 ∧
      Holds st1.fs p es ∧ CleanFile es ∧
      (testID t k ∈ ids esA → testID t k ∈ ids es) ∧
      ((opts.head?.getD false = true → TotalOn (es.map tidOf)) →
      ∃ (fs2 : FS) (obsFiles obsTests : List Text),
        Generated.FuncsIO.Clean IOFail.never st1 parseFile re [] (((1 : Nat) : Int), err) () opts =
          some { st1 with fs := fs2, stdout := st1.stdout ++ summaryLine (Generated.FuncsIO.summary obsFiles
            obsTests (GoSem.len st1.skipped) st1.events (cleanUpd st1)) } ∧
        ∀ b, (⟨testID t k, b⟩ : Entry) ∈ es →
          tidOf ⟨testID t k, b⟩ ∉ obsTests ∧
          ∃ es', Holds fs2 p es' ∧ CleanFile es' ∧ (⟨testID t k, b⟩ : Entry) ∈ es') := by
  have hH : h1 ++ .call t s cmp x :: h2 = (h1 ++ [.call t s cmp x]) ++ h2 := by simp
  obtain ⟨mid, k, r', emid, hg, hk1, hk2⟩ := go_call_addresses env fs₀ c caller p rel h1 h2 t s cmp x hsp
    (HistOK_of_bodies _ hns.bodies).left
  rw [hH] at hns htest hk2 ⊢
  exact ⟨mid, k, r', emid, hg, slot_survives_clean env fs₀ c caller p rel es₀ _ h2 t k 1 parseFile re err opts
    hsp hfile hgood hns hrec₀ htest hce (by decide) hre hj hk1 hk2⟩

/-! ## concrete histories (non-vacuity)

As in the closed histories of `Tie/EndToEndClean.lean` (`E2E`): test file "/t/a_test.go", snapshot file `xp` =
"/t/__snapshots__/a_test.snap"; `hist` = tests "TestA" and "TestB", interleaved, two calls each; the initial
snapshot file holds one STALE entry "[TestZ - 1]".  Here the snapshot directory also holds a STALE FILE
`xold` = "/t/__snapshots__/old.snap" that no test addresses. -/

namespace E2E2
open GoSnaps.C07World.Ex (tA tB tZ hist es₀ fs₀ envClean hyps)
open E2E (xp xc exJoin exTotal envReport h2 a1 a2 es2)

/-- "/t/__snapshots__/old.snap" -/
def xold : Text :=
  [47, 116, 47, 95, 95, 115, 110, 97, 112, 115, 104, 111, 116, 115, 95, 95, 47, 111, 108, 100, 46, 115, 110, 97, 112]

/-- "old.snap" -/
def oldName : Text := [111, 108, 100, 46, 115, 110, 97, 112]

def fsS : FS := [(xp, render es₀), (xold, [122])]

def eZ : Entry := ⟨testID tZ 1, [113]⟩

theorem xp_inDir : InDir xp :=
  ⟨[97, 95, 116, 101, 115, 116, 46, 115, 110, 97, 112], ⟨by decide, by decide, by decide⟩, by decide +kernel⟩

theorem xold_eq : xold = dirPrefix (fpDir xp) ++ oldName := by decide +kernel

theorem oldName_simple : SimpleName oldName := ⟨by decide, by decide, by decide⟩

theorem fsS_notDir : NotDir fsS xp := notDir_of_paths _ _ (by decide +kernel)

theorem fsS_fileAfter (sortOpt : Bool) :
    ∃ rcd, goRun IOFail.never {} xc (freshSt envClean fsS) hist = some rcd ∧
      FileAfter rcd.fs xp (es₀ ++ entriesOf hist) hist sortOpt := by
  obtain ⟨rcd, e, hfa, _⟩ := go_record_fileAfter envClean {} xc xp C01World.exRel fsS es₀ hist sortOpt
    C01World.exPath_spec hyps.inScope (Or.inl (by decide +kernel)) hyps.good hyps.fresh hyps.names
    hyps.bodies hyps.noShadow (by decide) hyps.rec₀ (by decide +kernel) (fun _ => exTotal)
  exact ⟨rcd, e, hfa⟩

theorem fsS_run_fs : (goRun IOFail.never {} xc (freshSt envClean fsS) hist).map (fun s => s.fs) =
    some [(xp, render (es₀ ++ entriesOf hist)), (xold, [122])] := by decide +kernel

/-- **C09 completeness applies**: all hypotheses of `go_stale_reported_words` by evaluation; the stale entry
    "[TestZ - 1]" is in the printed list and no entry with that header is left; the stale file "old.snap" is
    in the printed list and does not exist afterwards -/
example : ∃ st1, goRun IOFail.never {} xc (freshSt envClean fsS) hist = some st1 ∧
    ∃ (fs2 : FS) (obsFiles obsTests : List Text) (es' : List Entry),
      Generated.FuncsIO.Clean IOFail.never st1 xParse cRe [] (((1 : Nat) : Int), Err.nil) () [] =
        some { st1 with fs := fs2, stdout := st1.stdout ++ summaryLine (Generated.FuncsIO.summary obsFiles
          obsTests (GoSem.len st1.skipped) st1.events (cleanUpd st1)) } ∧
      fsRead fs2 xp = some (render es') ∧ tidOf eZ ∈ obsTests ∧ (∀ e' ∈ es', e'.id ≠ eZ.id) ∧
      xold ∈ obsFiles ∧ fsRead fs2 xold = none := by
  obtain ⟨rcd, e, hfa⟩ := fsS_fileAfter false
  obtain ⟨st1, e1, hmain⟩ := go_stale_reported_words envClean fsS {} xc xp C01World.exRel hist xParse cRe 1 Err.nil
    [] C01World.exPath_spec (HistOK_of_bodies hist hyps.bodies) (by decide) (fun _ => rfl) exJoin xp_inDir
    fsS_notDir (by decide)
  rw [e] at e1; cases e1
  have hfs : rcd.fs = [(xp, render (es₀ ++ entriesOf hist)), (xold, [122])] := by
    have := congrArg (Option.map (fun s : St => s.fs)) e
    rw [fsS_run_fs] at this
    exact (Option.some.inj this).symm
  obtain ⟨fs2, oF, oT, es', hc, hr2, _, hent, hfile⟩ := hmain _ hfa
  obtain ⟨k1, k2, _⟩ := hent eZ (by decide +kernel) (by
    intro t ht k hid
    -- the header names its test (`C03.header_injective`), and "TestZ" made no call
    have hz : tZ = t := (C03.header_injective tZ t 1 k hid).1
    exact absurd (hz ▸ ht) (by decide +kernel))
  obtain ⟨f1, f2, _⟩ := hfile oldName oldName_simple (by decide +kernel)
    (by rw [hfs, ← xold_eq]; decide +kernel)
    (by rw [hfs, ← xold_eq]; exact notDir_of_paths _ _ (by decide +kernel))
  rw [← xold_eq] at f1 f2
  exact ⟨rcd, e, fs2, oF, oT, es', hc, hr2, k1, k2 rfl, f1, f2 rfl⟩

/-- … and this is what the transliterated code does, by evaluation: `Clean` prints the summary of exactly
    `obsFiles = [old.snap]`, `obsTests = [TestZ - 1]`, removes the file and prunes the entry -/
example :
    ((goRun IOFail.never {} xc (freshSt envClean fsS) hist).bind fun st1 =>
      (Generated.FuncsIO.Clean IOFail.never st1 xParse cRe [] (1, Err.nil) () []).map fun st2 =>
        (st2.fs, decide (st2.stdout = st1.stdout ++ summaryLine (Generated.FuncsIO.summary [xold]
          [tidOf eZ] (GoSem.len st1.skipped) st1.events (cleanUpd st1))))) =
      some ([(xp, render [⟨testID tA 1, [120]⟩, ⟨testID tB 1, [122]⟩, ⟨testID tA 2, [120, 10, 10, 121]⟩,
        ⟨testID tB 2, [122, 122]⟩])], true) := by decide +kernel

/-- the same run in REPORT mode: both stale items are printed, neither is removed -/
example :
    ((goRun IOFail.never {} xc (freshSt envReport fsS) hist).bind fun st1 =>
      (Generated.FuncsIO.Clean IOFail.never st1 xParse cRe [] (1, Err.nil) () []).map fun st2 =>
        (decide (st2.fs = st1.fs), decide (st2.stdout = st1.stdout ++ summaryLine (Generated.FuncsIO.summary [xold]
          [tidOf eZ] (GoSem.len st1.skipped) st1.events (cleanUpd st1))))) = some (true, true) := by decide +kernel

/-- **C10 applies in clean mode** (`UPDATE_SNAPS=clean`, off CI, `Sort`): hypotheses by evaluation; the second
    `Clean` leaves the file system as the first left it and prints no obsolete item -/
example : ∃ st1, goRun IOFail.never {} xc (freshSt envClean fsS) hist = some st1 ∧
    ∃ st2, Generated.FuncsIO.Clean IOFail.never st1 xParse cRe [] (((1 : Nat) : Int), Err.nil) () [true] = some st2 ∧
    ∃ (obsF2 obsT2 : List Text),
      Generated.FuncsIO.Clean IOFail.never st2 xParse cRe [] (((1 : Nat) : Int), Err.nil) () [true] =
        some { st2 with stdout := st2.stdout ++ summaryLine (Generated.FuncsIO.summary obsF2
          obsT2 (GoSem.len st2.skipped) st2.events (cleanUpd st2)) } ∧ obsF2 = [] ∧ obsT2 = [] := by
  obtain ⟨rcd, e, hfa⟩ := fsS_fileAfter true
  obtain ⟨st1, e1, hmain⟩ := go_second_clean_changes_nothing_every_mode envClean fsS {} xc xp C01World.exRel hist
    xParse cRe 1 Err.nil [true] C01World.exPath_spec (HistOK_of_bodies hist hyps.bodies) (by decide)
    (fun _ => rfl) exJoin
  rw [e] at e1; cases e1
  obtain ⟨fs2, oF, oT, st2, _, hc1, oF2, oT2, hc2, hA, _⟩ := hmain _ hfa
  exact ⟨rcd, e, st2, hc1, oF2, oT2, hc2, (hA rfl).1, (hA rfl).2⟩

/-- … by evaluation: the first `Clean` changes the file system (removes "old.snap", prunes and sorts the snapshot
    file), the second leaves it exactly as it is -/
example :
    ((goRun IOFail.never {} xc (freshSt envClean fsS) hist).bind fun st1 =>
      (Generated.FuncsIO.Clean IOFail.never st1 xParse cRe [] (1, Err.nil) () [true]).bind fun st2 =>
      (Generated.FuncsIO.Clean IOFail.never st2 xParse cRe [] (1, Err.nil) () [true]).map fun st3 =>
        (st2.fs, decide (st2.fs ≠ st1.fs), decide (st3.fs = st2.fs))) =
      some ([(xp, render [⟨testID tA 1, [120]⟩, ⟨testID tA 2, [120, 10, 10, 121]⟩,
        ⟨testID tB 1, [122]⟩, ⟨testID tB 2, [122, 122]⟩])], true, true) := by decide +kernel

/-- **C10 applies** (report mode, `Sort`): the second `Clean` leaves the file system as the first left it -/
example : ∃ st1, goRun IOFail.never {} xc (freshSt envReport fs₀) hist = some st1 ∧
    ∃ st2, Generated.FuncsIO.Clean IOFail.never st1 xParse cRe [] (((1 : Nat) : Int), Err.nil) () [true] = some st2 ∧
    ∃ st3, Generated.FuncsIO.Clean IOFail.never st2 xParse cRe [] (((1 : Nat) : Int), Err.nil) () [true] = some st3 ∧
      st3.fs = st2.fs := by
  obtain ⟨rcd, e, hfa⟩ := E2E.report_fileAfter
  obtain ⟨st1, e1, hmain⟩ := go_second_clean_changes_nothing envReport fs₀ {} xc xp C01World.exRel hist xParse cRe 1
    Err.nil [true] C01World.exPath_spec (HistOK_of_bodies hist hyps.bodies) (by decide) (fun _ => rfl)
    (by decide) exJoin
  rw [e] at e1; cases e1
  exact ⟨rcd, e, hmain _ hfa⟩

/-- `go_addressed_survive_clean` applies to the second call of the run `E2E.h3` ("TestB" creates "[TestB - 1]"):
    all hypotheses by evaluation -/
example := go_addressed_survive_clean E2E.envUpdate E2E.fs₃ {} xc xp C01World.exRel E2E.es₃ [.call tA [110] .raw 1]
  [.done 1, .done 2] tB [122] .escaped 2 xParse cRe Err.nil [] C01World.exPath_spec (Or.inl rfl) E2E.h3_hyps.good
  E2E.h3_hyps.noShadow E2E.h3_hyps.rec₀ E2E.h3_hyps.names (Or.inl E2E.h3_hyps.file) (fun _ => rfl) (fun _ => exJoin)

def r1 : List Step := [.call tA [120] .raw 1, .call tA [121] .raw 1, .done 1]
def r2 : List Step := [.call tA [120] .raw 2, .call tA [121] .raw 2, .done 2]

theorem rounds_h2 : [r1, r2].flatten = h2 := rfl

theorem h2_rounds : Rounds 2 (fun t => (calledNames r1).count t) [r1, r2] :=
  ⟨rfl, by decide, fun r hr t => by
    simp only [List.mem_cons, List.not_mem_nil, or_false] at hr
    rcases hr with rfl | rfl <;> rfl⟩

/-- **the second call of the SECOND execution addresses "[TestA - 2]"** (`go_call_addresses_count`, exact
    ordinal: the round is `Scoped`), a slot `≤ (4 calls) / 2` -/
example : ∃ (mid : St) (r' : Registry),
    goRun IOFail.never {} xc (freshSt envClean fs₀) ([r1].flatten ++ [.call tA [120] .raw 2]) = some mid ∧
    syncRegistry_getTestID mid.reg xp tA = some (r', testID tA 2) := by
  obtain ⟨mid, k, r', e, hg, _, _, _, _, hk⟩ := go_call_addresses_count envClean fs₀ {} xc xp C01World.exRel
    [r1] [] [.call tA [120] .raw 2] [.done 2] tA [121] .raw 2 2 2 C01World.exPath_spec (by decide) rfl (by decide)
    (by decide)
  have := hk (by decide)
  subst this
  exact ⟨mid, r', e, hg⟩

/-- **`go_matched_survive_clean_count` applies** to the two rounds with `-count=2`: both entries survive -/
example : ∃ st1, goRun IOFail.never {} xc (freshSt envClean fs₀) h2 = some st1 ∧
    ∃ (fs2 : FS) (obsFiles obsTests : List Text),
      Generated.FuncsIO.Clean IOFail.never st1 xParse cRe [] (((2 : Nat) : Int), Err.nil) () [] =
        some { st1 with fs := fs2, stdout := st1.stdout ++ summaryLine (Generated.FuncsIO.summary obsFiles
          obsTests (GoSem.len st1.skipped) st1.events (cleanUpd st1)) } ∧
      tidOf a1 ∉ obsTests ∧ tidOf a2 ∉ obsTests ∧ ∃ es', Holds fs2 xp es' ∧ a1 ∈ es' ∧ a2 ∈ es' := by
  obtain ⟨st1, e1, hmain⟩ := go_matched_survive_clean_count envClean fs₀ {} xc xp C01World.exRel [r1, r2] 2 _
    xParse cRe Err.nil [] h2_rounds C01World.exPath_spec (by decide) (by decide) (fun _ => rfl) (fun _ => exJoin)
  rw [rounds_h2] at e1 hmain
  obtain ⟨fs2, oF, oT, hc, hk⟩ := hmain es2 (E2E.h2_fileAfter st1 e1)
  obtain ⟨k1, es', k2, _, k4, _⟩ := hk [a1, a2] (by decide +kernel) (by
    intro e he
    simp only [List.mem_cons, List.not_mem_nil, or_false] at he
    rcases he with rfl | rfl
    · exact ⟨tA, 1, rfl, by decide, by decide⟩
    · exact ⟨tA, 2, rfl, by decide, by decide⟩)
  exact ⟨st1, e1, fs2, oF, oT, hc, k1 a1 (by simp), k1 a2 (by simp), es', k2, k4 a1 (by simp), k4 a2 (by simp)⟩

/-- **`go_addressed_survive_clean_count` applies** to the second call of the SECOND execution (all hypotheses by
    evaluation): what it found — "[TestA - 2]", created by the first execution — survives `Clean` with
    `-count=2` -/
example := go_addressed_survive_clean_count envClean fs₀ {} xc xp C01World.exRel es₀ [r1] []
  [.call tA [120] .raw 2] [.done 2] tA [121] .raw 2 2 _ xParse cRe Err.nil [] h2_rounds C01World.exPath_spec
  (Or.inl rfl) (by decide +kernel)
  (noShadowAll_of_noBracket es₀ _ _ (by decide +kernel) (by decide +kernel) (by decide +kernel) (by decide +kernel)
    (by decide +kernel))
  (by decide +kernel) (by decide +kernel) (Or.inl (by decide +kernel)) (fun _ => rfl) (fun _ => exJoin)

/-- `InDir xp` also follows from the general lemma for absolute clean paths -/
example : InDir xp := by
  have h : xp = slash :: joinSlash ([[116], [95, 95, 115, 110, 97, 112, 115, 104, 111, 116, 115, 95, 95]] ++
      [[97, 95, 116, 101, 115, 116, 46, 115, 110, 97, 112]]) := by decide +kernel
  rw [h]
  exact inDir_abs _ _ (by simp) (fun c hc => by
    simp only [List.mem_cons, List.not_mem_nil, or_false] at hc
    rcases hc with rfl | rfl <;> exact ⟨by decide, by decide, by decide, by decide⟩)
    ⟨by decide, by decide, by decide⟩

end E2E2

end GoSnaps.Tie
