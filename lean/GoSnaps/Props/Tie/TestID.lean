/-
Tie by proof (conventions: GoSnaps/Props/Tie.lean): `isNumber` / `getTestID` (snaps/clean.go)

Both index / slice their argument, so the transliterations are `Option`-valued (`none` = Go
panics with index / slice bounds out of range).
-/
import GoSnaps.Generated.Funcs
import GoSnaps.Props.C10
namespace GoSnaps.Tie
open GoSnaps

theorem isDigit_iff (c : Byte) : isDigit c = true ↔ ¬ c < 48 ∧ ¬ c > 57 := by
  simp [isDigit]

/-- `for i := range b { if F(b[i]) { return false } }` for any body `F` that rejects exactly the
    non-digits -/
theorem isNumber_loop (b : Text) (F : Int → Option Bool × PUnit → Option (ForInStep (Option Bool × PUnit)))
    (hF : ∀ (pre suf : Text) (c : Byte), b = pre ++ c :: suf → F (pre.length : Int) (none, ()) =
      some (if isDigit c then ForInStep.yield (none, ()) else ForInStep.done (some false, ()))) :
    ∀ (suf pre : Text), b = pre ++ suf →
      forIn (GoSem.intRangeAux (pre.length : Int) suf.length) ((none, ()) : Option Bool × PUnit) F =
        some (if suf.all isDigit then none else some false, ()) := by
  intro suf
  induction suf with
  | nil => intro pre _; rfl
  | cons c cs ih =>
    intro pre hb
    have h := ih (pre ++ [c]) (by simp [hb])
    simp only [List.length_append, List.length_singleton, Int.natCast_add, Int.cast_ofNat_Int] at h
    rw [List.length_cons, GoSem.intRangeAux, List.forIn_cons, hF pre cs c hb]
    cases hc : isDigit c
    · simp [hc]
    · simpa [hc] using h

/-- **Tie**: `isNumber` never panics (`b[i]` is evaluated for `0 ≤ i < len b` only) and returns the
    model's verdict -/
theorem isNumber_tied (b : Text) : Generated.Funcs.isNumber b = some (GoSnaps.isNumber b) := by
  unfold Generated.Funcs.isNumber
  simp only [GoSem.intRange_zero_len]
  rw [show (0 : Int) = (([] : Text).length : Int) from rfl, isNumber_loop b _ ?hF b [] rfl]
  case hF =>
    intro pre suf c hb
    have hidx : GoSem.index b (pre.length : Int) = some c := by rw [hb]; exact GoSem.index_append_length ..
    by_cases h1 : c < 48 <;> by_cases h2 : c > 57 <;> simp [hidx, isDigit_iff, h1, h2]
  unfold isNumber
  cases b.all isDigit <;> rfl

/-- **Tie, exact form.**  Go's `(string, bool)` result against the model's `Option`:
`(id, true)` ↔ `some id`, `("", false)` ↔ `none`.  The slice `b[separator+3 : len(b)-1]` would
panic for `separator+3 > len(b)-1`, which is the model's `getTestIDPanics`; that predicate is
identically false (`getTestID_total` below), so the `none` branch of this statement is never taken. -/
theorem getTestID_tied (b : Text) :
    Generated.Funcs.getTestID b =
      if getTestIDPanics b then none
      else some (match GoSnaps.getTestID b with | some id => (id, true) | none => ([], false)) := by
  have hp : Generated.headerPrefix = [91] := by decide
  have hs : Generated.idSep = [32, 45, 32] := by decide
  unfold Generated.Funcs.getTestID GoSnaps.getTestID getTestIDPanics
  simp only [hp, hs, GoSem.index_len_sub_one, isNumber_tied, GoSem.indexInt]
  cases b with
  | nil => simp [GoSem.len]
  | cons x xs =>
    cases hpre : hasPrefix (x :: xs) [91]
    · simp [GoSem.len]
    · cases hl : (x :: xs).getLast? with
      | none => simp at hl
      | some c =>
        by_cases hc : c = 93
        · subst hc
          cases hi : indexOf (x :: xs) [32, 45, 32] with
          | none => simp [GoSem.len]
          | some sep =>
            by_cases hlt : xs.length < sep + 3
            · have hsl : GoSem.slice (x :: xs) ((sep : Int) + 3) (xs.length : Int) = none := by
                unfold GoSem.slice; rw [if_neg (by omega)]
              simp [GoSem.len, hlt, hsl]; omega
            · have h1 := GoSem.slice_ofNat (x :: xs) (sep + 3) xs.length (by omega) (by simp)
              have h2 := GoSem.slice_ofNat (x :: xs) 1 xs.length (by omega) (by simp)
              simp only [Int.natCast_add, Int.cast_ofNat_Int] at h1 h2
              simp [GoSem.len, hlt, h1, h2]
              rw [if_neg (by omega)]
              cases isNumber (List.take (xs.length - (sep + 3)) (List.drop (sep + 2) xs)) <;> simp
        · simp [GoSem.len, hc]

/-- **Tie**: since `getTestIDPanics` is identically false (`C10.getTestID_never_panics`), Go's
    `getTestID` never panics and agrees with the model on every input -/
theorem getTestID_total (b : Text) :
    Generated.Funcs.getTestID b =
      some (match GoSnaps.getTestID b with | some id => (id, true) | none => ([], false)) := by
  rw [getTestID_tied, C10.getTestID_never_panics]; rfl

end GoSnaps.Tie
