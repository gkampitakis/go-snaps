/-
Tie by proof: `baseCaller` of snaps/utils.go (`Generated/FuncsIO.lean`) — which file a snapshot is
located next to.

`FuncsIO.baseCaller fuel frames skip` is the statement-by-statement transliteration of the Go
function: the unbounded loop `for i := skip+1; ; i++` over `runtime.Caller(i)` is bounded by the
explicit `fuel` (`none` = fuel exhausted) and the call stack is the list `frames`
(`GoIO.runtimeCaller`, `GoIO.funcForPC`).

* `walk` is the fuel-free specification: the file of the first frame whose base name ends in
  `_test.go`; when `testing.tRunner`, a frame without function information or the end of the
  stack comes first, the file of the frame just before.
* `baseCaller_eq_walkF` ties the transliteration to the fuelled walk `walkF` for EVERY fuel;
  `baseCaller_tied` (enough fuel: more than there are frames above `skip`) gives `walk`; fuel is irrelevant
  once sufficient (`baseCaller_fuel_irrelevant`), and no fuel gives `none` (`baseCaller_no_fuel`).
* the content of property C11 "the location does not depend on how many helper frames or
  non-test source files lie between the test function and the call": `walk_helpers`,
  `walk_no_test_file`, `walk_first_test_file`, `baseCaller_helpers_irrelevant`.

The loop lemma is for an ARBITRARY body `F` that does what `stepSpec` says; the tie lets unification
instantiate `F` with the body the `do` notation produced.
-/
import GoSnaps.GoIO
import GoSnaps.Generated.FuncsIO
import GoSnaps.Lemmas.Diff
namespace GoSnaps.Tie
open GoSnaps GoSnaps.GoIO GoSnaps.GoSem
open GoSnaps.Generated


/-- `"testing.tRunner"`, the byte list the generated code compares with -/
abbrev tRunner : Text := [116, 101, 115, 116, 105, 110, 103, 46, 116, 82, 117, 110, 110, 101, 114]

/-- `"_test.go"`, the byte list the generated code uses -/
abbrev testSuffix : Text := [95, 116, 101, 115, 116, 46, 103, 111]

theorem tRunner_eq : tRunner = ofString "testing.tRunner" := by decide +kernel
theorem testSuffix_eq : testSuffix = ofString "_test.go" := by decide +kernel

/-- `strings.HasSuffix(filepath.Base(file), "_test.go")` -/
def isTestFile (f : Text) : Bool := hasSuffix (fpBase f) testSuffix

/-- the fuel-free specification of `baseCaller`: walk up the stack (`prev` = file of the frame just
    visited, `""` at the start) -/
def walk : List Frame → Text → Text
  | [], prev => prev
  | f :: fs, prev =>
    match f.func with
    | none => prev
    | some n => if n = tRunner then prev else if isTestFile f.file then f.file else walk fs f.file

/-- what one frame decides: `some r`, the walk ends with `r`; `none`, it goes on with this frame's file -/
def stop (f : Frame) (prev : Text) : Option Text :=
  match f.func with
  | none => some prev
  | some n => if n = tRunner then some prev else if isTestFile f.file then some f.file else none

theorem walk_cons (f : Frame) (fs : List Frame) (prev : Text) :
    walk (f :: fs) prev = (stop f prev).getD (walk fs f.file) := by
  rw [walk, stop]
  cases f.func with
  | none => rfl
  | some n =>
    dsimp only
    split
    · rfl
    · split <;> rfl

/-- `walk` with the number of loop iterations bounded: `none` = out of fuel -/
def walkF : Nat → List Frame → Text → Option Text
  | 0, _, _ => none
  | _ + 1, [], prev => some prev
  | n + 1, f :: fs, prev =>
    match stop f prev with
    | some r => some r
    | none => walkF n fs f.file

theorem walkF_zero (fs : List Frame) (prev : Text) : walkF 0 fs prev = none := by
  cases fs <;> rfl

theorem walkF_enough (n : Nat) (fs : List Frame) (prev : Text) (h : fs.length < n) :
    walkF n fs prev = some (walk fs prev) := by
  induction fs generalizing n prev with
  | nil =>
    cases n with
    | zero => omega
    | succ n => rfl
  | cons f fs ih =>
    cases n with
    | zero => omega
    | succ n =>
      rw [walkF, walk_cons]
      cases stop f prev with
      | none => exact ih _ _ (by simp at h; omega)
      | some r => rfl

theorem walkF_some (n : Nat) (fs : List Frame) (prev r : Text) (h : walkF n fs prev = some r) :
    r = walk fs prev := by
  induction fs generalizing n prev with
  | nil =>
    cases n with
    | zero => exact absurd h (by simp [walkF])
    | succ n => exact (Option.some.inj h).symm
  | cons f fs ih =>
    cases n with
    | zero => exact absurd h (by simp [walkF])
    | succ n =>
      rw [walkF] at h
      rw [walk_cons]
      cases hs : stop f prev with
      | none => rw [hs] at h; exact ih _ _ h
      | some r' => rw [hs] at h; exact (Option.some.inj h).symm


/-- the loop state the `do` notation builds: early-return value, `pc`, `file`, `prevFile`, `ok` -/
abbrev CallerSt := Option Text × Int × Text × Text × Bool

/-- one iteration of the Go loop with `i = k`, entered with `file` -/
def stepSpec (frames : List Frame) (k : Nat) (file : Text) : ForInStep CallerSt :=
  match frames[k]? with
  | none => .done (some file, 0, [], file, false)
  | some f =>
    match stop f file with
    | some r => .done (some r, (k : Int), f.file, file, true)
    | none => .yield (none, (k : Int), f.file, file, true)

/-- `n` iterations from `i = k` -/
def loopSpec (frames : List Frame) : Nat → Nat → CallerSt → CallerSt
  | 0, _, s => s
  | n + 1, k, s =>
    match stepSpec frames k s.2.2.1 with
    | .done s' => s'
    | .yield s' => loopSpec frames n (k + 1) s'

/-- the `for i := skip+1; ; i++` loop for any body `F` that behaves like the Go loop body -/
theorem caller_loop (frames : List Frame) (F : Int → CallerSt → Option (ForInStep CallerSt))
    (hF : ∀ (k : Nat) r pc file pf ok, F (k : Int) (r, pc, file, pf, ok) = some (stepSpec frames k file))
    (n k : Nat) (s : CallerSt) :
    forIn (intRangeAux (k : Int) n) s F = some (loopSpec frames n k s) := by
  induction n generalizing k s with
  | zero => rfl
  | succ n ih =>
    obtain ⟨r, pc, file, pf, ok⟩ := s
    rw [intRangeAux, List.forIn_cons, hF]
    simp only [loopSpec]
    cases stepSpec frames k file with
    | done s' => rfl
    | yield s' =>
      have : (k : Int) + 1 = ((k + 1 : Nat) : Int) := by omega
      rw [this]
      exact ih _ _

theorem loopSpec_fst (frames : List Frame) (n k : Nat) (pc : Int) (file pf : Text) (ok : Bool) :
    (loopSpec frames n k (none, pc, file, pf, ok)).1 = walkF n (frames.drop k) file := by
  induction n generalizing k pc file pf ok with
  | zero => rw [walkF_zero]; rfl
  | succ n ih =>
    cases hk : frames[k]? with
    | none =>
      have : frames.drop k = [] := by
        rw [List.getElem?_eq_none_iff] at hk
        exact List.drop_eq_nil_of_le hk
      simp only [loopSpec, stepSpec, hk, this]; rfl
    | some f =>
      have : frames.drop k = f :: frames.drop (k + 1) := by
        obtain ⟨hlt, hget⟩ := List.getElem?_eq_some_iff.mp hk
        rw [← hget]; exact List.drop_eq_getElem_cons hlt
      simp only [loopSpec, stepSpec, hk, this, walkF]
      cases stop f file with
      | none => exact ih _ _ _ _ _
      | some r => rfl


/-- the range of `for i := lo; ; i++` cut off after `n` iterations -/
theorem intRange_add (lo : Int) (n : Nat) : intRange lo (lo + n) = intRangeAux lo n := by
  unfold intRange; congr 1; omega

/-- **Tie by proof**, every fuel: the transliteration of `baseCaller` is the fuelled walk over the
    frames above `skip` -/
theorem baseCaller_eq_walkF (fuel : Nat) (frames : List Frame) (skip : Int) (k : Nat)
    (hk : skip + 1 = (k : Int)) :
    FuncsIO.baseCaller fuel frames skip = walkF fuel (frames.drop k) [] := by
  unfold FuncsIO.baseCaller
  simp only [intRange_add, hk]
  rw [caller_loop frames _ ?h]
  case h =>
    intro k r pc file pf ok
    have hneg : ¬ ((k : Int) < 0) := by omega
    simp only [stepSpec, stop, runtimeCaller, funcForPC, hneg, if_false, Int.toNat_natCast]
    cases hk : frames[k]? with
    | none => simp
    | some f =>
      cases hf : f.func with
      | none => simp [hk, hf, hneg]
      | some m =>
        by_cases h1 : m = tRunner
        · simp [hk, hf, h1, hneg]
        · by_cases h2 : isTestFile f.file = true
          · have h2' := h2
            unfold isTestFile at h2'
            simp [hk, hf, h1, h2, h2', hneg]
          · have h2' := h2
            unfold isTestFile at h2'
            simp [hk, hf, h1, h2, h2', hneg]
  have h1 := loopSpec_fst frames fuel k 0 [] [] false
  generalize loopSpec frames fuel k (none, 0, [], [], false) = s at h1 ⊢
  obtain ⟨r, rest⟩ := s
  simp only at h1
  subst h1
  cases walkF fuel (List.drop k frames) [] <;> rfl

/-- **Tie by proof**, enough fuel (`skip ≥ -1`, stated as `skip + 1 = k`): `baseCaller` returns what
    the fuel-free `walk` returns on the frames above `skip` -/
theorem baseCaller_tied (fuel : Nat) (frames : List Frame) (skip : Int) (k : Nat)
    (hk : skip + 1 = (k : Int)) (hfuel : frames.length - k < fuel) :
    FuncsIO.baseCaller fuel frames skip = some (walk (frames.drop k) []) := by
  rw [baseCaller_eq_walkF fuel frames skip k hk]
  exact walkF_enough _ _ _ (by simpa using hfuel)

/-- the simple bound: one more iteration than the stack has frames -/
theorem baseCaller_tied' (fuel : Nat) (frames : List Frame) (skip : Int) (k : Nat)
    (hk : skip + 1 = (k : Int)) (hfuel : frames.length + 1 ≤ fuel) :
    FuncsIO.baseCaller fuel frames skip = some (walk (frames.drop k) []) :=
  baseCaller_tied fuel frames skip k hk (by omega)

/-- any two sufficient fuels give the same answer -/
theorem baseCaller_fuel_irrelevant (fuel fuel' : Nat) (frames : List Frame) (skip : Int) (k : Nat)
    (hk : skip + 1 = (k : Int)) (h : frames.length - k < fuel) (h' : frames.length - k < fuel') :
    FuncsIO.baseCaller fuel frames skip = FuncsIO.baseCaller fuel' frames skip := by
  rw [baseCaller_tied fuel frames skip k hk h, baseCaller_tied fuel' frames skip k hk h']

/-- whenever the bounded loop answers at all, it answers what `walk` answers: the only effect of
    the bound is `none` -/
theorem baseCaller_some (fuel : Nat) (frames : List Frame) (skip : Int) (k : Nat)
    (hk : skip + 1 = (k : Int)) (r : Text) (h : FuncsIO.baseCaller fuel frames skip = some r) :
    r = walk (frames.drop k) [] := by
  rw [baseCaller_eq_walkF fuel frames skip k hk] at h
  exact walkF_some _ _ _ _ h

/-- out of fuel (for every `skip`, also below `-1`) -/
theorem baseCaller_no_fuel (frames : List Frame) (skip : Int) :
    FuncsIO.baseCaller 0 frames skip = none := by
  unfold FuncsIO.baseCaller
  rw [intRange_add]
  rfl

/-- why `skip ≥ -1` is assumed: below that, `runtime.Caller` is asked for a negative index, reports
    `!ok` in the first iteration, and `baseCaller` returns the initial `prevFile = ""` -/
theorem baseCaller_skip_neg (fuel : Nat) (frames : List Frame) (skip : Int) (h : skip + 1 < 0) :
    FuncsIO.baseCaller (fuel + 1) frames skip = some [] := by
  unfold FuncsIO.baseCaller
  simp only [intRange_add, intRangeAux, List.forIn_cons, runtimeCaller, h, if_true]
  rfl


/-- a frame of a helper: a known function that is not `testing.tRunner`, in a file that is not a
    test file -/
def IsHelper (h : Frame) : Prop := ∃ n, h.func = some n ∧ n ≠ tRunner ∧ isTestFile h.file = false

/-- a frame of a function defined in a test file (the test function, a closure of it, a helper
    living in a `_test.go` file) -/
def IsTestFrame (tf : Frame) : Prop := ∃ n, tf.func = some n ∧ n ≠ tRunner ∧ isTestFile tf.file = true

theorem stop_helper {h : Frame} (hh : IsHelper h) (prev : Text) : stop h prev = none := by
  obtain ⟨n, h1, h2, h3⟩ := hh
  simp [stop, h1, h2, h3]

theorem stop_test {tf : Frame} (ht : IsTestFrame tf) (prev : Text) : stop tf prev = some tf.file := by
  obtain ⟨n, h1, h2, h3⟩ := ht
  simp [stop, h1, h2, h3]

theorem walk_test_cons (tf : Frame) (fs : List Frame) (prev : Text) (ht : IsTestFrame tf) :
    walk (tf :: fs) prev = tf.file := by
  rw [walk_cons, stop_test ht]; rfl

theorem walk_helpers_append (hs fs : List Frame) (prev : Text) (hhs : ∀ h ∈ hs, IsHelper h) :
    walk (hs ++ fs) prev = walk fs ((hs.getLast?.map (·.file)).getD prev) := by
  induction hs generalizing prev with
  | nil => rfl
  | cons h hs ih =>
    rw [List.cons_append, walk_cons, stop_helper (hhs h (by simp)), ih _ (fun x hx => hhs x (by simp [hx]))]
    cases hs with
    | nil => rfl
    | cons h' hs' =>
      rw [List.getLast?_cons_cons, List.getLast?_eq_some_getLast (l := h' :: hs') (by simp)]
      rfl

/-- (a) any number of helper frames in non-test files is skipped: the answer is the file of the
    test frame above them -/
theorem walk_helpers (hs : List Frame) (tf : Frame) (rest : List Frame) (prev : Text)
    (hhs : ∀ h ∈ hs, IsHelper h) (htf : IsTestFrame tf) :
    walk (hs ++ tf :: rest) prev = tf.file := by
  rw [walk_helpers_append hs _ prev hhs, walk_test_cons _ _ _ htf]

/-- (b) no test file below `testing.tRunner` (or below a frame without function information): the
    answer is the file of the frame just below it — a test body living in a non-test file (a table
    of subtests defined in helpers.go) resolves to that file -/
theorem walk_no_test_file (hs : List Frame) (r : Frame) (rest : List Frame) (prev : Text)
    (hhs : ∀ h ∈ hs, IsHelper h) (hr : r.func = some tRunner ∨ r.func = none) :
    walk (hs ++ r :: rest) prev = (hs.getLast?.map (·.file)).getD prev := by
  rw [walk_helpers_append hs _ prev hhs]
  rcases hr with hr | hr <;> simp [walk, hr]

/-- (b'), the stack ends without `testing.tRunner`: the file of the outermost frame -/
theorem walk_no_test_file_end (hs : List Frame) (prev : Text) (hhs : ∀ h ∈ hs, IsHelper h) :
    walk hs prev = (hs.getLast?.map (·.file)).getD prev := by
  rw [← List.append_nil hs, walk_helpers_append hs [] prev hhs, List.append_nil]; rfl

/-- (c) the answer is decided at the FIRST test-file frame at the latest: the frames above it (its
    callers: the parent test, `testing.tRunner`, `main`) are irrelevant — for ANY frames `hs` below
    it, helpers or not -/
theorem walk_first_test_file (hs : List Frame) (tf : Frame) (rest rest' : List Frame) (prev : Text)
    (htf : IsTestFrame tf) :
    walk (hs ++ tf :: rest) prev = walk (hs ++ tf :: rest') prev := by
  induction hs generalizing prev with
  | nil => rw [List.nil_append, List.nil_append, walk_test_cons _ _ _ htf, walk_test_cons _ _ _ htf]
  | cons h hs ih => rw [List.cons_append, List.cons_append, walk_cons, walk_cons, ih]

theorem walkF_helpers (n : Nat) (hs : List Frame) (tf : Frame) (rest : List Frame) (prev : Text)
    (hhs : ∀ h ∈ hs, IsHelper h) (htf : IsTestFrame tf) (hn : hs.length < n) :
    walkF n (hs ++ tf :: rest) prev = some tf.file := by
  induction hs generalizing n prev with
  | nil =>
    cases n with
    | zero => simp at hn
    | succ n => rw [List.nil_append, walkF, stop_test htf]
  | cons h hs ih =>
    cases n with
    | zero => simp at hn
    | succ n =>
      rw [List.cons_append, walkF, stop_helper (hhs h (by simp))]
      exact ih _ _ (fun x hx => hhs x (by simp [hx])) (by simp at hn; omega)

/-- (d) **C11 for the transliterated `baseCaller`**: `pre` are the `skip+1` frames of go-snaps itself
    (`baseCaller`, `snapshotPath`, `matchSnapshot`, `MatchSnapshot`), `hs` / `hs'` any helper frames
    in non-test files, `tf` the frame of the test file, `rest` / `rest'` whatever called it.  With
    one unit of fuel per helper frame and one more, both stacks give the test file. -/
theorem baseCaller_helpers_irrelevant (fuel fuel' : Nat) (pre hs hs' : List Frame) (tf : Frame)
    (rest rest' : List Frame) (skip : Int)
    (hpre : skip + 1 = (pre.length : Int))
    (hhs : ∀ h ∈ hs, IsHelper h) (hhs' : ∀ h ∈ hs', IsHelper h) (htf : IsTestFrame tf)
    (hfuel : hs.length < fuel) (hfuel' : hs'.length < fuel') :
    FuncsIO.baseCaller fuel (pre ++ hs ++ tf :: rest) skip = some tf.file ∧
    FuncsIO.baseCaller fuel' (pre ++ hs' ++ tf :: rest') skip = some tf.file := by
  constructor
  · rw [baseCaller_eq_walkF _ _ _ _ hpre, List.append_assoc, List.drop_left]
    exact walkF_helpers _ _ _ _ _ hhs htf hfuel
  · rw [baseCaller_eq_walkF _ _ _ _ hpre, List.append_assoc, List.drop_left]
    exact walkF_helpers _ _ _ _ _ hhs' htf hfuel'


section Examples

/-- a string literal as bytes, in a form the kernel evaluates (`= ofString`, `lit_eq`) -/
private def lit (s : String) : Text := s.toList.flatMap String.utf8EncodeChar

private theorem lit_eq (s : String) : lit s = ofString s := (ofString_eq s).symm

private def fr (file func : String) : Frame := { file := lit file, func := some (lit func) }

/-- the four frames of go-snaps itself below the user's code: `baseCaller(3)` is called by
    `snapshotPath`, called by `matchSnapshot`, called by the exported `MatchSnapshot` -/
private def lib : List Frame :=
  [fr "/mod/go-snaps/snaps/utils.go" "github.com/gkampitakis/go-snaps/snaps.baseCaller",
   fr "/mod/go-snaps/snaps/snapshot.go" "github.com/gkampitakis/go-snaps/snaps.snapshotPath",
   fr "/mod/go-snaps/snaps/matchSnapshot.go" "github.com/gkampitakis/go-snaps/snaps.matchSnapshot",
   fr "/mod/go-snaps/snaps/matchSnapshot.go" "github.com/gkampitakis/go-snaps/snaps.MatchSnapshot"]

/-- what runs a test: `testing.tRunner` on its own goroutine -/
private def top : List Frame :=
  [fr "/go/src/testing/testing.go" "testing.tRunner",
   fr "/go/src/runtime/asm_amd64.s" "runtime.goexit"]

private def helper : Frame := fr "/proj/pkg/helper.go" "proj/pkg.assertSnapshot"
private def helper2 : Frame := fr "/proj/pkg/helper2.go" "proj/pkg.check"
private def testA : Frame := fr "/proj/pkg/x_test.go" "proj/pkg.TestA.func1"

/-- `lit` decodes the literal to characters and encodes them again, which is dear to evaluate;
    its bytes can be read off directly -/
private theorem lit_data (s : String) : lit s = s.toUTF8.data.toList :=
  (lit_eq s).trans (ByteArray_toList _)

/-- a closed fact about the concrete stacks below: unfold the frames, read the literals' bytes
    (`lit_data`), and leave the evaluation to the kernel -/
local macro "eval_stack" : tactic =>
  `(tactic| (simp only [lib, top, helper, helper2, testA, fr, lit_data]; decide +kernel))

example : lib.length = 4 ∧ IsHelper helper ∧ IsHelper helper2 ∧ IsTestFrame testA := by
  refine ⟨rfl, ⟨_, rfl, ?_, ?_⟩, ⟨_, rfl, ?_, ?_⟩, ⟨_, rfl, ?_, ?_⟩⟩ <;> eval_stack

/-- `MatchSnapshot` called through two helpers in non-test files from a subtest closure of
    x_test.go, `skip = 3` (the value go-snaps uses): x_test.go; 3 iterations suffice, 2 do not -/
example : FuncsIO.baseCaller 20 (lib ++ [helper, helper2, testA] ++ top) 3 = some (lit "/proj/pkg/x_test.go") := by eval_stack
example : FuncsIO.baseCaller 3 (lib ++ [helper, helper2, testA] ++ top) 3 = some (lit "/proj/pkg/x_test.go") := by eval_stack
example : FuncsIO.baseCaller 2 (lib ++ [helper, helper2, testA] ++ top) 3 = none := by eval_stack

/-- called directly from the test, and from a subtest whose parent test is also on the stack
    (t.Run calls the closure on a new goroutine, so in Go it is not; harmless if it were) -/
example : FuncsIO.baseCaller 20 (lib ++ testA :: top) 3 = some (lit "/proj/pkg/x_test.go") := by eval_stack
example : walk ([helper, testA, fr "/proj/pkg/y_test.go" "proj/pkg.TestParent"] ++ top) [] = lit "/proj/pkg/x_test.go" := by eval_stack

/-- 40 helper frames between the call and the test -/
example : FuncsIO.baseCaller 41 (lib ++ List.replicate 40 helper ++ testA :: top) 3 = some (lit "/proj/pkg/x_test.go") :=
  (baseCaller_helpers_irrelevant 41 1 lib (List.replicate 40 helper) [] testA top [] 3 rfl
    (fun h hh => by rw [List.eq_of_mem_replicate hh]; exact ⟨_, rfl, by eval_stack, by eval_stack⟩)
    (fun h hh => by simp at hh) ⟨_, rfl, by eval_stack, by eval_stack⟩ (by simp) (by simp)).1

/-- the same by evaluation of the specification -/
example : walk (List.replicate 40 helper ++ testA :: top) [] = lit "/proj/pkg/x_test.go" := by eval_stack

/-- no test file on the stack (the test body is a function defined in helper2.go, run by
    `testing.tRunner`): the frame just below `tRunner` -/
example : FuncsIO.baseCaller 20 (lib ++ [helper, helper2] ++ top) 3 = some (lit "/proj/pkg/helper2.go") := by eval_stack

/-- the stack ends without `tRunner`, a frame without function information, `MatchSnapshot`
    called by `tRunner` directly (prevFile is still `""`) -/
example : FuncsIO.baseCaller 20 (lib ++ [helper, helper2]) 3 = some (lit "/proj/pkg/helper2.go") := by eval_stack
example : FuncsIO.baseCaller 20 (lib ++ [helper, { file := lit "?", func := none }, testA] ++ top) 3 =
    some (lit "/proj/pkg/helper.go") := by eval_stack
example : FuncsIO.baseCaller 20 (lib ++ top) 3 = some [] := by eval_stack

/-- `skip` decides where the walk starts: with `skip = -1` the walk starts at `baseCaller`'s own frame -/
example : FuncsIO.baseCaller 20 (lib ++ [helper, testA] ++ top) (-1) = some (lit "/proj/pkg/x_test.go") := by eval_stack
example : FuncsIO.baseCaller 20 ([testA, helper] ++ top) 0 = some (lit "/proj/pkg/helper.go") := by eval_stack

end Examples

end GoSnaps.Tie
