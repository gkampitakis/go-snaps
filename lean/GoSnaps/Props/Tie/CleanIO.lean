/-
Tie by proof: `snapshotOccurrenceFMT`, `standaloneOccurrenceFMT`, `occurrences` and `examineSnaps` of
snaps/clean.go (`Generated/FuncsIO.lean`) against the model `GoSnaps/Clean.lean`.

`occurrences`: Go ranges over a map and builds a set, so everything is stated on members.
`examineSnaps`: one lemma per loop of the function, for an arbitrary body characterised by
   hypotheses; `examineSnaps_eq` gives the transliteration, for every failure oracle, as a recursion
   over the used files whose step is in closed form (the scanning state machine `goScan` is the
   Go-side twin of the model's `exScan`); under `IOFail.never` and a sound oracle it returns the
   model's `.ok` outcome; the failure branches are stated for every oracle.
Last, the theorems on concrete inputs, evaluated by the kernel.
-/
import GoSnaps.GoIO
import GoSnaps.Clean
import GoSnaps.Lemmas.Clean
import GoSnaps.Generated.FuncsIO
import GoSnaps.Props.Tie.SnapshotIO
import GoSnaps.Props.Tie.Skip
import GoSnaps.Props.Tie.TestID
namespace GoSnaps.Tie
open GoSnaps GoSnaps.GoIO
open GoSnaps.Generated.FuncsIO

/-! ## `occurrences` -/

/-- a `for x := range l { … }` loop without `break`/`continue`/`return` whose body may panic -/
theorem forIn_yield_opt {α σ : Type} (l : List α) (init : σ) (F : α → σ → Option (ForInStep σ))
    (g : σ → α → Option σ)
    (h : ∀ a s, F a s = (g s a).bind (fun s' => some (ForInStep.yield s'))) :
    forIn l init F = l.foldlM g init := by
  induction l generalizing init with
  | nil => rfl
  | cons a l ih =>
    rw [List.forIn_cons, h, List.foldlM_cons]
    cases g init a with
    | none => rfl
    | some s' => exact ih s'

/-- the ordinals `occurrences` formats for a quotient `n` -/
def occKeysI (n : Int) : List Int := (if n > 1 then GoSem.intRange 1 (n + 1) else []) ++ [n]

/-- `result[formatter(id, i)] = struct{}{}` -/
def occAdd (fmt : Text → Int → Option Text) (id : Text) (r : GoSet) (i : Int) : Option GoSet :=
  (fmt id i).bind fun k => some (setAdd r k)

def occStepI (count : Int) (fmt : Text → Int → Option Text) (r : GoSet) (x : Text × Int) : Option GoSet :=
  (intDiv x.2 count).bind fun n => (occKeysI n).foldlM (occAdd fmt x.1) r

theorem occurrences_eq_fold (tests : Map1) (count : Int) (fmt : Text → Int → Option Text) :
    Generated.FuncsIO.occurrences tests count fmt = tests.foldlM (occStepI count fmt) [] := by
  unfold Generated.FuncsIO.occurrences
  simp only [bind, pure]
  rw [forIn_yield_opt _ _ _ (occStepI count fmt) ?h]
  · simp
  case h =>
    intro a s
    obtain ⟨id, c⟩ := a
    simp only [occStepI, occKeysI]
    cases hd : intDiv c count with
    | none => rfl
    | some n =>
      simp only [Option.bind_some, gt_iff_lt, decide_eq_true_eq]
      by_cases hn : 1 < n
      · simp only [hn, ↓reduceIte, List.foldlM_append]
        rw [forIn_yield_opt _ _ _ (occAdd fmt id) ?h2]
        · cases List.foldlM (occAdd fmt id) s (GoSem.intRange 1 (n + 1)) with
          | none => rfl
          | some r => simp [occAdd, bind]; cases fmt id n <;> rfl
        case h2 =>
          intro i r
          simp only [occAdd]
          cases fmt id i <;> rfl
      · simp only [hn, ↓reduceIte, List.nil_append]
        simp [occAdd, bind]; cases fmt id n <;> rfl

theorem mem_setAdd (r : GoSet) (k x : Text) : x ∈ setAdd r k ↔ x ∈ r ∨ x = k := by
  unfold setAdd
  by_cases h : r.contains k = true
  · rw [if_pos h]
    constructor
    · exact Or.inl
    · rintro (h' | rfl)
      · exact h'
      · simpa using h
  · rw [if_neg h]; simp

theorem setAdd_nodup (r : GoSet) (k : Text) (h : r.Nodup) : (setAdd r k).Nodup := by
  unfold setAdd
  by_cases hc : r.contains k = true
  · rw [if_pos hc]; exact h
  · rw [if_neg hc]
    have : k ∉ r := by simpa using hc
    rw [List.nodup_append]
    refine ⟨h, by simp, ?_⟩
    intro a ha b hb
    simp only [List.mem_singleton] at hb
    subst hb
    intro e; subst e; exact this ha

theorem mem_intRangeAux (lo : Int) (n : Nat) (i : Int) :
    i ∈ GoSem.intRangeAux lo n ↔ lo ≤ i ∧ i < lo + n := by
  induction n generalizing lo with
  | zero => simp [GoSem.intRangeAux]
  | succ n ih =>
    simp only [GoSem.intRangeAux, List.mem_cons, ih]
    omega

theorem mem_occKeysI (n i : Int) : i ∈ occKeysI n ↔ i = n ∨ (1 ≤ i ∧ i ≤ n) := by
  unfold occKeysI
  by_cases h : n > 1
  · rw [if_pos h]
    simp only [List.mem_append, GoSem.intRange, mem_intRangeAux, List.mem_singleton]
    omega
  · rw [if_neg h]
    simp only [List.nil_append, List.mem_singleton]
    omega

/-- a monadic fold that adds members to a set: it is defined iff every step is (`D`), and then its
    result has the old members and those the steps contribute (`C`), without duplicates -/
theorem foldlM_set {α : Type} (g : GoSet → α → Option GoSet) (D : α → Prop) (C : α → Text → Prop)
    (hsome : ∀ r a, D a → ∃ r', g r a = some r' ∧ (∀ x, x ∈ r' ↔ x ∈ r ∨ C a x) ∧ (r.Nodup → r'.Nodup))
    (hnone : ∀ r a, ¬ D a → g r a = none) (l : List α) (r : GoSet) :
    ((∀ a ∈ l, D a) → ∃ r', l.foldlM g r = some r' ∧ (∀ x, x ∈ r' ↔ x ∈ r ∨ ∃ a ∈ l, C a x) ∧
      (r.Nodup → r'.Nodup)) ∧
    ((∃ a ∈ l, ¬ D a) → l.foldlM g r = none) := by
  induction l generalizing r with
  | nil => exact ⟨fun _ => ⟨r, rfl, by simp, id⟩, fun ⟨_, h, _⟩ => by cases h⟩
  | cons a l ih =>
    rw [List.foldlM_cons]
    by_cases hd : D a
    · obtain ⟨r1, h1, h2, h3⟩ := hsome r a hd
      obtain ⟨ihs, ihn⟩ := ih r1
      rw [h1]
      refine ⟨fun h => ?_, fun ⟨b, hb, hnb⟩ => ihn ?_⟩
      · obtain ⟨r', g1, g2, g3⟩ := ihs (fun b hb => h b (List.mem_cons_of_mem _ hb))
        refine ⟨r', g1, fun x => ?_, fun hn => g3 (h3 hn)⟩
        rw [g2, h2]
        simp only [List.mem_cons, exists_eq_or_imp, or_assoc]
      · rcases List.mem_cons.mp hb with rfl | hb'
        · exact absurd hd hnb
        · exact ⟨b, hb', hnb⟩
    · rw [hnone r a hd]
      exact ⟨fun h => absurd (h a (by simp)) hd, fun _ => rfl⟩

/-- the `range tests` loop: defined iff the formatter is on every ordinal it is called with, and
    then the set holds the old members and the formatted keys -/
theorem occ_fold (count : Int) (hc : count ≠ 0) (fmt : Text → Int → Option Text) (tests : Map1) (r : GoSet) :
    ((∀ p ∈ tests, ∀ i ∈ occKeysI (Int.tdiv p.2 count), ∃ k, fmt p.1 i = some k) →
      ∃ r', tests.foldlM (occStepI count fmt) r = some r' ∧
        (∀ x, x ∈ r' ↔ x ∈ r ∨ ∃ p ∈ tests, ∃ i ∈ occKeysI (Int.tdiv p.2 count), fmt p.1 i = some x) ∧
        (r.Nodup → r'.Nodup)) ∧
    ((∃ p ∈ tests, ¬ ∀ i ∈ occKeysI (Int.tdiv p.2 count), ∃ k, fmt p.1 i = some k) →
      tests.foldlM (occStepI count fmt) r = none) := by
  -- the inner loops on one map entry
  have inner := fun (id : Text) (ks : List Int) (r : GoSet) =>
    foldlM_set (occAdd fmt id) (fun i => ∃ k, fmt id i = some k) (fun i x => fmt id i = some x)
      (fun r i ⟨k, hk⟩ => ⟨setAdd r k, by simp [occAdd, hk],
        fun x => by rw [mem_setAdd, hk]; simp [eq_comm], setAdd_nodup r k⟩)
      (fun r i hn => by
        cases hk : fmt id i with
        | none => simp [occAdd, hk]
        | some k => exact absurd ⟨k, hk⟩ hn) ks r
  have hstep : ∀ r (p : Text × Int), occStepI count fmt r p =
      (occKeysI (Int.tdiv p.2 count)).foldlM (occAdd fmt p.1) r := fun r p => by
    simp [occStepI, intDiv, hc]
  refine foldlM_set (occStepI count fmt) _ (fun p x => ∃ i ∈ occKeysI (Int.tdiv p.2 count), fmt p.1 i = some x)
    (fun r p hd => ?_) (fun r p hn => ?_) tests r
  · rw [hstep]; exact (inner p.1 _ r).1 hd
  · rw [hstep]; exact (inner p.1 _ r).2 (by simpa using hn)
/-- `count = 0` (`go test -count=0` never reaches `Clean`, but `strconv.Atoi` of a
    malformed flag value also yields 0): the first map entry makes the Go code panic with
    "integer divide by zero" -/
theorem occurrences_count_zero (tests : Map1) (fmt : Text → Int → Option Text) (h : tests ≠ []) :
    Generated.FuncsIO.occurrences tests 0 fmt = none := by
  rw [occurrences_eq_fold]
  cases tests with
  | nil => exact absurd rfl h
  | cons p ps => simp [List.foldlM_cons, occStepI, intDiv, bind]

/-- an empty registry map: no division happens, whatever `count` is -/
theorem occurrences_nil (count : Int) (fmt : Text → Int → Option Text) :
    Generated.FuncsIO.occurrences [] count fmt = some [] := by
  rw [occurrences_eq_fold]; rfl

/-- the set `occurrences` builds, independently of the order in which Go ranges over the
    map: for every entry `(id, c)` with `n = c / count` the key `fmt id n` (also for `n ≤ 0`), and
    `fmt id 1 … fmt id n` (which adds something new only when `n > 1`).  No sign condition on the
    counters is needed. -/
theorem occurrences_mem (tests : Map1) (count : Int) (fmt : Text → Int → Option Text) (hc : count ≠ 0)
    (htot : ∀ p ∈ tests, ∀ i, (i = Int.tdiv p.2 count ∨ (1 ≤ i ∧ i ≤ Int.tdiv p.2 count)) → ∃ k, fmt p.1 i = some k) :
    ∃ r, Generated.FuncsIO.occurrences tests count fmt = some r ∧ r.Nodup ∧
      ∀ x, x ∈ r ↔ ∃ p ∈ tests, ∃ i, (i = Int.tdiv p.2 count ∨ (1 ≤ i ∧ i ≤ Int.tdiv p.2 count)) ∧ fmt p.1 i = some x := by
  obtain ⟨r, h1, h2, h3⟩ := (occ_fold count hc fmt tests []).1
    (fun p hp i hi => htot p hp i ((mem_occKeysI _ _).mp hi))
  refine ⟨r, by rw [occurrences_eq_fold]; exact h1, h3 List.nodup_nil, ?_⟩
  intro x
  rw [h2]
  simp only [List.not_mem_nil, false_or, mem_occKeysI]

/-- `occurrences` panics exactly when it divides by zero or the formatter is
    undefined on an argument it is called with -/
theorem occurrences_none_iff (tests : Map1) (count : Int) (fmt : Text → Int → Option Text) :
    Generated.FuncsIO.occurrences tests count fmt = none ↔
      (count = 0 ∧ tests ≠ []) ∨
      (count ≠ 0 ∧ ∃ p ∈ tests, ∃ i, (i = Int.tdiv p.2 count ∨ (1 ≤ i ∧ i ≤ Int.tdiv p.2 count)) ∧ fmt p.1 i = none) := by
  by_cases hc : count = 0
  · subst hc
    cases tests with
    | nil => simp [occurrences_nil]
    | cons p ps => simp [occurrences_count_zero]
  · by_cases hex : ∃ p ∈ tests, ∃ i, (i = Int.tdiv p.2 count ∨ (1 ≤ i ∧ i ≤ Int.tdiv p.2 count)) ∧ fmt p.1 i = none
    · have : Generated.FuncsIO.occurrences tests count fmt = none := by
        rw [occurrences_eq_fold]
        obtain ⟨p, hp, i, hi, hn⟩ := hex
        exact (occ_fold count hc fmt tests []).2 ⟨p, hp, fun h => by
          obtain ⟨k, hk⟩ := h i ((mem_occKeysI _ _).mpr hi)
          rw [hn] at hk; cases hk⟩
      exact ⟨fun _ => Or.inr ⟨hc, hex⟩, fun _ => this⟩
    · have htot : ∀ p ∈ tests, ∀ i, (i = Int.tdiv p.2 count ∨ (1 ≤ i ∧ i ≤ Int.tdiv p.2 count)) → ∃ k, fmt p.1 i = some k := by
        intro p hp i hi
        cases hf : fmt p.1 i with
        | none => exact absurd ⟨p, hp, i, hi, hf⟩ hex
        | some k => exact ⟨k, rfl⟩
      obtain ⟨r, hr, _⟩ := occurrences_mem tests count fmt hc htot
      rw [hr]
      constructor
      · intro h; cases h
      · rintro (⟨h0, _⟩ | ⟨_, h⟩)
        · exact absurd h0 hc
        · exact absurd h hex

/-- Go ranges over the map in an unspecified order: the result depends only on the members -/
theorem occurrences_congr_mem (m m' : Map1) (cnt : Int) (hcnt : cnt ≠ 0) (fmt : Text → Int → Option Text)
    (hm : ∀ x, x ∈ m ↔ x ∈ m') (r' : GoSet) (h : Generated.FuncsIO.occurrences m' cnt fmt = some r') :
    ∃ r, Generated.FuncsIO.occurrences m cnt fmt = some r ∧ ∀ x, x ∈ r ↔ x ∈ r' := by
  -- nothing panics on `m'`, hence nothing panics on `m`
  have htot : ∀ p ∈ m', ∀ i, (i = Int.tdiv p.2 cnt ∨ (1 ≤ i ∧ i ≤ Int.tdiv p.2 cnt)) → ∃ k, fmt p.1 i = some k := by
    intro p hp i hi
    cases hf : fmt p.1 i with
    | some k => exact ⟨k, rfl⟩
    | none =>
      have := (occurrences_none_iff m' cnt fmt).mpr (Or.inr ⟨hcnt, p, hp, i, hi, hf⟩)
      rw [h] at this; cases this
  obtain ⟨r1, hr1, _, hm1⟩ := occurrences_mem m cnt fmt hcnt (fun p hp i hi => htot p ((hm p).mp hp) i hi)
  obtain ⟨r2, hr2, _, hm2⟩ := occurrences_mem m' cnt fmt hcnt htot
  rw [h] at hr2; cases hr2
  refine ⟨r1, hr1, fun x => ?_⟩
  rw [hm1, hm2]
  constructor
  · rintro ⟨q, hq, rest⟩; exact ⟨q, (hm q).mp hq, rest⟩
  · rintro ⟨q, hq, rest⟩; exact ⟨q, (hm q).mpr hq, rest⟩

/-- two keys are formatted for a test that ran twice in a `-count=1` run -/
example : Generated.FuncsIO.occurrences [([84], 2), ([85], 1)] 1 (fun a b => some (snapshotOccurrenceFMT a b)) =
    some [[84, 32, 45, 32, 49], [84, 32, 45, 32, 50], [85, 32, 45, 32, 49]] := by decide +kernel
/-- a counter smaller than `count` (a test that did not run in every repetition) registers the key with
    ordinal 0 -/
example : Generated.FuncsIO.occurrences [([84], 1)] 2 (fun a b => some (snapshotOccurrenceFMT a b)) =
    some [[84, 32, 45, 32, 48]] := by decide +kernel
example : Generated.FuncsIO.occurrences [([84], 1)] 0 (fun a b => some (snapshotOccurrenceFMT a b)) = none :=
  occurrences_count_zero _ _ (by decide)

/-! ### against the model's `occurrences` -/

/-- the Go map seen by the transliteration: the model's counters as Go `int`s -/
def intImage (mine : List (Text × Nat)) : Map1 := mine.map (fun (k, n) => (k, (n : Int)))

theorem occFold_total (tests : List (Text × Nat)) (count : Nat) (fmt : Text → Nat → Option Text) (r : List Text)
    (h : ∀ x ∈ tests, ∀ k ∈ occKs (x.2 / count), ∃ t, fmt x.1 k = some t) :
    ∃ r', tests.foldl (occStep count fmt) (some r) = some r' := by
  induction tests generalizing r with
  | nil => exact ⟨r, rfl⟩
  | cons x xs ih =>
    rw [List.foldl_cons]
    have : ((occKs (x.2 / count)).map (fmt x.1)).any (·.isNone) = false := by
      rw [List.any_eq_false]
      intro a ha
      obtain ⟨k, hk, hka⟩ := List.mem_map.mp ha
      obtain ⟨t, ht⟩ := h x (by simp) k hk
      rw [← hka, ht]; simp
    simp only [occStep, this, Bool.false_eq_true, ↓reduceIte]
    exact ih _ (fun y hy => h y (by simp [hy]))

theorem tdiv_natCast (n cnt : Nat) : Int.tdiv (n : Int) (cnt : Int) = ((n / cnt : Nat) : Int) := by
  rw [Int.tdiv_eq_ediv_of_nonneg (by omega)]; rfl

theorem occKeys_nat (c : Nat) (i : Int) (h : i = (c : Int) ∨ (1 ≤ i ∧ i ≤ (c : Int))) :
    i = (i.toNat : Int) ∧ i.toNat ∈ occKs c := by
  refine ⟨by omega, ?_⟩
  rw [mem_occKs]; omega

/-- a Go formatter `fmtI` and a model formatter `fmtN` that agree on the
    non-negative ordinals; the Go map is the Int-image of the model's list; `count > 0`.  Whenever
    the model has a result, the Go function returns a duplicate-free slice with the same members. -/
theorem occurrences_tied_gen (fmtI : Text → Int → Option Text) (fmtN : Text → Nat → Option Text)
    (hf : ∀ s (i : Nat), fmtI s (i : Int) = fmtN s i)
    (mine : List (Text × Nat)) (cnt : Nat) (hc : cnt > 0) (r' : List Text)
    (h : GoSnaps.occurrences mine cnt fmtN = some r') :
    ∃ r, Generated.FuncsIO.occurrences (intImage mine) (cnt : Int) fmtI = some r ∧ r.Nodup ∧
      ∀ x, x ∈ r ↔ x ∈ r' := by
  rw [occurrences_eq] at h
  obtain ⟨tail, rfl, hs, hcpl⟩ := occFold_spec mine cnt fmtN [] r' h
  -- every ordinal the Go loop formats for an entry of the image is one the model formatted
  have key : ∀ p ∈ intImage mine, ∀ i, (i = Int.tdiv p.2 cnt ∨ (1 ≤ i ∧ i ≤ Int.tdiv p.2 cnt)) →
      ∃ t, fmtI p.1 i = some t ∧ t ∈ r' := by
    intro p hp i hi
    obtain ⟨⟨k, n⟩, hpm, rfl⟩ := List.mem_map.mp hp
    rw [tdiv_natCast] at hi
    obtain ⟨hi1, hi2⟩ := occKeys_nat _ _ hi
    obtain ⟨t, ht, htm⟩ := hcpl (k, n) hpm i.toNat hi2
    exact ⟨t, by rw [hi1, hf]; exact ht, htm⟩
  obtain ⟨r, hr, hnd, hm⟩ := occurrences_mem (intImage mine) (cnt : Int) fmtI (by omega)
    (fun p hp i hi => (key p hp i hi).imp fun _ h => h.1)
  refine ⟨r, hr, hnd, ?_⟩
  intro x
  rw [hm]
  constructor
  · rintro ⟨p, hp, i, hi, hx⟩
    obtain ⟨t, ht, htm⟩ := key p hp i hi
    rw [ht] at hx
    exact Option.some.inj hx ▸ htm
  · intro hx
    obtain ⟨y, hy, k, hk, hfk⟩ := hs x hx
    refine ⟨(y.1, (y.2 : Int)), List.mem_map.mpr ⟨y, hy, rfl⟩, (k : Int), ?_, by rw [hf]; exact hfk⟩
    rw [tdiv_natCast]
    have := (mem_occKs _ _).mp hk
    omega

/-- … and when the model has none (its formatter is undefined on an ordinal), the Go function
    panics (`none` also stands for "format outside the modelled fragment") -/
theorem occurrences_tied_none (fmtI : Text → Int → Option Text) (fmtN : Text → Nat → Option Text)
    (hf : ∀ s (i : Nat), fmtI s (i : Int) = fmtN s i)
    (mine : List (Text × Nat)) (cnt : Nat) (hc : cnt > 0)
    (h : GoSnaps.occurrences mine cnt fmtN = none) :
    Generated.FuncsIO.occurrences (intImage mine) (cnt : Int) fmtI = none := by
  rw [occurrences_none_iff]
  refine Or.inr ⟨by omega, ?_⟩
  apply Classical.byContradiction
  intro hne
  have : ∀ x ∈ mine, ∀ k ∈ occKs (x.2 / cnt), ∃ t, fmtN x.1 k = some t := by
    intro x hx k hk
    cases hfk : fmtN x.1 k with
    | some t => exact ⟨t, rfl⟩
    | none =>
      exfalso; apply hne
      refine ⟨(x.1, (x.2 : Int)), List.mem_map.mpr ⟨x, hx, rfl⟩, (k : Int), ?_, by rw [hf]; exact hfk⟩
      rw [tdiv_natCast]
      have := (mem_occKs _ _).mp hk
      omega
  obtain ⟨r', hr'⟩ := occFold_total mine cnt fmtN [] this
  rw [occurrences_eq, hr'] at h
  cases h

/-- `fmt.Sprintf("%s - %d", s, i)`: the transliteration concatenates what the model's `sprintf`
    computes from the format string read from the source -/
theorem snapshotOccurrenceFMT_tied (s : Text) (i : Nat) :
    some (snapshotOccurrenceFMT s (i : Int)) = snapshotOccFmt s i := by
  rw [snapshotOccFmt_eq]
  simp [snapshotOccurrenceFMT, Id.run, GoSem.itoa_natCast]
  rfl

/-- `fmt.Sprintf(s, i)` with the run-time format `s` -/
theorem standaloneOccurrenceFMT_tied (s : Text) (i : Nat) :
    standaloneOccurrenceFMT s (i : Int) = standaloneOccFmt s i := by
  simp [standaloneOccurrenceFMT, sprintfInt, standaloneOccFmt]
  intro h; omega

/-- against the model, for the formatter `examineSnaps` uses: both sides always have a result, with the same
    members -/
theorem occurrences_tied (mine : List (Text × Nat)) (cnt : Nat) (hc : cnt > 0) :
    ∃ r r', Generated.FuncsIO.occurrences (intImage mine) (cnt : Int) (fun a b => some (snapshotOccurrenceFMT a b)) = some r ∧
      GoSnaps.occurrences mine cnt snapshotOccFmt = some r' ∧ r.Nodup ∧ ∀ x, x ∈ r ↔ x ∈ r' := by
  obtain ⟨r', hr'⟩ := occurrences_snapshot_total mine cnt
  obtain ⟨r, hr, hnd, hm⟩ := occurrences_tied_gen (fun a b => some (snapshotOccurrenceFMT a b)) snapshotOccFmt
    (fun s i => snapshotOccurrenceFMT_tied s i) mine cnt hc r' hr'
  exact ⟨r, r', hr, hr', hnd, hm⟩

/-- against the model, for the standalone formatter (`Clean` calls `occurrences(standaloneTestsRegistry.cleanup, …)`):
    the model has a result iff the Go call does not panic, and then the members agree -/
theorem occurrences_standalone_tied (mine : List (Text × Nat)) (cnt : Nat) (hc : cnt > 0) :
    match GoSnaps.occurrences mine cnt standaloneOccFmt with
    | some r' => ∃ r, Generated.FuncsIO.occurrences (intImage mine) (cnt : Int) standaloneOccurrenceFMT = some r ∧
        r.Nodup ∧ ∀ x, x ∈ r ↔ x ∈ r'
    | none => Generated.FuncsIO.occurrences (intImage mine) (cnt : Int) standaloneOccurrenceFMT = none := by
  cases h : GoSnaps.occurrences mine cnt standaloneOccFmt with
  | some r' => exact occurrences_tied_gen _ _ standaloneOccurrenceFMT_tied mine cnt hc r' h
  | none => exact occurrences_tied_none _ _ standaloneOccurrenceFMT_tied mine cnt hc h

example : Generated.FuncsIO.occurrences (intImage [([84], 4), ([85], 2)]) ((2 : Nat) : Int)
      (fun a b => some (snapshotOccurrenceFMT a b)) =
        some [[84, 32, 45, 32, 49], [84, 32, 45, 32, 50], [85, 32, 45, 32, 49]] ∧
    GoSnaps.occurrences [([84], 4), ([85], 2)] 2 snapshotOccFmt =
        some [[84, 32, 45, 32, 49], [84, 32, 45, 32, 50], [84, 32, 45, 32, 50], [85, 32, 45, 32, 49]] := by
  constructor <;> decide +kernel
/-- the Go set has no duplicates, the model's list may: same members, different lists -/
example : Generated.FuncsIO.occurrences (intImage [([84], 1), ([84], 1)]) ((1 : Nat) : Int)
      (fun a b => some (snapshotOccurrenceFMT a b)) = some [[84, 32, 45, 32, 49]] ∧
    GoSnaps.occurrences [([84], 1), ([84], 1)] 1 snapshotOccFmt = some [[84, 32, 45, 32, 49], [84, 32, 45, 32, 49]] := by
  constructor <;> decide +kernel
/-- standalone: the pattern `p_%d.snap` -/
example : Generated.FuncsIO.occurrences (intImage [([112, 95, 37, 100], 2)]) ((1 : Nat) : Int) standaloneOccurrenceFMT =
    some [[112, 95, 49], [112, 95, 50]] := by decide +kernel

/-! ## `examineSnaps` -/

/-- state of the inner `for s.Scan()` loop: `tests`, `data`, `s` -/
abbrev IS := SMap × Text × Scanner
/-- state of the outer `for s.Scan()` loop: `obsoleteTests`, `tests`, `data`, `testIDs`, `hasDiffs`, `s` -/
abbrev SS := List Text × SMap × Text × List Text × Bool × Scanner
abbrev Ret := FS × List Text × Err
/-- state of the `range used` loop: early return value, `fs`, `obsoleteTests`, `tests`, `data`, `testIDs` -/
abbrev OS := Option Ret × FS × List Text × SMap × Text × List Text

/-- the inner loop as a function of the tokens still to come: collect body lines into `data` up to
    the terminator, then store `tests[id] = data` and reset `data`; at the end of the input the
    lines collected so far stay in `data` and the scanner is exhausted (`ok = false`) -/
def collL (id : Text) : List Line → SMap → Text → IS
  | [], t, d => (t, d, { ok := false, cur := [], rest := [] })
  | l :: ls, t, d =>
    if l = endSeq then (smapSet t id d, [], { ok := true, cur := endSeq, rest := ls })
    else collL id ls t (d ++ l ++ [nl])

/-- the inner loop either reaches a terminator (`ok`: `data` is reset, tokens are consumed) or
    exhausts the scanner without storing anything -/
theorem collL_cases (id : Text) (ls : List Line) (t : SMap) (d : Text) :
    ((collL id ls t d).2.2.ok = true ∧ (collL id ls t d).2.1 = [] ∧
      (collL id ls t d).2.2.rest.length ≤ ls.length) ∨
    ((collL id ls t d).2.2.ok = false ∧ (collL id ls t d).1 = t ∧
      (collL id ls t d).2.2 = { ok := false, cur := [], rest := [] }) := by
  induction ls generalizing d with
  | nil => simp [collL]
  | cons l ls ih =>
    by_cases hl : l = endSeq
    · simp [collL, hl]
    · simp only [collL, hl, ↓reduceIte, List.length_cons]
      rcases ih (d ++ l ++ [nl]) with ⟨h1, h2, h3⟩ | h
      · exact Or.inl ⟨h1, h2, by omega⟩
      · exact Or.inr h

theorem scan_nil (ok : Bool) (c : Line) :
    ({ ok := ok, cur := c, rest := [] } : Scanner).scan = { ok := false, cur := [], rest := [] } := rfl
theorem scan_cons (ok : Bool) (c l : Line) (ls : List Line) :
    ({ ok := ok, cur := c, rest := l :: ls } : Scanner).scan = { ok := true, cur := l, rest := ls } := rfl

/-- the inner `for s.Scan()` loop of `examineSnaps`, for any body `F` that behaves like the Go
    loop body on the three kinds of scanner state -/
theorem coll_loop (id : Text) (F : Unit → IS → Option (ForInStep IS))
    (hnil : ∀ t d ok c, F () (t, d, ({ ok := ok, cur := c, rest := [] } : Scanner)) =
      some (ForInStep.done (t, d, ({ ok := false, cur := [], rest := [] } : Scanner))))
    (hend : ∀ t d ok c ls, F () (t, d, ({ ok := ok, cur := c, rest := endSeq :: ls } : Scanner)) =
      some (ForInStep.done (smapSet t id d, [], ({ ok := true, cur := endSeq, rest := ls } : Scanner))))
    (hline : ∀ t d ok c l ls, l ≠ endSeq → F () (t, d, ({ ok := ok, cur := c, rest := l :: ls } : Scanner)) =
      some (ForInStep.yield (t, d ++ l ++ [nl], ({ ok := true, cur := l, rest := ls } : Scanner))))
    (rest : List Line) (t : SMap) (d : Text) (c : Line) (ok : Bool) :
    forIn (List.replicate (rest.length + 1) ()) (t, d, ({ ok := ok, cur := c, rest := rest } : Scanner)) F =
      some (collL id rest t d) := by
  induction rest generalizing d c ok with
  | nil => simp [hnil, collL]
  | cons l ls ih =>
    rw [List.length_cons, List.replicate_succ, List.forIn_cons]
    by_cases h : l = endSeq
    · subst h
      simp [hend, collL]
    · rw [hline _ _ _ _ _ _ h]
      simp only [Option.bind_eq_bind, Option.bind_some]
      rw [ih]
      simp [collL, h]

/-- the outer scanning loop of `examineSnaps` over the tokens of one file, as the Go code runs it
    (no oracle): `O id` is the Go condition `!registeredTests.Has(id) && !testSkipped(id, runOnly)`.
    Returns the accumulated variables and what is left in `data` when the input ends. -/
def goScan (O : Text → Bool) (update : Bool) : List Line → ScanMode → ScanState → ScanState × Text
  | [], .collecting _ d, st => (st, d)
  | [], .outer, st => (st, [])
  | [], .skipping, st => (st, [])
  | l :: ls, .skipping, st =>
    if l = endSeq then goScan O update ls .outer st else goScan O update ls .skipping st
  | l :: ls, .collecting id d, st =>
    if l = endSeq then goScan O update ls .outer { st with tests := smapSet st.tests id d }
    else goScan O update ls (.collecting id (d ++ l ++ [nl])) st
  | l :: ls, .outer, st =>
    match GoSnaps.getTestID l with
    | none => goScan O update ls .outer st
    | some id =>
      if O id then
        goScan O update ls (if update then .skipping else .collecting id [])
          { st with testIDs := st.testIDs ++ [id], obsolete := st.obsolete ++ [id], hasDiffs := true }
      else goScan O update ls (.collecting id []) { st with testIDs := st.testIDs ++ [id] }

theorem goScan_skipping (O : Text → Bool) (update : Bool) (ls : List Line) (st : ScanState) :
    goScan O update ls .skipping st = goScan O update (skipL ls).rest .outer st := by
  induction ls with
  | nil => simp [goScan, skipL]
  | cons l ls ih =>
    by_cases h : l = endSeq
    · simp [goScan, skipL, h]
    · simp [goScan, skipL, h, ih]

theorem goScan_collecting (O : Text → Bool) (update : Bool) (id : Text) (ls : List Line) (d : Text) (st : ScanState) :
    goScan O update ls (.collecting id d) st =
      if (collL id ls st.tests d).2.2.ok then
        goScan O update (collL id ls st.tests d).2.2.rest .outer { st with tests := (collL id ls st.tests d).1 }
      else (st, (collL id ls st.tests d).2.1) := by
  induction ls generalizing d with
  | nil => simp [goScan, collL]
  | cons l ls ih =>
    by_cases h : l = endSeq
    · simp [goScan, collL, h]
    · simp [goScan, collL, h, ih]

def packSS (r : ScanState × Text) : SS :=
  (r.1.obsolete, r.1.tests, r.2, r.1.testIDs, r.1.hasDiffs, { ok := false, cur := [], rest := [] })

/-- the outer `for s.Scan()` loop of `examineSnaps`, for any body `F` that behaves like the Go loop
    body on each kind of state (`data` is empty whenever a header line is looked at: it is reset by
    every terminator, and an unterminated entry exhausts the scanner).  The model's `missing` flag has
    no counterpart in the loop state and is carried along unchanged (`ms`). -/
theorem scan_loop (O : Text → Bool) (update : Bool) (F : Unit → SS → Option (ForInStep SS))
    (hnil : ∀ obs t d ids hd ok c, F () (obs, t, d, ids, hd, ({ ok := ok, cur := c, rest := [] } : Scanner)) =
      some (ForInStep.done (obs, t, d, ids, hd, ({ ok := false, cur := [], rest := [] } : Scanner))))
    (hline : ∀ obs t ids hd ok c l ls, GoSnaps.getTestID l = none →
      F () (obs, t, [], ids, hd, ({ ok := ok, cur := c, rest := l :: ls } : Scanner)) =
      some (ForInStep.yield (obs, t, [], ids, hd, ({ ok := true, cur := l, rest := ls } : Scanner))))
    (hdrop : update = true → ∀ obs t ids hd ok c l ls id, GoSnaps.getTestID l = some id → O id = true →
      F () (obs, t, [], ids, hd, ({ ok := ok, cur := c, rest := l :: ls } : Scanner)) =
      some (ForInStep.yield (obs ++ [id], t, [], ids ++ [id], true, skipL ls)))
    (hcoll : ∀ obs t ids hd ok c l ls id, GoSnaps.getTestID l = some id → (O id = true → update = false) →
      F () (obs, t, [], ids, hd, ({ ok := ok, cur := c, rest := l :: ls } : Scanner)) =
      some (ForInStep.yield (if O id then obs ++ [id] else obs, (collL id ls t []).1, (collL id ls t []).2.1,
        ids ++ [id], hd || O id, (collL id ls t []).2.2)))
    (n : Nat) : ∀ (rest : List Line) (obs : List Text) (t : SMap) (ids : List Text) (hd ms ok : Bool) (c : Line),
      rest.length < n →
      forIn (List.replicate n ()) (obs, t, [], ids, hd, ({ ok := ok, cur := c, rest := rest } : Scanner)) F =
        some (packSS (goScan O update rest .outer
          { testIDs := ids, tests := t, obsolete := obs, hasDiffs := hd, missing := ms })) := by
  -- what happens after an entry has been collected (`collL`), in both modes
  have after : ∀ (m : Nat) (ls : List Line) (id : Text) (st : ScanState),
      (∀ (rest : List Line) (obs : List Text) (t : SMap) (ids : List Text) (hd ms ok : Bool) (c : Line),
        rest.length < m + 1 →
        forIn (List.replicate (m + 1) ()) (obs, t, [], ids, hd, ({ ok := ok, cur := c, rest := rest } : Scanner)) F =
          some (packSS (goScan O update rest .outer
            { testIDs := ids, tests := t, obsolete := obs, hasDiffs := hd, missing := ms }))) →
      ls.length < m + 1 →
      forIn (List.replicate (m + 1) ()) (st.obsolete, (collL id ls st.tests []).1, (collL id ls st.tests []).2.1,
          st.testIDs, st.hasDiffs, (collL id ls st.tests []).2.2) F =
        some (packSS (goScan O update ls (.collecting id []) st)) := by
    intro m ls id st ih hlen
    rw [goScan_collecting]
    rcases collL_cases id ls st.tests [] with ⟨hok, hd, hl⟩ | ⟨hok, h1, h2⟩
    · rw [hok, hd]
      have := ih (collL id ls st.tests []).2.2.rest st.obsolete (collL id ls st.tests []).1 st.testIDs st.hasDiffs
        st.missing (collL id ls st.tests []).2.2.ok (collL id ls st.tests []).2.2.cur (by omega)
      simpa using this
    · rw [hok, h1, h2, List.replicate_succ, List.forIn_cons, hnil]
      simp [packSS]
  induction n with
  | zero => intro rest obs t ids hd ms ok c h; omega
  | succ n ih =>
    intro rest obs t ids hd ms ok c hlen
    cases rest with
    | nil =>
      rw [List.replicate_succ, List.forIn_cons, hnil]
      simp [goScan, packSS]
    | cons l ls =>
      simp only [List.length_cons] at hlen
      cases n with
      | zero => omega
      | succ m =>
        rw [List.replicate_succ (n := m + 1), List.forIn_cons]
        cases hg : GoSnaps.getTestID l with
        | none =>
          rw [hline _ _ _ _ _ _ _ _ hg]
          simp only [Option.bind_eq_bind, Option.bind_some]
          rw [ih ls obs t ids hd ms true l (by omega)]
          simp [goScan, hg]
        | some id =>
          by_cases hd' : O id = true ∧ update = true
          · -- an obsolete entry while updating: its body is skipped (`removeSnapshot`)
            obtain ⟨hO, hu⟩ := hd'
            subst hu
            rw [hdrop rfl _ _ _ _ _ _ _ _ _ hg hO]
            simp only [Option.bind_eq_bind, Option.bind_some]
            have hl := skipL_rest_length ls
            have := ih (skipL ls).rest (obs ++ [id]) t (ids ++ [id]) true ms (skipL ls).ok (skipL ls).cur (by omega)
            rw [this]
            simp [goScan, hg, hO, goScan_skipping]
          · -- otherwise the inner loop collects the body, whether the entry is kept or reported
            have hu : O id = true → update = false := fun hO => by
              cases hu : update
              · rfl
              · exact absurd ⟨hO, hu⟩ hd'
            rw [hcoll _ _ _ _ _ _ _ _ _ hg hu]
            simp only [Option.bind_eq_bind, Option.bind_some]
            have := after m ls id
              ⟨ids ++ [id], t, if O id then obs ++ [id] else obs, hd || O id, ms⟩ ih (by omega)
            simp only at this
            rw [this]
            cases hO : O id with
            | false => simp only [goScan, hg, hO, Bool.false_eq_true, ↓reduceIte, Bool.or_false]
            | true => simp only [goScan, hg, hO, hu hO, Bool.false_eq_true, ↓reduceIte, Bool.or_true]

/-! ### the rewrite loop and the loop over the files -/

/-- one iteration of the rewrite loop `for _, id := range testIDs` (the result of `fmt.Fprintf`,
    error included, is discarded by the Go code) -/
def wstep (io : IOFail) (tests : SMap) (s : FS × File) (id : Text) : FS × File :=
  if smapHas tests id then
    ((fileWrite io s.1 s.2 (([10, 91] : List UInt8) ++ id ++ ([93, 10] : List UInt8) ++ smapGet tests id ++
        Generated.go_endSequence ++ ([10] : List UInt8))).1,
     (fileWrite io s.1 s.2 (([10, 91] : List UInt8) ++ id ++ ([93, 10] : List UInt8) ++ smapGet tests id ++
        Generated.go_endSequence ++ ([10] : List UInt8))).2.1)
  else s

theorem write_loop (io : IOFail) (tests : SMap) (W : Text → FS × File → Option (ForInStep (FS × File)))
    (h : ∀ id s, W id s = some (ForInStep.yield (wstep io tests s id))) (ids : List Text) (s : FS × File) :
    forIn ids s W = some (ids.foldl (wstep io tests) s) := by
  induction ids generalizing s with
  | nil => rfl
  | cons id ids ih => rw [List.forIn_cons, h]; exact ih _

theorem slice_zero_zero {α : Type} (l : List α) : GoSem.slice l 0 0 = some [] := by
  simp [GoSem.slice]

/-- the part of the loop body after the scanning loop: decide whether the file is rewritten, and
    rewrite it -/
def fileRest (io : IOFail) (update sort : Bool) (f : File) (fs : FS) (r : ScanState × Text) : ForInStep OS :=
  if (!(update && r.1.hasDiffs) && !(sort && !isSortedNat r.1.testIDs)) = true then
    ForInStep.yield (none, fs, r.1.obsolete, [], [], [])
  else if (overwriteFile io fs f []).2.2.notNil = true then
    ForInStep.done (some ((overwriteFile io fs f []).1, [], (overwriteFile io fs f []).2.2), (overwriteFile io fs f []).1,
      r.1.obsolete, r.1.tests, r.2, if (sort && !isSortedNat r.1.testIDs) = true then sortNat r.1.testIDs else r.1.testIDs)
  else
    ForInStep.yield (none,
      ((if (sort && !isSortedNat r.1.testIDs) = true then sortNat r.1.testIDs else r.1.testIDs).foldl (wstep io r.1.tests)
        ((overwriteFile io fs f []).1, (overwriteFile io fs f []).2.1)).1,
      r.1.obsolete, [], [], [])

def goObsolete (re : Text → Text → Bool × Bool) (skipped : List Text) (runOnly : Text) (reg : GoSet) (id : Text) : Bool :=
  !setHas reg id && !Generated.Funcs.testSkipped re skipped id runOnly

/-- the body of the `range used` loop, for every failure oracle: `none` = panic, `done` = early
    return (the first component is the returned value), `yield` = next file -/
def fileStep (io : IOFail) (re : Text → Text → Bool × Bool) (skipped : List Text) (registry : Map2)
    (runOnly : Text) (count : Int) (update sort : Bool) (p : Text) (fs : FS) (obs : List Text) :
    Option (ForInStep OS) :=
  if (openRDWR io fs p).2.notNil = true then
    some (ForInStep.done (some (fs, [], (openRDWR io fs p).2), fs, obs, [], [], []))
  else
    (Generated.FuncsIO.occurrences (map2Inner registry p) count (fun a b => some (snapshotOccurrenceFMT a b))).bind fun reg =>
      some (fileRest io update sort (fileAtEnd fs (openRDWR io fs p).1) fs
        (goScan (goObsolete re skipped runOnly reg) update (scan (fileContent fs (openRDWR io fs p).1)) .outer
          { obsolete := obs }))

def goFiles (step : Text → FS → List Text → Option (ForInStep OS)) : List Text → FS → List Text → Option OS
  | [], fs, obs => some (none, fs, obs, [], [], [])
  | p :: rest, fs, obs =>
    match step p fs obs with
    | none => none
    | some (ForInStep.done r) => some r
    | some (ForInStep.yield r) => goFiles step rest r.2.1 r.2.2.1

theorem files_loop (G : Text → OS → Option (ForInStep OS)) (step : Text → FS → List Text → Option (ForInStep OS))
    (hG : ∀ p fs obs, G p (none, fs, obs, [], [], []) = step p fs obs)
    (hshape : ∀ p fs obs r, step p fs obs = some (ForInStep.yield r) → r = (none, r.2.1, r.2.2.1, [], [], []))
    (used : List Text) (fs : FS) (obs : List Text) :
    forIn used ((none, fs, obs, [], [], []) : OS) G = goFiles step used fs obs := by
  induction used generalizing fs obs with
  | nil => rfl
  | cons p rest ih =>
    rw [List.forIn_cons, hG, goFiles]
    cases hs : step p fs obs with
    | none => rfl
    | some x =>
      cases x with
      | done r => rfl
      | yield r =>
        have := hshape p fs obs r hs
        simp only [Option.bind_eq_bind, Option.bind_some]
        rw [this]
        exact ih _ _

theorem fileStep_shape (io : IOFail) (re : Text → Text → Bool × Bool) (skipped : List Text) (registry : Map2)
    (runOnly : Text) (count : Int) (update sort : Bool) (p : Text) (fs : FS) (obs : List Text) (r : OS)
    (h : fileStep io re skipped registry runOnly count update sort p fs obs = some (ForInStep.yield r)) :
    r = (none, r.2.1, r.2.2.1, [], [], []) := by
  unfold fileStep at h
  by_cases h1 : (openRDWR io fs p).2.notNil = true
  · rw [if_pos h1] at h; cases h
  rw [if_neg h1] at h
  cases hocc : Generated.FuncsIO.occurrences (map2Inner registry p) count (fun a b => some (snapshotOccurrenceFMT a b)) with
  | none => rw [hocc] at h; cases h
  | some reg =>
    rw [hocc, Option.bind_some, fileRest] at h
    generalize goScan _ _ _ _ _ = st at h
    by_cases h2 : (!(update && st.1.hasDiffs) && !(sort && !isSortedNat st.1.testIDs)) = true
    · rw [if_pos h2] at h; cases h; rfl
    rw [if_neg h2] at h
    by_cases h3 : (overwriteFile io fs (fileAtEnd fs (openRDWR io fs p).1) []).2.2.notNil = true
    · rw [if_pos h3] at h; cases h
    · rw [if_neg h3] at h; cases h; rfl

def finish (r : OS) : Ret :=
  match r.1 with
  | some x => x
  | none => (r.2.1, r.2.2.1, Err.nil)

/-- **`examineSnaps`, for every failure oracle**, as a recursion over the files whose step is given
    in closed form (`fileStep`: `openRDWR`, `occurrences`, the scanning state machine `goScan`,
    `overwriteFile` and a fold of `fileWrite`s) -/
theorem examineSnaps_eq (io : IOFail) (fs : FS) (re : Text → Text → Bool × Bool) (skipped : List Text)
    (registry : Map2) (used : List Text) (runOnly : Text) (count : Int) (update sort : Bool) :
    Generated.FuncsIO.examineSnaps io fs re skipped registry used runOnly count update sort =
      (goFiles (fileStep io re skipped registry runOnly count update sort) used fs []).map finish := by
  have e : Generated.endSeq = Generated.go_endSequence := by decide +kernel
  unfold Generated.FuncsIO.examineSnaps
  simp only [bind, pure]
  rw [files_loop _ (fileStep io re skipped registry runOnly count update sort) ?hG
    (fileStep_shape io re skipped registry runOnly count update sort)]
  · cases goFiles (fileStep io re skipped registry runOnly count update sort) used fs [] with
    | none => rfl
    | some r =>
      obtain ⟨r1, r2⟩ := r
      cases r1 <;> rfl
  case hG =>
    intro p fs obs
    dsimp only
    unfold fileStep
    by_cases h1 : (openRDWR io fs p).2.notNil = true
    · rw [if_pos h1, if_pos h1]
    · rw [if_neg h1, if_neg h1]
      congr 1; funext reg
      simp only [scanFile, Scanner.new, Scanner.fuel]
      rw [scan_loop (goObsolete re skipped runOnly reg) update _ ?hnil ?hline ?hdrop ?hcoll _ _ obs [] [] false false
        false [] (Nat.lt_succ_self _)]
      · generalize goScan (goObsolete re skipped runOnly reg) update (scan (fileContent fs (openRDWR io fs p).fst))
          ScanMode.outer { obsolete := obs } = r
        obtain ⟨st, d⟩ := r
        have hnn : Err.nil.notNil = false := rfl
        simp only [Option.bind_some, packSS, Scanner.err, hnn, slice_zero_zero, Bool.false_eq_true, ↓reduceIte]
        unfold fileRest
        by_cases hC : (!(update && st.hasDiffs) && !(sort && !isSortedNat st.testIDs)) = true
        · -- neither pruning nor sorting: on to the next file
          simp only [hC, ↓reduceIte]
        simp only [hC]
        -- the file is rewritten along the sorted or the original ids, unless truncating it fails
        cases hS : (sort && !isSortedNat st.testIDs) <;>
          cases hW : (overwriteFile io fs (fileAtEnd fs (openRDWR io fs p).fst) []).2.2.notNil <;>
          simp only [Bool.false_eq_true, ↓reduceIte]
        all_goals
          rw [write_loop io st.tests _ ?hw]
          · simp only [Option.bind_some]
          case hw =>
            intro id s
            unfold wstep
            cases smapHas st.tests id <;> simp
      case hnil => intro obs t d ids hd ok c; simp [scan_nil]
      case hline =>
        intro obs t ids hd ok c l ls hg
        simp [scan_cons, Scanner.bytes, getTestID_total, hg]
      case hdrop =>
        intro hu obs t ids hd ok c l ls id hg hO
        have hO' : (!setHas reg id && !Generated.Funcs.testSkipped re skipped id runOnly) = true := hO
        simp only [scan_cons, Scanner.bytes, getTestID_total, hg, hO', hu, Option.bind_some, Bool.not_true, Bool.false_eq_true,
          ↓reduceIte, removeSnapshot_eq]
      case hcoll =>
        intro obs t ids hd ok c l ls id hg hi
        unfold goObsolete at hi ⊢
        simp only [scan_cons, Scanner.bytes, getTestID_total, hg, Option.bind_some, Bool.not_true, Bool.false_eq_true,
          ↓reduceIte]
        rw [coll_loop id _ ?h1 ?h2 ?h3]
        · cases hO : (!setHas reg id && !Generated.Funcs.testSkipped re skipped id runOnly)
          · simp
          · simp [hi hO]
        case h1 => intro t d ok c; simp [scan_nil]
        case h2 => intro t d ok c ls; simp [scan_cons, endSeq, e]
        case h3 =>
          intro t d ok c l ls h
          have h' : ¬ (l = Generated.go_endSequence) := h
          simp [scan_cons, h', nl]

/-! ### the scanning state machine against the model's `exScan` -/

theorem testsSet_eq_smapSet (m : List (Text × Text)) (k v : Text) : testsSet m k v = smapSet m k v := by
  induction m with
  | nil => rfl
  | cons x m ih =>
    obtain ⟨k', v'⟩ := x
    simp only [testsSet, smapSet, ih]

theorem testsGet_eq (m : List (Text × Text)) (k : Text) :
    testsGet m k = if smapHas m k then some (smapGet m k) else none := by
  induction m with
  | nil => rfl
  | cons x m ih =>
    obtain ⟨k', v'⟩ := x
    by_cases h : k' = k
    · simp [testsGet, smapHas, smapGet, h]
    · have hh : smapHas ((k', v') :: m) k = smapHas m k := by simp [smapHas, h]
      simp only [testsGet, smapGet, h, ↓reduceIte, ih, hh]

theorem funcs_testSkipped_eq (re : Text → Text → Bool × Bool) (skipped : List Text) (testID runOnly : Text) :
    Generated.Funcs.testSkipped re skipped testID runOnly =
      (skipped.any (fun name => beforeSep testID Generated.skipSep = name ||
        hasPrefix (beforeSep testID Generated.skipSep) (name ++ [slash])) || !(re runOnly testID).1) := by
  have hsep : Generated.skipSep = [32, 45, 32] := by decide +kernel
  have hsl : slash = 47 := rfl
  have key := forIn_find_loop (fun name => beforeSep testID [32, 45, 32] == name || hasPrefix (beforeSep testID [32, 45, 32]) (name ++ [47])) skipped
  unfold Generated.Funcs.testSkipped
  simp [Id.run, pure, hsep, hsl, splitHead_eq_beforeSep] at key ⊢
  rw [key]
  split
  · rename_i hx
    have : (skipped.any fun name => decide (beforeSep testID [32, 45, 32] = name) ||
        hasPrefix (beforeSep testID [32, 45, 32]) (name ++ [47])) = true := by
      rw [List.any_eq_true]
      obtain ⟨x, hx1, hx2⟩ := hx
      exact ⟨x, hx1, by simpa using hx2⟩
    rw [this]; rfl
  · rename_i hx
    have : (skipped.any fun name => decide (beforeSep testID [32, 45, 32] = name) ||
        hasPrefix (beforeSep testID [32, 45, 32]) (name ++ [47])) = false := by
      rw [List.any_eq_false]
      intro x hx1
      cases h1 : (decide (beforeSep testID [32, 45, 32] = x) || hasPrefix (beforeSep testID [32, 45, 32]) (x ++ [47])) with
      | false => simp
      | true => exact absurd ⟨x, hx1, by simpa using h1⟩ hx
    rw [this]; rfl

/-- the answers the model's oracle table has for the pattern `runOnly` are the ones of the function
    standing for `regexp.MatchString` (for `runOnly = ""` the model answers "matched" without a
    table: the hypothesis then says that the empty pattern matches every string) -/
def OracleSound (o : Oracles) (re : Text → Text → Bool × Bool) (runOnly : Text) : Prop :=
  ∀ s b, o.reMatch runOnly s = some b → (re runOnly s).1 = b

theorem testSkipped_sound (o : Oracles) (re : Text → Text → Bool × Bool) (skipped : List Text) (testID runOnly : Text)
    (hs : OracleSound o re runOnly) (b : Bool) (h : GoSnaps.testSkipped o skipped testID runOnly = some b) :
    Generated.Funcs.testSkipped re skipped testID runOnly = b := by
  rw [funcs_testSkipped_eq]
  unfold GoSnaps.testSkipped at h
  simp only at h
  split at h
  · rename_i hl
    cases h
    simp only [Bool.or_eq_true] at hl ⊢
    rw [List.any_eq_true] at hl ⊢
    obtain ⟨x, hx, hx'⟩ := hl
    exact Or.inl ⟨x, hx, by simpa using hx'⟩
  · rename_i hl
    cases hm : o.reMatch runOnly testID with
    | none => rw [hm] at h; cases h
    | some m =>
      rw [hm] at h
      simp only [Option.map_some, Option.some.injEq] at h
      rw [hs _ _ hm, ← h]
      have : (skipped.any fun name => decide (beforeSep testID Generated.skipSep = name) ||
          hasPrefix (beforeSep testID Generated.skipSep) (name ++ [slash])) = false := by
        simpa using hl
      rw [this]; rfl

theorem contains_eq_of_mem_iff (l₁ l₂ : List Text) (p : Text) (h : p ∈ l₁ ↔ p ∈ l₂) : l₁.contains p = l₂.contains p := by
  by_cases h1 : p ∈ l₁
  · rw [List.contains_iff_mem.mpr h1, List.contains_iff_mem.mpr (h.mp h1)]
  · have h2 : p ∉ l₂ := fun e => h1 (h.mpr e)
    have e1 : l₁.contains p = false := by simpa using h1
    have e2 : l₂.contains p = false := by simpa using h2
    rw [e1, e2]

/-- if the oracle is sound and the model did not run into a missing oracle
    answer, the Go run (`goScan`, with the Go obsolescence test) computes the model's `exScan`.
    `reg` (the Go set) and `registered` (the model's list) need only have the same members. -/
theorem goScan_exScan (o : Oracles) (re : Text → Text → Bool × Bool) (registered : List Text) (reg : GoSet)
    (skipped : List Text) (runOnly : Text) (update : Bool) (hs : OracleSound o re runOnly)
    (hreg : ∀ x, x ∈ reg ↔ x ∈ registered) (ls : List Line) (mode : ScanMode) (st : ScanState)
    (hm : (exScan o registered skipped runOnly update ls mode st).missing = false) :
    (goScan (goObsolete re skipped runOnly reg) update ls mode st).1 =
      exScan o registered skipped runOnly update ls mode st := by
  induction ls generalizing mode st with
  | nil => cases mode <;> simp [goScan, exScan]
  | cons l ls ih =>
    cases mode with
    | skipping =>
      by_cases h : l = endSeq <;>
        (simp only [goScan, exScan, h, ↓reduceIte] at hm ⊢; exact ih _ _ hm)
    | collecting id d =>
      by_cases h : l = endSeq
      · simp only [goScan, exScan, h, ↓reduceIte, ← testsSet_eq_smapSet] at hm ⊢; exact ih _ _ hm
      · simp only [goScan, exScan, h, ↓reduceIte] at hm ⊢; exact ih _ _ hm
    | outer =>
      cases hg : GoSnaps.getTestID l with
      | none => simp only [goScan, exScan, hg] at hm ⊢; exact ih _ _ hm
      | some id =>
        have hc : setHas reg id = registered.contains id := contains_eq_of_mem_iff reg registered id (hreg id)
        simp only [goScan, exScan, hg] at hm ⊢
        cases hr : registered.contains id with
        | true =>
          have hO : goObsolete re skipped runOnly reg id = false := by simp only [goObsolete, hc, hr, Bool.not_true, Bool.false_and]
          simp only [hr, hO, ↓reduceIte, Bool.false_eq_true] at hm ⊢
          exact ih _ _ hm
        | false =>
          simp only [hr, Bool.false_eq_true, ↓reduceIte] at hm ⊢
          cases hts : GoSnaps.testSkipped o skipped id runOnly with
          | none => rw [hts] at hm; simp at hm
          | some b =>
            have hb := testSkipped_sound o re skipped id runOnly hs b hts
            have hO : goObsolete re skipped runOnly reg id = !b := by simp only [goObsolete, hc, hr, hb, Bool.not_false, Bool.true_and]
            rw [hts] at hm
            cases b with
            | true =>
              simp only [hO, Bool.not_true, Bool.false_eq_true, ↓reduceIte] at hm ⊢
              exact ih _ _ hm
            | false =>
              simp only [hO, Bool.not_false, ↓reduceIte] at hm ⊢
              exact ih _ _ hm

/-- if the oracle answers every query the scan asks (one per header line whose id is neither
    registered nor on the skip list), `missing` stays false -/
theorem exScan_not_missing (o : Oracles) (registered skipped : List Text) (runOnly : Text) (update : Bool)
    (ls : List Line) (hq : ∀ l ∈ ls, ∀ id, GoSnaps.getTestID l = some id → registered.contains id = false →
      ∃ b, GoSnaps.testSkipped o skipped id runOnly = some b)
    (mode : ScanMode) (st : ScanState) (h0 : st.missing = false) :
    (exScan o registered skipped runOnly update ls mode st).missing = false := by
  induction ls generalizing mode st with
  | nil => cases mode <;> simpa [exScan] using h0
  | cons l ls ih =>
    have ih' := fun m s hs => ih (fun l' hl' => hq l' (by simp [hl'])) m s hs
    cases mode with
    | skipping =>
      by_cases h : l = endSeq <;>
        (simp only [exScan, h, ↓reduceIte]; exact ih' _ _ h0)
    | collecting id d =>
      by_cases h : l = endSeq <;>
        (simp only [exScan, h, ↓reduceIte]; exact ih' _ _ h0)
    | outer =>
      cases hg : GoSnaps.getTestID l with
      | none => simp only [exScan, hg]; exact ih' _ _ h0
      | some id =>
        simp only [exScan, hg]
        cases hr : registered.contains id with
        | true => simp only [↓reduceIte]; exact ih' _ _ h0
        | false =>
          obtain ⟨b, hb⟩ := hq l (by simp) id hg hr
          simp only [Bool.false_eq_true, ↓reduceIte, hb]
          cases b <;> exact ih' _ _ h0

theorem getTestID_endSeq : GoSnaps.getTestID endSeq = none := by decide +kernel

/-- what is left in `data` when the scanner is exhausted: nothing if the last token is a terminator
    (every file written by go-snaps) … -/
theorem goScan_left_terminated (O : Text → Bool) (update : Bool) (ls : List Line) (mode : ScanMode) (st : ScanState)
    (h : ls.getLast? = some endSeq) : (goScan O update ls mode st).2 = [] := by
  induction ls generalizing mode st with
  | nil => simp at h
  | cons l ls ih =>
    cases ls with
    | nil =>
      have hl : l = endSeq := by simpa using h
      subst hl
      cases mode <;> simp [goScan, getTestID_endSeq]
    | cons l' ls' =>
      have h' : (l' :: ls').getLast? = some endSeq := by simpa [List.getLast?_cons_cons] using h
      generalize l' :: ls' = rest at h' ih ⊢
      cases mode with
      | skipping =>
        by_cases hl : l = endSeq <;>
          (simp only [goScan, hl, ↓reduceIte]; exact ih _ _ h')
      | collecting id d =>
        by_cases hl : l = endSeq <;>
          (simp only [goScan, hl, ↓reduceIte]; exact ih _ _ h')
      | outer =>
        cases hg : GoSnaps.getTestID l with
        | none => simp only [goScan, hg]; exact ih _ _ h'
        | some id =>
          simp only [goScan, hg]
          cases O id
          · simp only [Bool.false_eq_true, ↓reduceIte]; exact ih _ _ h'
          · simp only [↓reduceIte]; exact ih _ _ h'

/-- … and the lines of the unterminated entry when the file ends inside one that is being
    collected: header `[TestA - 1]`, body line `x`, no `---` -/
example : goScan (fun _ => false) true [[91,84,101,115,116,65,32,45,32,49,93], [120]] .outer {} =
    ({ testIDs := [[84,101,115,116,65,32,45,32,49]] }, [120, 10]) := by decide +kernel

/-- the nested scanner loops of `examineSnaps`, run on the tokens `ls` of
    one file from the accumulated state `(obsoleteTests, tests, data = [], testIDs, hasDiffs)`,
    compute exactly the components of the model's `exScan … ls .outer`, provided the oracle is sound
    and answers every query the scan asks; `missing` then stays false.  `F` is any loop body that
    behaves like the Go body on each kind of state (`examineSnaps_eq` discharges such
    characterisations for the generated body, in the merged form `scan_loop` takes); the fuel is the `Scanner.fuel` of the transliteration.  The third component is
    what stays in `data` (the lines of an entry without terminator at the end of the file, see
    `goScan_left_terminated`); the caller resets it before the next file (`fileRest`). -/
theorem scan_file_tied (o : Oracles) (re : Text → Text → Bool × Bool) (registered : List Text) (reg : GoSet)
    (skipped : List Text) (runOnly : Text) (update : Bool) (hs : OracleSound o re runOnly)
    (hreg : ∀ x, setHas reg x = registered.contains x)
    (F : Unit → SS → Option (ForInStep SS))
    (hnil : ∀ obs t d ids hd ok c, F () (obs, t, d, ids, hd, ({ ok := ok, cur := c, rest := [] } : Scanner)) =
      some (ForInStep.done (obs, t, d, ids, hd, ({ ok := false, cur := [], rest := [] } : Scanner))))
    (hline : ∀ obs t ids hd ok c l ls, GoSnaps.getTestID l = none →
      F () (obs, t, [], ids, hd, ({ ok := ok, cur := c, rest := l :: ls } : Scanner)) =
      some (ForInStep.yield (obs, t, [], ids, hd, ({ ok := true, cur := l, rest := ls } : Scanner))))
    (hkeep : ∀ obs t ids hd ok c l ls id, GoSnaps.getTestID l = some id → goObsolete re skipped runOnly reg id = false →
      F () (obs, t, [], ids, hd, ({ ok := ok, cur := c, rest := l :: ls } : Scanner)) =
      some (ForInStep.yield (obs, (collL id ls t []).1, (collL id ls t []).2.1, ids ++ [id], hd, (collL id ls t []).2.2)))
    (hdrop : update = true → ∀ obs t ids hd ok c l ls id, GoSnaps.getTestID l = some id →
      goObsolete re skipped runOnly reg id = true →
      F () (obs, t, [], ids, hd, ({ ok := ok, cur := c, rest := l :: ls } : Scanner)) =
      some (ForInStep.yield (obs ++ [id], t, [], ids ++ [id], true, skipL ls)))
    (hobs : update = false → ∀ obs t ids hd ok c l ls id, GoSnaps.getTestID l = some id →
      goObsolete re skipped runOnly reg id = true →
      F () (obs, t, [], ids, hd, ({ ok := ok, cur := c, rest := l :: ls } : Scanner)) =
      some (ForInStep.yield (obs ++ [id], (collL id ls t []).1, (collL id ls t []).2.1, ids ++ [id], true, (collL id ls t []).2.2)))
    (ls : List Line) (obs : List Text) (t : SMap) (ids : List Text) (hd ok : Bool) (c : Line)
    (hq : ∀ l ∈ ls, ∀ id, GoSnaps.getTestID l = some id → registered.contains id = false →
      ∃ b, GoSnaps.testSkipped o skipped id runOnly = some b) :
    (exScan o registered skipped runOnly update ls .outer
        { testIDs := ids, tests := t, obsolete := obs, hasDiffs := hd }).missing = false ∧
    forIn (Scanner.fuel { ok := ok, cur := c, rest := ls }) (obs, t, [], ids, hd, ({ ok := ok, cur := c, rest := ls } : Scanner)) F =
      some ((exScan o registered skipped runOnly update ls .outer
              { testIDs := ids, tests := t, obsolete := obs, hasDiffs := hd }).obsolete,
            (exScan o registered skipped runOnly update ls .outer
              { testIDs := ids, tests := t, obsolete := obs, hasDiffs := hd }).tests,
            (goScan (goObsolete re skipped runOnly reg) update ls .outer
              { testIDs := ids, tests := t, obsolete := obs, hasDiffs := hd }).2,
            (exScan o registered skipped runOnly update ls .outer
              { testIDs := ids, tests := t, obsolete := obs, hasDiffs := hd }).testIDs,
            (exScan o registered skipped runOnly update ls .outer
              { testIDs := ids, tests := t, obsolete := obs, hasDiffs := hd }).hasDiffs,
            { ok := false, cur := [], rest := [] }) := by
  have hm := exScan_not_missing o registered skipped runOnly update ls hq .outer
    { testIDs := ids, tests := t, obsolete := obs, hasDiffs := hd } rfl
  have hmem : ∀ x, x ∈ reg ↔ x ∈ registered := by
    intro x
    have := hreg x
    unfold setHas at this
    rw [← List.contains_iff_mem, ← List.contains_iff_mem, this]
  refine ⟨hm, ?_⟩
  have hcoll : ∀ obs t ids hd ok c l ls id, GoSnaps.getTestID l = some id →
      (goObsolete re skipped runOnly reg id = true → update = false) →
      F () (obs, t, [], ids, hd, ({ ok := ok, cur := c, rest := l :: ls } : Scanner)) =
      some (ForInStep.yield (if goObsolete re skipped runOnly reg id then obs ++ [id] else obs, (collL id ls t []).1,
        (collL id ls t []).2.1, ids ++ [id], hd || goObsolete re skipped runOnly reg id, (collL id ls t []).2.2)) := by
    intro obs t ids hd ok c l ls id hg hi
    cases hO : goObsolete re skipped runOnly reg id with
    | false => simpa using hkeep obs t ids hd ok c l ls id hg hO
    | true => simpa using hobs (hi hO) obs t ids hd ok c l ls id hg hO
  rw [Scanner.fuel, scan_loop (goObsolete re skipped runOnly reg) update F hnil hline hdrop hcoll _ ls obs t ids hd false
    ok c (Nat.lt_succ_self _)]
  rw [← goScan_exScan o re registered reg skipped runOnly update hs hmem ls .outer _ hm]
  rfl

/-! ### one file, then all files, under `IOFail.never` -/

/-- the model's view of `registry[p]`: the entries of `cleanup` for file `p` -/
def mineOf (cleanup : List (RegKey × Nat)) (p : Text) : List (Text × Nat) :=
  (cleanup.filter (·.1.1 = p)).map (fun (k, n) => (k.2, n))

/-- the correspondence needed between the Go registry `map[string]map[string]int` and the model's
    flat list, for file `p`: the inner map and the model's entries for `p` hold the same
    (test name, counter) pairs — in any order (Go ranges over the map in an unspecified order) -/
def RegCorr (registry : Map2) (cleanup : List (RegKey × Nat)) (p : Text) : Prop :=
  ∀ x, x ∈ map2Inner registry p ↔ x ∈ intImage (mineOf cleanup p)

/-- what `occurrences(registry[p], count, snapshotOccurrenceFMT)` returns has the members of the
    model's `registeredFor` -/
theorem registered_tied (registry : Map2) (cleanup : List (RegKey × Nat)) (p : Text) (cnt : Nat) (hc : cnt > 0)
    (h : RegCorr registry cleanup p) (registered : List Text) (hR : registeredFor cleanup p cnt = some registered) :
    ∃ reg, Generated.FuncsIO.occurrences (map2Inner registry p) (cnt : Int) (fun a b => some (snapshotOccurrenceFMT a b)) = some reg ∧
      ∀ x, x ∈ reg ↔ x ∈ registered := by
  obtain ⟨r2, hr2, _, hm2⟩ := occurrences_tied_gen (fun a b => some (snapshotOccurrenceFMT a b)) snapshotOccFmt
    (fun s i => snapshotOccurrenceFMT_tied s i) (mineOf cleanup p) cnt hc registered hR
  obtain ⟨r1, hr1, hm1⟩ := occurrences_congr_mem _ _ (cnt : Int) (by omega) _ h r2 hr2
  exact ⟨r1, hr1, fun x => (hm1 x).trans (hm2 x)⟩

def frameOf (tests : SMap) (id : Text) : Text :=
  if smapHas tests id then
    ([10, 91] : List UInt8) ++ id ++ ([93, 10] : List UInt8) ++ smapGet tests id ++ Generated.go_endSequence ++ ([10] : List UInt8)
  else []

theorem writeAt_end (old b : Text) : writeAt old old.length b = old ++ b := by
  simp [writeAt]

/-- the rewrite loop under `IOFail.never`: every `Fprintf` lands at the end of what was written so far -/
theorem wfold (fs : FS) (p : Text) (tests : SMap) (ids : List Text) (acc : Text) :
    (ids.foldl (wstep IOFail.never tests) (fsWrite fs p acc, { path := p, append := false, pos := acc.length })).1 =
      fsWrite fs p (acc ++ (ids.map (frameOf tests)).flatten) := by
  induction ids generalizing acc with
  | nil => simp
  | cons id ids ih =>
    rw [List.foldl_cons]
    cases hh : smapHas tests id with
    | false =>
      have : wstep IOFail.never tests (fsWrite fs p acc, { path := p, append := false, pos := acc.length }) id =
          (fsWrite fs p acc, { path := p, append := false, pos := acc.length }) := by simp [wstep, hh]
      rw [this, ih]
      simp [frameOf, hh]
    | true =>
      have : wstep IOFail.never tests (fsWrite fs p acc, { path := p, append := false, pos := acc.length }) id =
          (fsWrite fs p (acc ++ frameOf tests id), { path := p, append := false, pos := (acc ++ frameOf tests id).length }) := by
        simp only [wstep, hh, ↓reduceIte, fileWrite, IOFail.never, fileContent, C19.fsRead_fsWrite_same, Bool.false_eq_true,
          fsWrite_fsWrite, writeAt_end, frameOf]
        simp
      rw [this, ih]
      simp

theorem cleanFrame_bytes (id body : Text) :
    cleanFrame id body = some (([10, 91] : List UInt8) ++ id ++ ([93, 10] : List UInt8) ++ body ++ Generated.go_endSequence ++ ([10] : List UInt8)) := by
  have hp : parseFmt Generated.cleanFmt =
      some [.lit [nl, 91], .verb 115, .lit [93, nl], .verb 115, .verb 115, .lit [nl]] := by decide +kernel
  simp [cleanFrame, sprintf, hp, fmtPieces, fmtVerb, nl]

theorem rewriteFrames_frameOf (tests : List (Text × Text)) (ids : List Text) :
    (rewriteFrames tests ids).any (·.isNone) = false ∧
      ((rewriteFrames tests ids).filterMap (fun x => x)).flatten = (ids.map (frameOf tests)).flatten := by
  have h1 : rewriteFrames tests ids = ids.map (fun id => some (frameOf tests id)) := by
    unfold rewriteFrames
    apply List.map_congr_left
    intro id _
    rw [testsGet_eq]
    cases hh : smapHas tests id <;> simp [frameOf, hh, cleanFrame_bytes]
  rw [h1]
  constructor
  · simp
  · clear h1
    induction ids with
    | nil => rfl
    | cons id ids ih => simpa using ih

theorem goScan_obs (O : Text → Bool) (update : Bool) (obs : List Text) (ls : List Line) (mode : ScanMode) (st : ScanState) :
    goScan O update ls mode { st with obsolete := obs ++ st.obsolete } =
      ({ (goScan O update ls mode st).1 with obsolete := obs ++ (goScan O update ls mode st).1.obsolete },
        (goScan O update ls mode st).2) := by
  induction ls generalizing mode st with
  | nil => cases mode <;> simp [goScan]
  | cons l ls ih =>
    cases mode with
    | skipping =>
      by_cases h : l = endSeq <;>
        (simp only [goScan, h, ↓reduceIte]; exact ih _ _)
    | collecting id d =>
      by_cases h : l = endSeq
      · simp only [goScan, h, ↓reduceIte]; exact ih _ { st with tests := smapSet st.tests id d }
      · simp only [goScan, h, ↓reduceIte]; exact ih _ _
    | outer =>
      cases hg : GoSnaps.getTestID l with
      | none => simp only [goScan, hg]; exact ih _ _
      | some id =>
        simp only [goScan, hg]
        cases O id with
        | false =>
          simp only [Bool.false_eq_true, ↓reduceIte]
          exact ih _ { st with testIDs := st.testIDs ++ [id] }
        | true =>
          simp only [↓reduceIte, List.append_assoc]
          exact ih _ { st with testIDs := st.testIDs ++ [id], obsolete := st.obsolete ++ [id], hasDiffs := true }

/-- under `IOFail.never`, the loop body of the transliteration on a file that exists,
    with corresponding registries and a sound oracle that answered every query: the file is
    rewritten (or not) exactly as the model's step says, the obsolete ids are appended, and
    `tests`, `data`, `testIDs` are reset -/
theorem fileStep_tied (o : Oracles) (re : Text → Text → Bool × Bool) (skipped : List Text) (registry : Map2)
    (cleanup : List (RegKey × Nat)) (runOnly : Text) (cnt : Nat) (update sort : Bool) (p : Text) (fs : FS)
    (obs : List Text) (hc : cnt > 0) (hs : OracleSound o re runOnly) (hreg : RegCorr registry cleanup p)
    (content : Text) (hr : fsRead fs p = some content)
    (registered : List Text) (hR : registeredFor cleanup p cnt = some registered)
    (hm : (exScan o registered skipped runOnly update (scan content) .outer {}).missing = false) :
    fileStep IOFail.never re skipped registry runOnly (cnt : Int) update sort p fs obs =
      some (ForInStep.yield (none,
        (if (!(update && (exScan o registered skipped runOnly update (scan content) .outer {}).hasDiffs) &&
              !(sort && !isSortedNat (exScan o registered skipped runOnly update (scan content) .outer {}).testIDs)) = true
         then fs
         else fsWrite fs p ((rewriteFrames (exScan o registered skipped runOnly update (scan content) .outer {}).tests
            (if (sort && !isSortedNat (exScan o registered skipped runOnly update (scan content) .outer {}).testIDs) = true
             then sortNat (exScan o registered skipped runOnly update (scan content) .outer {}).testIDs
             else (exScan o registered skipped runOnly update (scan content) .outer {}).testIDs)).filterMap (fun x => x)).flatten),
        obs ++ (exScan o registered skipped runOnly update (scan content) .outer {}).obsolete, [], [], [])) := by
  obtain ⟨reg, hocc, hmem⟩ := registered_tied registry cleanup p cnt hc hreg registered hR
  have hopen : openRDWR IOFail.never fs p = ({ path := p }, Err.nil) := by simp [openRDWR, IOFail.never, hr]
  have hcont : fileContent fs { path := p } = content := by simp [fileContent, hr]
  have hgs := goScan_exScan o re registered reg skipped runOnly update hs hmem (scan content) .outer {} hm
  have hobs := goScan_obs (goObsolete re skipped runOnly reg) update obs (scan content) .outer {}
  have hst : ({ ({} : ScanState) with obsolete := obs ++ ({} : ScanState).obsolete } : ScanState) = { obsolete := obs } := by
    simp
  rw [hst] at hobs
  unfold fileStep
  rw [hopen, hocc]
  simp only [Err.notNil, Bool.false_eq_true, ↓reduceIte, Option.bind_some, hcont, hobs, fileRest, hgs,
    overwriteFile_tied, fileAtEnd]
  generalize exScan o registered skipped runOnly update (scan content) .outer {} = st
  have hw := fun ids => wfold fs p st.tests ids []
  simp only [List.nil_append] at hw
  split
  · rfl
  · simp only [hw, (rewriteFrames_frameOf st.tests _).2]

/-- the step used by `examineSnaps_tied`, for any accumulated
    state of the model's recursion -/
theorem goFiles_tied (o : Oracles) (re : Text → Text → Bool × Bool) (skipped : List Text) (registry : Map2)
    (cleanup : List (RegKey × Nat)) (runOnly : Text) (cnt : Nat) (update sort : Bool)
    (hc : cnt > 0) (hs : OracleSound o re runOnly) :
    ∀ (used : List Text) (fs : FS) (obs written obs' : List Text) (fs' : FS) (written' : List Text),
      (∀ p ∈ used, RegCorr registry cleanup p) →
      examineSnaps.go o cleanup skipped runOnly cnt update sort used fs obs written = .ok obs' fs' written' →
      goFiles (fileStep IOFail.never re skipped registry runOnly (cnt : Int) update sort) used fs obs =
        some (none, fs', obs', [], [], []) := by
  intro used
  induction used with
  | nil =>
    intro fs obs written obs' fs' written' _ h
    rw [examineSnaps_go_nil] at h
    cases h
    rfl
  | cons p rest ih =>
    intro fs obs written obs' fs' written' hreg h
    rw [examineSnaps_go_cons] at h
    cases hr : fsRead fs p with
    | none => rw [hr] at h; cases h
    | some content =>
      cases hR : registeredFor cleanup p cnt with
      | none => rw [hr, hR] at h; cases h
      | some registered =>
        have hp := any_getTestIDPanics (scan content)
        rw [hr, hR] at h
        simp only [hp, Bool.false_eq_true, ↓reduceIte] at h
        cases hm : (exScan o registered skipped runOnly update (scan content) .outer {}).missing with
        | true => rw [hm] at h; simp at h
        | false =>
          rw [hm] at h
          simp only [Bool.false_eq_true, ↓reduceIte] at h
          rw [goFiles, fileStep_tied o re skipped registry cleanup runOnly cnt update sort p fs obs hc hs
            (hreg p (by simp)) content hr registered hR hm]
          simp only
          have hreg' : ∀ q ∈ rest, RegCorr registry cleanup q := fun q hq => hreg q (by simp [hq])
          generalize exScan o registered skipped runOnly update (scan content) .outer {} = st at h ⊢
          have hfr := fun ids => (rewriteFrames_frameOf st.tests ids).1
          cases hS : (sort && !isSortedNat st.testIDs) <;> cases hU : (update && st.hasDiffs) <;>
            simp only [hS, hU, hfr, Bool.not_true, Bool.not_false, Bool.and_true, Bool.and_false, Bool.false_eq_true,
              Bool.true_and, Bool.false_and, ↓reduceIte] at h ⊢
          · exact ih _ _ _ _ _ _ hreg' h
          · exact ih _ _ _ _ _ _ hreg' h
          · split at h
            · cases h
            · exact ih _ _ _ _ _ _ hreg' h
          · split at h
            · cases h
            · exact ih _ _ _ _ _ _ hreg' h

/-- `examineSnaps` under `IOFail.never`: whenever the model accepts the input (outcome
    `.ok`; in particular every used file exists and the oracle answered every query), the oracle is
    sound, `count > 0` and the registries correspond on the used files, the transliterated Go
    function returns the model's obsolete ids with a nil error and leaves the model's file system. -/
theorem examineSnaps_tied (o : Oracles) (re : Text → Text → Bool × Bool) (fs : FS) (skipped : List Text)
    (registry : Map2) (cleanup : List (RegKey × Nat)) (used : List Text) (runOnly : Text) (cnt : Nat)
    (update sort : Bool) (hc : cnt > 0) (hs : OracleSound o re runOnly)
    (hreg : ∀ p ∈ used, RegCorr registry cleanup p)
    (obs : List Text) (fs' : FS) (written : List Text)
    (h : GoSnaps.examineSnaps o fs cleanup skipped used runOnly cnt update sort = .ok obs fs' written) :
    Generated.FuncsIO.examineSnaps IOFail.never fs re skipped registry used runOnly (cnt : Int) update sort =
      some (fs', obs, Err.nil) := by
  rw [examineSnaps_eq, goFiles_tied o re skipped registry cleanup runOnly cnt update sort hc hs used fs [] [] obs fs'
    written hreg h]
  rfl

/-! ### failure branches, for every oracle -/

/-- if opening the first used file fails (permission, I/O error, or the file vanished since
    `examineFiles` listed it), the error is returned, no obsolete id is reported and the file
    system is unchanged -/
theorem examineSnaps_open_error (io : IOFail) (fs : FS) (re : Text → Text → Bool × Bool) (skipped : List Text)
    (registry : Map2) (p : Text) (rest : List Text) (runOnly : Text) (count : Int) (update sort : Bool)
    (h : (openRDWR io fs p).2.notNil = true) :
    Generated.FuncsIO.examineSnaps io fs re skipped registry (p :: rest) runOnly count update sort =
      some (fs, [], (openRDWR io fs p).2) := by
  rw [examineSnaps_eq, goFiles, fileStep, if_pos h]
  rfl

theorem examineSnaps_missing_file (io : IOFail) (fs : FS) (re : Text → Text → Bool × Bool) (skipped : List Text)
    (registry : Map2) (p : Text) (rest : List Text) (runOnly : Text) (count : Int) (update sort : Bool)
    (h : fsRead fs p = none) :
    ∃ err, err.notNil = true ∧
      Generated.FuncsIO.examineSnaps io fs re skipped registry (p :: rest) runOnly count update sort = some (fs, [], err) := by
  have hn : (openRDWR io fs p).2.notNil = true := by
    unfold openRDWR; cases io .openRDWR p <;> simp [h, Err.notNil]
  exact ⟨_, hn, examineSnaps_open_error io fs re skipped registry p rest runOnly count update sort hn⟩

/-- `count = 0` with a non-empty registry entry for the first used file: the Go code panics
    (integer divide by zero) after having opened the file -/
theorem examineSnaps_count_zero (io : IOFail) (fs : FS) (re : Text → Text → Bool × Bool) (skipped : List Text)
    (registry : Map2) (p : Text) (rest : List Text) (runOnly : Text) (update sort : Bool)
    (h : (openRDWR io fs p).2.notNil = false) (hne : map2Inner registry p ≠ []) :
    Generated.FuncsIO.examineSnaps io fs re skipped registry (p :: rest) runOnly 0 update sort = none := by
  rw [examineSnaps_eq, goFiles, fileStep, h, occurrences_count_zero _ _ hne]
  rfl

theorem openRDWR_path (io : IOFail) (fs : FS) (p : Text) : (openRDWR io fs p).1.path = p := by
  unfold openRDWR
  cases io .openRDWR p <;> cases fsRead fs p <;> rfl

/-- a failing `Write` on the first used file when it has to be rewritten (an obsolete entry under
    `UPDATE_SNAPS=clean`, or entries out of order under `Sort`): `overwriteFile` has already
    truncated the file, so ALL its entries are lost, kept ones included; the error is returned and
    the obsolete ids found so far are not reported -/
theorem examineSnaps_write_error (io : IOFail) (fs : FS) (re : Text → Text → Bool × Bool) (skipped : List Text)
    (registry : Map2) (p : Text) (rest : List Text) (runOnly : Text) (count : Int) (update sort : Bool)
    (hopen : (openRDWR io fs p).2.notNil = false) (reg : GoSet)
    (hocc : Generated.FuncsIO.occurrences (map2Inner registry p) count (fun a b => some (snapshotOccurrenceFMT a b)) = some reg)
    (hneed : (!(update && (goScan (goObsolete re skipped runOnly reg) update
                (scan (fileContent fs (openRDWR io fs p).1)) .outer {}).1.hasDiffs) &&
              !(sort && !isSortedNat (goScan (goObsolete re skipped runOnly reg) update
                (scan (fileContent fs (openRDWR io fs p).1)) .outer {}).1.testIDs)) = false)
    (m : Text) (hw : io .write p = some m) :
    Generated.FuncsIO.examineSnaps io fs re skipped registry (p :: rest) runOnly count update sort =
      some (fsWrite fs p [], [], Err.other m) := by
  have hpath : (fileAtEnd fs (openRDWR io fs p).1).path = p := openRDWR_path io fs p
  rw [examineSnaps_eq, goFiles, fileStep, hopen, hocc]
  simp only [Bool.false_eq_true, ↓reduceIte, Option.bind_some, fileRest, hneed, overwriteFile_eq, hpath, hw, Err.notNil]
  rfl

/-! ### one file under `IOFail.never`, in the model's terms -/

/-- `examineSnaps` on `used = [p]`
    under `IOFail.never` in terms of the model's `exScan`, `rewriteFrames`, `isSortedNat`/`sortNat`
    (the transliteration sorts with `sortNat` whether or not the natural order is total on the ids) -/
theorem examineSnaps_file_tied (o : Oracles) (re : Text → Text → Bool × Bool) (skipped : List Text) (registry : Map2)
    (cleanup : List (RegKey × Nat)) (runOnly : Text) (cnt : Nat) (update sort : Bool) (p : Text) (fs : FS)
    (hc : cnt > 0) (hs : OracleSound o re runOnly) (hreg : RegCorr registry cleanup p)
    (content : Text) (hr : fsRead fs p = some content)
    (registered : List Text) (hR : registeredFor cleanup p cnt = some registered)
    (hm : (exScan o registered skipped runOnly update (scan content) .outer {}).missing = false) :
    Generated.FuncsIO.examineSnaps IOFail.never fs re skipped registry [p] runOnly (cnt : Int) update sort =
      some (
        (if (!(update && (exScan o registered skipped runOnly update (scan content) .outer {}).hasDiffs) &&
              !(sort && !isSortedNat (exScan o registered skipped runOnly update (scan content) .outer {}).testIDs)) = true
         then fs
         else fsWrite fs p ((rewriteFrames (exScan o registered skipped runOnly update (scan content) .outer {}).tests
            (if (sort && !isSortedNat (exScan o registered skipped runOnly update (scan content) .outer {}).testIDs) = true
             then sortNat (exScan o registered skipped runOnly update (scan content) .outer {}).testIDs
             else (exScan o registered skipped runOnly update (scan content) .outer {}).testIDs)).filterMap (fun x => x)).flatten),
        (exScan o registered skipped runOnly update (scan content) .outer {}).obsolete, Err.nil) := by
  rw [examineSnaps_eq, goFiles, fileStep_tied o re skipped registry cleanup runOnly cnt update sort p fs [] hc hs hreg content hr
    registered hR hm]
  simp [goFiles, finish]

/-! ### the theorems on a concrete input -/

def cPath : Text := [112]
/-- two entries, ids `TestA - 1`, `TestB - 1`, bodies `x`, `y` -/
def cFile : Text :=
  [10, 91,84,101,115,116,65,32,45,32,49,93, 10, 120, 10, 45,45,45, 10,
   10, 91,84,101,115,116,66,32,45,32,49,93, 10, 121, 10, 45,45,45, 10]
/-- the same entries, `TestB` first -/
def cFileBA : Text :=
  [10, 91,84,101,115,116,66,32,45,32,49,93, 10, 121, 10, 45,45,45, 10,
   10, 91,84,101,115,116,65,32,45,32,49,93, 10, 120, 10, 45,45,45, 10]
def cFileA : Text := [10, 91,84,101,115,116,65,32,45,32,49,93, 10, 120, 10, 45,45,45, 10]
def cFS : FS := [([113], [1]), (cPath, cFile)]
/-- only `TestA` called `MatchSnapshot` (once) in this run: `TestB - 1` is obsolete -/
def cRegistry : Map2 := [(cPath, [([84,101,115,116,65], 1)])]
def cCleanup : List (RegKey × Nat) := [((cPath, [84,101,115,116,65]), 1)]
/-- both tests ran -/
def cRegistry2 : Map2 := [(cPath, [([84,101,115,116,65], 1), ([84,101,115,116,66], 1)])]
def cCleanup2 : List (RegKey × Nat) := [((cPath, [84,101,115,116,66]), 1), ((cPath, [84,101,115,116,65]), 1)]
/-- no `-run` flag: the empty pattern matches everything -/
def cRe : Text → Text → Bool × Bool := fun _ _ => (true, false)

theorem cSound : OracleSound {} cRe [] := by
  intro s b h
  simp only [Oracles.reMatch, ↓reduceIte, Option.some.injEq] at h
  rw [← h]; rfl

theorem cCorr : ∀ p ∈ [cPath], RegCorr cRegistry cCleanup p := by
  intro p hp
  have : p = cPath := by simpa using hp
  subst this
  intro x
  have : map2Inner cRegistry cPath = intImage (mineOf cCleanup cPath) := by decide +kernel
  rw [this]

theorem cCorr2 : ∀ p ∈ [cPath], RegCorr cRegistry2 cCleanup2 p := by
  intro p hp
  have : p = cPath := by simpa using hp
  subst this
  intro x
  have e1 : map2Inner cRegistry2 cPath = [([84,101,115,116,65], 1), ([84,101,115,116,66], 1)] := by decide +kernel
  have e2 : intImage (mineOf cCleanup2 cPath) = [([84,101,115,116,66], 1), ([84,101,115,116,65], 1)] := by decide +kernel
  rw [e1, e2]
  simp only [List.mem_cons, List.not_mem_nil, or_false]
  exact Or.comm

/-- `UPDATE_SNAPS=clean`: the obsolete entry is reported and removed, the other file is untouched -/
example : Generated.FuncsIO.examineSnaps IOFail.never cFS cRe [] cRegistry [cPath] [] ((1 : Nat) : Int) true false =
    some ([([113], [1]), (cPath, cFileA)], [[84,101,115,116,66,32,45,32,49]], Err.nil) :=
  examineSnaps_tied {} cRe cFS [] cRegistry cCleanup [cPath] [] 1 true false (by decide) cSound cCorr _ _ [cPath] rfl
/-- the same by evaluating the transliteration -/
example : Generated.FuncsIO.examineSnaps IOFail.never cFS cRe [] cRegistry [cPath] [] 1 true false =
    some ([([113], [1]), (cPath, cFileA)], [[84,101,115,116,66,32,45,32,49]], Err.nil) := by decide +kernel
/-- without `clean` the obsolete entry is reported and the file system stays as it is -/
example : Generated.FuncsIO.examineSnaps IOFail.never cFS cRe [] cRegistry [cPath] [] ((1 : Nat) : Int) false false =
    some (cFS, [[84,101,115,116,66,32,45,32,49]], Err.nil) :=
  examineSnaps_tied {} cRe cFS [] cRegistry cCleanup [cPath] [] 1 false false (by decide) cSound cCorr _ _ [] rfl
example : Generated.FuncsIO.examineSnaps IOFail.never cFS cRe [] cRegistry [cPath] [] 1 false false =
    some (cFS, [[84,101,115,116,66,32,45,32,49]], Err.nil) := by decide +kernel
/-- `CleanOpts{Sort: true}` on a file whose entries are out of order (the Go map `registry[p]` and
    the model's list enumerate the two tests in different orders: `RegCorr` only asks for the same
    members): nothing is obsolete, the file is rewritten in natural order -/
example : Generated.FuncsIO.examineSnaps IOFail.never [(cPath, cFileBA)] cRe [] cRegistry2 [cPath] [] ((1 : Nat) : Int) false true =
    some ([(cPath, cFile)], [], Err.nil) :=
  examineSnaps_tied {} cRe [(cPath, cFileBA)] [] cRegistry2 cCleanup2 [cPath] [] 1 false true (by decide) cSound cCorr2 _ _
    [cPath] rfl
example : Generated.FuncsIO.examineSnaps IOFail.never [(cPath, cFileBA)] cRe [] cRegistry2 [cPath] [] 1 false true =
    some ([(cPath, cFile)], [], Err.nil) := by decide +kernel
/-- a file that ends inside an entry (`TestA - 1`, registered, body `x`, no terminator): the entry is
    listed in `testIDs` but never stored in `tests`, so the rewrite triggered by the removal of the
    obsolete `TestB - 1` drops it — the Go code loses a registered snapshot of a truncated file -/
example : Generated.FuncsIO.examineSnaps IOFail.never
      [(cPath, [10, 91,84,101,115,116,66,32,45,32,49,93, 10, 121, 10, 45,45,45, 10,
                10, 91,84,101,115,116,65,32,45,32,49,93, 10, 120, 10])]
      cRe [] cRegistry [cPath] [] 1 true false =
    some ([(cPath, [])], [[84,101,115,116,66,32,45,32,49]], Err.nil) := by decide +kernel
/-- the used file does not exist -/
example : ∃ err, err.notNil = true ∧
    Generated.FuncsIO.examineSnaps IOFail.never [([113], [1])] cRe [] cRegistry [cPath] [] 1 true false =
      some ([([113], [1])], [], err) :=
  examineSnaps_missing_file _ _ _ _ _ _ _ _ _ _ _ (by decide)
/-- opening fails for another reason; a second used file is not looked at -/
example : Generated.FuncsIO.examineSnaps (fun op _ => if op = .openRDWR then some [33] else none) cFS cRe [] cRegistry
      [cPath, [113]] [] 1 true false = some (cFS, [], Err.other [33]) := by
  rw [examineSnaps_open_error _ _ _ _ _ _ _ _ _ _ _ (by decide)]; decide
/-- a failing write: `overwriteFile` has already truncated the file, the error is returned and
    ALL entries of the file are lost (kept ones included) -/
example : Generated.FuncsIO.examineSnaps exIOW cFS cRe [] cRegistry [cPath] [] 1 true false =
    some ([([113], [1]), (cPath, [])], [], Err.other [33]) := by decide +kernel
example : Generated.FuncsIO.examineSnaps exIOW cFS cRe [] cRegistry [cPath] [] 1 true false =
    some ([([113], [1]), (cPath, [])], [], Err.other [33]) := by
  rw [examineSnaps_write_error exIOW cFS cRe [] cRegistry cPath [] [] 1 true false (by decide)
    [[84,101,115,116,65,32,45,32,49]] (by decide) (by decide) [33] (by decide)]
  decide +kernel
/-- `count = 0` -/
example : Generated.FuncsIO.examineSnaps IOFail.never cFS cRe [] cRegistry [cPath] [] 0 true false = none :=
  examineSnaps_count_zero _ _ _ _ _ _ _ _ _ _ (by decide) (by decide)

end GoSnaps.Tie
