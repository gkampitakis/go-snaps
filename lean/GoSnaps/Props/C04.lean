/-
C04 — update mode rewrites only what differs; adding never disturbs existing entries.

All theorems are about the executable model definitions `update`/`updateL`, `getPrev`, `render`,
`frameFmt` of Format.lean (`updateSnapshot`, `getPrevSnapshot`, `addNewSnapshot` of
snaps/snapshot.go).

Byte-list legend for the examples:  `[91,65,93]` = "[A]", `[91,66,93]` = "[B]",
`[91,67,93]` = "[C]", `[45,45,45]` = "---", `120`/`121`/`122` = 'x'/'y'/'z', `10` = "\n",
`13` = "\r".
-/
import GoSnaps.Lemmas.Update
namespace GoSnaps.C04

open GoSnaps GoSnaps.C01

/-- The header of `e` occurs as a line of the file `pre ++ e :: post` only as `e`'s own header
line.  (Occurrences of the header *inside `e`'s own old body* are harmless for `update`: that
body is dropped in `removeSnapshot` mode without being compared with the header, so the clause
`e.id ∉ lines e.body` is not needed and is not part of the predicate.) -/
def HeaderUnique (pre : List Entry) (e : Entry) (post : List Entry) : Prop :=
  e.id ∉ fileLines pre ∧ e.id ∉ fileLines post

instance (pre : List Entry) (e : Entry) (post : List Entry) : Decidable (HeaderUnique pre e post) := by
  unfold HeaderUnique; infer_instance

/-- **Update rewrites exactly one entry.**  For a well-formed file `pre ++ e :: post` whose
entry `e` has a non-empty header, an escaped old body, and a header that occurs nowhere else as
a line of the file, updating with ANY new body `b'` yields byte-for-byte the file in which
only `e`'s body was replaced.  Every hypothesis is necessary (counterexamples below):

* `hwf.noCR`  – `update` re-emits *scanned* lines, and `bufio.ScanLines` strips a trailing "\r";
* `hwf.idNoNL` – a header containing "\n" is never equal to a scanned line, nothing is replaced;
* `hne`      – every frame starts with an empty line, which an empty header would match;
* `hesc`     – only the old body lines up to the first terminator line are dropped;
* `hu.1`     – an earlier line equal to the header is taken for the header (defect D9);
* `hu.2`     – after the replacement copying resumes and a later equal line is replaced again.

Only the body of `e` has to be `Escaped`; other bodies are copied line by line whatever they
contain.  The new body `b'` is unconstrained. -/
theorem update_render (pre : List Entry) (e : Entry) (post : List Entry) (b' : Text)
    (hwf : WF (pre ++ e :: post)) (hne : e.id ≠ []) (hesc : Escaped e.body)
    (hu : HeaderUnique pre e post) :
    update e.id b' (render (pre ++ e :: post)) = render (pre ++ ⟨e.id, b'⟩ :: post) := by
  unfold update
  rw [C01.scan_render _ hwf]
  exact updateL_fileLines pre e post b' hne hesc hu.1 hu.2

/-- non-vacuity: three entries, the middle one (whose old body even contains its own header
    and a blank line) is updated to a two-line body -/
example :
    let pre : List Entry := [⟨[91, 65, 93], [120, 10, 121]⟩]
    let e : Entry := ⟨[91, 66, 93], [121, 10, 10, 91, 66, 93]⟩
    let post : List Entry := [⟨[91, 67, 93], [122]⟩]
    (WF (pre ++ e :: post) ∧ e.id ≠ [] ∧ Escaped e.body ∧ HeaderUnique pre e post) ∧
    update e.id [110, 10, 119] (render (pre ++ e :: post)) =
      render (pre ++ ⟨e.id, [110, 10, 119]⟩ :: post) :=
  ⟨⟨⟨by decide +kernel, by decide +kernel⟩, by decide +kernel⟩, by decide +kernel⟩

/-- **D9** (`hu.1` dropped): a body line of an EARLIER entry equal to the header of `e` makes
    the equation false — the earlier entry's body is cut and overwritten instead. -/
example :
    let pre : List Entry := [⟨[91, 65, 93], [91, 66, 93, 10, 120]⟩]   -- body of [A] is "[B]\nx"
    let e : Entry := ⟨[91, 66, 93], [121]⟩
    (WF (pre ++ [e]) ∧ e.id ≠ [] ∧ Escaped e.body ∧ e.id ∉ fileLines ([] : List Entry)) ∧
    update e.id [122] (render (pre ++ [e])) ≠ render (pre ++ [⟨e.id, [122]⟩]) :=
  ⟨⟨⟨by decide +kernel, by decide +kernel⟩, by decide +kernel⟩, by decide +kernel⟩

/-- `hu.2` dropped: a body line of a LATER entry equal to the header is replaced a second time. -/
example :
    let e : Entry := ⟨[91, 66, 93], [121]⟩
    let post : List Entry := [⟨[91, 67, 93], [91, 66, 93, 10, 120]⟩]
    (WF (e :: post) ∧ e.id ≠ [] ∧ Escaped e.body ∧ e.id ∉ fileLines ([] : List Entry)) ∧
    update e.id [122] (render (e :: post)) ≠ render (⟨e.id, [122]⟩ :: post) :=
  ⟨⟨⟨by decide +kernel, by decide +kernel⟩, by decide +kernel⟩, by decide +kernel⟩

/-- `hne` dropped: the empty header matches the blank line that starts every frame. -/
example :
    let e : Entry := ⟨[], [121]⟩
    (WF [e] ∧ Escaped e.body ∧ HeaderUnique [] e []) ∧
    update e.id [122] (render [e]) ≠ render [⟨e.id, [122]⟩] :=
  ⟨⟨⟨by decide +kernel, by decide +kernel⟩, by decide +kernel⟩, by decide +kernel⟩

/-- `hesc` dropped: the part of an unescaped old body after its first "---" line survives. -/
example :
    let e : Entry := ⟨[91, 66, 93], [121, 10, 45, 45, 45, 10, 122]⟩   -- "y\n---\nz"
    (∀ x ∈ [e], NoNL x.id) ∧ (∀ l ∈ fileLines [e], NoCRLine l) ∧ e.id ≠ [] ∧ HeaderUnique [] e [] ∧
    update e.id [120] (render [e]) ≠ render [⟨e.id, [120]⟩] := by decide +kernel

/-- `hwf.noCR` dropped: a "\r" at the end of a line of ANOTHER entry is lost by the rewrite. -/
example :
    let pre : List Entry := [⟨[91, 65, 93], [120, 13]⟩]                -- body "x\r"
    let e : Entry := ⟨[91, 66, 93], [121]⟩
    (∀ x ∈ pre ++ [e], NoNL x.id) ∧ e.id ≠ [] ∧ Escaped e.body ∧ HeaderUnique pre e [] ∧
    update e.id [122] (render (pre ++ [e])) ≠ render (pre ++ [⟨e.id, [122]⟩]) := by decide +kernel

/-- `hwf.idNoNL` dropped: a header with an embedded newline is never found, nothing changes. -/
example :
    let e : Entry := ⟨[91, 10, 93], [121]⟩
    (∀ l ∈ fileLines [e], NoCRLine l) ∧ e.id ≠ [] ∧ Escaped e.body ∧ HeaderUnique [] e [] ∧
    update e.id [122] (render [e]) ≠ render [⟨e.id, [122]⟩] := by decide +kernel

/-- no residue of the old body: the result is a function of the other entries and `b'` alone -/
theorem update_no_residue (pre post : List Entry) (id : Line) (b₁ b₂ b' : Text)
    (hwf₁ : WF (pre ++ ⟨id, b₁⟩ :: post)) (hwf₂ : WF (pre ++ ⟨id, b₂⟩ :: post))
    (hne : id ≠ []) (hesc₁ : Escaped b₁) (hesc₂ : Escaped b₂)
    (hpre : id ∉ fileLines pre) (hpost : id ∉ fileLines post) :
    update id b' (render (pre ++ ⟨id, b₁⟩ :: post)) =
      update id b' (render (pre ++ ⟨id, b₂⟩ :: post)) := by
  rw [update_render pre ⟨id, b₁⟩ post b' hwf₁ hne hesc₁ ⟨hpre, hpost⟩,
    update_render pre ⟨id, b₂⟩ post b' hwf₂ hne hesc₂ ⟨hpre, hpost⟩]

example :
    let pre : List Entry := [⟨[91, 65, 93], [120]⟩]
    let post : List Entry := [⟨[91, 67, 93], [122]⟩]
    update [91, 66, 93] [110] (render (pre ++ ⟨[91, 66, 93], [121, 10, 121, 10]⟩ :: post)) =
      update [91, 66, 93] [110] (render (pre ++ ⟨[91, 66, 93], []⟩ :: post)) := by decide +kernel

/-- The lookups below are instances: `o` is ANY entry of the updated list (another entry, or the
updated one) not shadowed in the NEW file.  `NoCRBody b'` is needed because the new body is read
back through `bufio.ScanLines`. -/
theorem update_lookup (pre : List Entry) (e : Entry) (post : List Entry) (b' : Text)
    (hwf : WF (pre ++ e :: post)) (hne : e.id ≠ []) (hesc : Escaped e.body)
    (hu : HeaderUnique pre e post) (hcr : NoCRBody b')
    (pre' : List Entry) (o : Entry) (post' : List Entry)
    (hsplit : pre ++ ⟨e.id, b'⟩ :: post = pre' ++ o :: post')
    (hone : o.id ≠ []) (hoesc : Escaped o.body) (hoshadow : o.id ∉ fileLines pre') :
    getPrev o.id (update e.id b' (render (pre ++ e :: post))) =
      some (o.body, (fileLines pre').length + 2) := by
  rw [update_render pre e post b' hwf hne hesc hu, hsplit]
  exact getPrev_render pre' o post' (hsplit ▸ WF_replace b' hwf hcr) hone hoesc hoshadow

theorem update_other_lookup_before (p₁ : List Entry) (o : Entry) (p₂ : List Entry) (e : Entry)
    (post : List Entry) (b' : Text)
    (hwf : WF ((p₁ ++ o :: p₂) ++ e :: post)) (hne : e.id ≠ []) (hesc : Escaped e.body)
    (hu : HeaderUnique (p₁ ++ o :: p₂) e post) (hcr : NoCRBody b')
    (hone : o.id ≠ []) (hoesc : Escaped o.body) (hoshadow : o.id ∉ fileLines p₁) :
    getPrev o.id (update e.id b' (render ((p₁ ++ o :: p₂) ++ e :: post))) =
        some (o.body, (fileLines p₁).length + 2) ∧
    getPrev o.id (render ((p₁ ++ o :: p₂) ++ e :: post)) =
        some (o.body, (fileLines p₁).length + 2) := by
  constructor
  · exact update_lookup _ e post b' hwf hne hesc hu hcr p₁ o (p₂ ++ ⟨e.id, b'⟩ :: post)
      (by simp) hone hoesc hoshadow
  · rw [List.append_assoc] at hwf ⊢
    exact getPrev_render p₁ o _ hwf hone hoesc hoshadow

/-- The header of `o` must not be shadowed in the NEW file: not in `pre`, not the header of `e`,
not a line of the new body `b'`, not the terminator, and not in the entries between `e` and `o`. -/
theorem update_other_lookup (pre : List Entry) (e : Entry) (q₁ : List Entry) (o : Entry)
    (q₂ : List Entry) (b' : Text)
    (hwf : WF (pre ++ e :: (q₁ ++ o :: q₂))) (hne : e.id ≠ []) (hesc : Escaped e.body)
    (hu : HeaderUnique pre e (q₁ ++ o :: q₂)) (hcr : NoCRBody b')
    (hone : o.id ≠ []) (hoesc : Escaped o.body)
    (hopre : o.id ∉ fileLines pre) (hoe : o.id ≠ e.id) (hob' : o.id ∉ lines b')
    (hoend : o.id ≠ endSeq) (hoq : o.id ∉ fileLines q₁) :
    getPrev o.id (update e.id b' (render (pre ++ e :: (q₁ ++ o :: q₂)))) =
      some (o.body, (fileLines pre).length + ((lines b').length + 3) + (fileLines q₁).length + 2) := by
  rw [← length_fileLines_split pre ⟨e.id, b'⟩ q₁]
  exact update_lookup pre e (q₁ ++ o :: q₂) b' hwf hne hesc hu hcr
    (pre ++ ⟨e.id, b'⟩ :: q₁) o q₂ (List.append_assoc pre (_ :: q₁) _).symm hone hoesc
    (not_mem_fileLines_split hopre hone hoe hob' hoend hoq)

/-- `hob`: `o` is found in the OLD file as well -/
theorem update_other_lookup_shift (pre : List Entry) (e : Entry) (q₁ : List Entry) (o : Entry)
    (q₂ : List Entry) (b' : Text)
    (hwf : WF (pre ++ e :: (q₁ ++ o :: q₂))) (hne : e.id ≠ []) (hesc : Escaped e.body)
    (hu : HeaderUnique pre e (q₁ ++ o :: q₂)) (hcr : NoCRBody b')
    (hone : o.id ≠ []) (hoesc : Escaped o.body)
    (hopre : o.id ∉ fileLines pre) (hoe : o.id ≠ e.id) (hob' : o.id ∉ lines b')
    (hob : o.id ∉ lines e.body)
    (hoend : o.id ≠ endSeq) (hoq : o.id ∉ fileLines q₁) :
    ∃ n n' : Nat,
      getPrev o.id (render (pre ++ e :: (q₁ ++ o :: q₂))) = some (o.body, n) ∧
      getPrev o.id (update e.id b' (render (pre ++ e :: (q₁ ++ o :: q₂)))) = some (o.body, n') ∧
      n' + (lines e.body).length = n + (lines b').length := by
  refine ⟨(fileLines (pre ++ e :: q₁)).length + 2, _, ?_,
    update_other_lookup pre e q₁ o q₂ b' hwf hne hesc hu hcr hone hoesc hopre hoe hob' hoend hoq, ?_⟩
  · have : pre ++ e :: (q₁ ++ o :: q₂) = (pre ++ e :: q₁) ++ o :: q₂ :=
      (List.append_assoc pre (_ :: q₁) _).symm
    rw [this] at hwf ⊢
    exact getPrev_render _ o q₂ hwf hone hoesc
      (not_mem_fileLines_split hopre hone hoe hob hoend hoq)
  · rw [length_fileLines_split]; omega

/-- non-vacuity: "[C]" after the updated "[B]" (1-line body → 3-line body) moves from line 10 to 12 -/
example :
    let pre : List Entry := [⟨[91, 65, 93], [120]⟩]
    let e : Entry := ⟨[91, 66, 93], [121]⟩
    let o : Entry := ⟨[91, 67, 93], [122, 10, 122]⟩
    let file := render (pre ++ e :: ([] ++ o :: []))
    getPrev o.id file = some (o.body, 10) ∧
    getPrev o.id (update e.id [110, 10, 10, 119] file) = some (o.body, 12) := by decide +kernel

/-- `hesc'` holds for what every taker stores (`escape v`, `C01.stored_is_escaped`) -/
theorem update_self_lookup (pre : List Entry) (e : Entry) (post : List Entry) (b' : Text)
    (hwf : WF (pre ++ e :: post)) (hne : e.id ≠ []) (hesc : Escaped e.body)
    (hu : HeaderUnique pre e post) (hcr : NoCRBody b') (hesc' : Escaped b') :
    getPrev e.id (update e.id b' (render (pre ++ e :: post))) =
      some (b', (fileLines pre).length + 2) :=
  update_lookup pre e post b' hwf hne hesc hu hcr pre ⟨e.id, b'⟩ post rfl hne hesc' hu.1

/-- instance for what `entryTail` actually writes: `b' = escape v` for an arbitrary value `v` -/
theorem update_self_lookup_escape (pre : List Entry) (e : Entry) (post : List Entry) (v : Text)
    (hwf : WF (pre ++ e :: post)) (hne : e.id ≠ []) (hesc : Escaped e.body)
    (hu : HeaderUnique pre e post) (hcr : NoCRBody (escape v)) :
    getPrev e.id (update e.id (escape v) (render (pre ++ e :: post))) =
      some (escape v, (fileLines pre).length + 2) :=
  update_self_lookup pre e post (escape v) hwf hne hesc hu hcr (escape_escaped v)

example :
    let pre : List Entry := [⟨[91, 65, 93], [120]⟩]
    let e : Entry := ⟨[91, 66, 93], [121]⟩
    let post : List Entry := [⟨[91, 67, 93], [122]⟩]
    let v : Text := [45, 45, 45, 10, 10, 119]          -- "---\n\nw": contains the terminator
    NoCRBody (escape v) ∧
    getPrev e.id (update e.id (escape v) (render (pre ++ e :: post))) = some (escape v, 6) := by
  decide +kernel

/-- `hesc'` is necessary: an unescaped new body is read back only up to its first "---" line. -/
example :
    let e : Entry := ⟨[91, 66, 93], [121]⟩
    let b' : Text := [120, 10, 45, 45, 45, 10, 122]
    getPrev e.id (update e.id b' (render [e])) ≠ some (b', 2) := by decide +kernel

/-- what `getPrevSnapshot` found in a file it still finds, with the same body and line number,
after `addNewSnapshot` appended a frame -/
theorem add_lookup_mono (es : List Entry) (n : Entry) (id : Line) (r : Text × Nat)
    (hwf : WF (es ++ [n])) (h : getPrev id (render es) = some r) :
    getPrev id (render (es ++ [n])) = some r := by
  unfold getPrev at h ⊢
  rw [C01.scan_render _ hwf, fileLines_append]
  rw [C01.scan_render _ (WF_append_left hwf)] at h
  exact getPrevL_append_some id _ _ 1 r h

/-- No hypothesis on `o` beyond membership: even a shadowed or unescaped entry gets the same
(wrong) answer as before. -/
theorem add_preserves_entries (es : List Entry) (n : Entry) (hwf : WF (es ++ [n])) :
    ∀ o ∈ es, getPrev o.id (render (es ++ [n])) = getPrev o.id (render es) := by
  intro o ho
  have hs : (getPrev o.id (render es)).isSome := by
    unfold getPrev
    rw [C01.scan_render _ (WF_append_left hwf)]
    exact getPrevL_fileLines_isSome es o ho 1
  obtain ⟨r, hr⟩ := Option.isSome_iff_exists.mp hs
  rw [hr]; exact add_lookup_mono es n o.id r hwf hr

theorem add_other_lookup (pre : List Entry) (o : Entry) (post : List Entry) (n : Entry)
    (hwf : WF ((pre ++ o :: post) ++ [n])) (hone : o.id ≠ []) (hoesc : Escaped o.body)
    (hoshadow : o.id ∉ fileLines pre) :
    getPrev o.id (render ((pre ++ o :: post) ++ [n])) = some (o.body, (fileLines pre).length + 2) ∧
    getPrev o.id (render ((pre ++ o :: post) ++ [n])) = getPrev o.id (render (pre ++ o :: post)) := by
  have h := add_preserves_entries (pre ++ o :: post) n hwf o (by simp)
  exact ⟨by rw [h]; exact getPrev_render pre o post (WF_append_left hwf) hone hoesc hoshadow, h⟩

/-- the same through the executable `frameFmt` (format string read from the Go source): the
    bytes `addNewSnapshot` appends leave every existing lookup unchanged -/
theorem addNew_preserves_entries (es : List Entry) (id : Line) (body : Text)
    (hwf : WF (es ++ [⟨id, body⟩])) (o : Entry) (ho : o ∈ es) :
    (frameFmt id body).map (fun fr => getPrev o.id (render es ++ fr)) =
      some (getPrev o.id (render es)) := by
  have h := C01.addNew_render es id body
  rw [frameFmt_eq] at h ⊢
  simp only [Option.map_some, Option.some.injEq] at h ⊢
  rw [h]; exact add_preserves_entries es ⟨id, body⟩ hwf o ho

example :
    let es : List Entry := [⟨[91, 65, 93], [120, 10, 121]⟩, ⟨[91, 66, 93], [121]⟩]
    let n : Entry := ⟨[91, 67, 93], [91, 65, 93, 10, 91, 66, 93]⟩   -- new body repeats old headers
    WF (es ++ [n]) ∧
    getPrev [91, 66, 93] (render (es ++ [n])) = some ([121], 7) ∧
    getPrev [91, 66, 93] (render es) = some ([121], 7) :=
  ⟨⟨by decide +kernel, by decide +kernel⟩, by decide +kernel, by decide +kernel⟩

theorem update_idempotent (pre : List Entry) (e : Entry) (post : List Entry) (b' : Text)
    (hwf : WF (pre ++ e :: post)) (hne : e.id ≠ []) (hesc : Escaped e.body)
    (hu : HeaderUnique pre e post) (hcr : NoCRBody b') (hesc' : Escaped b') :
    update e.id b' (update e.id b' (render (pre ++ e :: post))) =
      update e.id b' (render (pre ++ e :: post)) := by
  rw [update_render pre e post b' hwf hne hesc hu]
  exact update_render pre ⟨e.id, b'⟩ post b' (WF_replace b' hwf hcr) hne hesc' hu

example :
    let pre : List Entry := [⟨[91, 65, 93], [120]⟩]
    let e : Entry := ⟨[91, 66, 93], [121]⟩
    let post : List Entry := [⟨[91, 67, 93], [122]⟩]
    let b' : Text := [110, 10, 10, 119]
    (NoCRBody b' ∧ Escaped b') ∧
    update e.id b' (update e.id b' (render (pre ++ e :: post))) =
      update e.id b' (render (pre ++ e :: post)) := by decide +kernel

/-- `hesc'` is necessary: with an unescaped new body the second update leaves a residue. -/
example :
    let e : Entry := ⟨[91, 66, 93], [121]⟩
    let b' : Text := [120, 10, 45, 45, 45, 10, 122]
    update e.id b' (update e.id b' (render [e])) ≠ update e.id b' (render [e]) := by decide +kernel

end GoSnaps.C04
