/-
C12 — Config values are immutable: no Match* call, no Skip, no Clean and no t.Cleanup writes
through a `*Config`; the path a call addresses is a function of the Config VALUE it was given,
so the order of calls through a shared Config is irrelevant for the addressing.

The fact "no assignment through a *Config receiver/parameter exists in the source"
(`Generated.configWrites = []`) is regenerated from /repo on every run; theorem
`no_config_writes` is the obligation on it.  `docOp` (Driver.lean) consults the same fact to decide
whether `(*Config).MatchStandaloneJSON`'s defaulting of the extension lands in the shared
Config (`setCfg`) or in a copy.
-/
import GoSnaps.Model
import GoSnaps.Clean
import GoSnaps.Driver
import GoSnaps.Props.C19
import GoSnaps.Lemmas.Update
namespace GoSnaps.C12

open GoSnaps

/-! ## 1. the regenerated structural fact -/

/-- no write through a `*Config` in the current source (fails to check if one is introduced) -/
theorem no_config_writes : Generated.configWrites = [] := by decide

/-! ## 2. what a model step can touch -/

/-- the file a multi-entry call addresses -/
def addrEntry (c : Cfg) (caller tName : Text) : Text := (snapshotPath c caller tName false).1

/-- the file a standalone call addresses: the generic path with the per-path ordinal filled in -/
def addrStandalone (w : World) (c : Cfg) (caller tName : Text) : Option Text :=
  let g := (snapshotPath c caller tName true).1
  sprintf g [.d (alGet w.srunning g + 1)]

/-! ## 3. no model step changes the Config store -/

theorem config_immutable_handleError (w : World) (msg : Text) : (handleError w msg).1.cfgs = w.cfgs := rfl

theorem config_immutable_entryTail (w : World) (c : Cfg) (snapPath rel testID snapshot : Text) (cmp : Cmp) :
    (entryTail w c snapPath rel testID snapshot cmp).1.cfgs = w.cfgs :=
  (entryTail_touches ..).cfgs

theorem config_immutable_standaloneTail (w : World) (c : Cfg) (snapPath rel snapshot : Text) :
    (standaloneTail w c snapPath rel snapshot).1.cfgs = w.cfgs :=
  (standaloneTail_touches ..).cfgs

theorem config_immutable_matchEntry (w : World) (c : Cfg) (caller tName : Text) (texec : Nat)
    (cmp : Cmp) (pre : Except Text Text) :
    (matchEntry w c caller tName texec cmp pre).1.cfgs = w.cfgs :=
  (matchEntry_touches ..).cfgs

theorem config_immutable_matchStandalone (w : World) (c : Cfg) (caller tName : Text) (texec : Nat)
    (pre : Except Text Text) :
    (matchStandalone w c caller tName texec pre).1.cfgs = w.cfgs :=
  (matchStandalone_touches ..).cfgs

theorem config_immutable_trackSkip (w : World) (tName : Text) : (trackSkip w tName).cfgs = w.cfgs := rfl

theorem config_immutable_endTest (w : World) (texec : Nat) : (endTest w texec).cfgs = w.cfgs := by
  obtain ⟨_, _, h⟩ := endTest_frame w texec
  rw [h]

theorem config_immutable_clean (o : Oracles) (w : World) (sortOpt : Bool) (runOnly : Text) (count : Nat) :
    (clean o w sortOpt runOnly count).1.cfgs = w.cfgs := by
  unfold clean
  split
  · rfl
  · split
    · rfl
    · dsimp only
      split
      · rfl
      · split <;> rfl

/-- one model step: a Match* call, the cleanups of a test, a skip, or `Clean` -/
inductive Step
  | entry (c : Cfg) (caller tName : Text) (texec : Nat) (cmp : Cmp) (pre : Except Text Text)
  | standalone (c : Cfg) (caller tName : Text) (texec : Nat) (pre : Except Text Text)
  | endTest (texec : Nat)
  | skip (tName : Text)
  | clean (o : Oracles) (sortOpt : Bool) (runOnly : Text) (count : Nat)

def Step.run (w : World) : Step → World
  | .entry c caller tName texec cmp pre => (matchEntry w c caller tName texec cmp pre).1
  | .standalone c caller tName texec pre => (matchStandalone w c caller tName texec pre).1
  | .endTest texec => GoSnaps.endTest w texec
  | .skip tName => trackSkip w tName
  | .clean o sortOpt runOnly count => (GoSnaps.clean o w sortOpt runOnly count).1

/-- any finite run of model steps: the store at the end is the store at the start -/
theorem config_immutable_run (steps : List Step) (w : World) :
    (steps.foldl Step.run w).cfgs = w.cfgs := by
  induction steps generalizing w with
  | nil => rfl
  | cons st sts ih =>
    rw [List.foldl_cons, ih]
    cases st with
    | entry => exact config_immutable_matchEntry _ _ _ _ _ _ _
    | standalone => exact config_immutable_matchStandalone _ _ _ _ _ _
    | endTest => exact config_immutable_endTest _ _
    | skip => rfl
    | clean => exact config_immutable_clean _ _ _ _ _

/-- … hence every Config number still denotes the value it was created with -/
theorem config_lookup_stable (steps : List Step) (w : World) (n : Nat) :
    ((steps.foldl Step.run w).cfgs.find? (·.1 = n)).map (·.2) = (w.cfgs.find? (·.1 = n)).map (·.2) := by
  rw [config_immutable_run]

/-! ## 4. the driver's document operations -/

/-- **Given that the source has no write through `*Config`**, `json` / `yaml` / `sajson` (and
any other `op` handed to `docOp`, which is rejected) leave the store as it was.  In particular
`(*Config).MatchStandaloneJSON` defaults the extension on a copy. -/
theorem config_immutable_docOp (h : Generated.configWrites = []) (s : DState) (line op c t : String) :
    (docOp s line op c t).1.w.cfgs = s.w.cfgs := by
  have hcw : "Config.MatchStandaloneJSON: c.extension" ∉ Generated.configWrites := by rw [h]; simp
  unfold docOp
  split
  · split
    · exact config_immutable_matchEntry _ _ _ _ _ _ _
    · exact config_immutable_matchEntry _ _ _ _ _ _ _
    · simp only [List.contains_eq_mem, hcw, decide_false, Bool.false_eq_true, ↓reduceIte]
      exact config_immutable_matchStandalone _ _ _ _ _ _
    · rfl
  · rfl

theorem config_immutable_docOp_now (s : DState) (line op c t : String) :
    (docOp s line op c t).1.w.cfgs = s.w.cfgs :=
  config_immutable_docOp no_config_writes s line op c t

/-- what the obligation protects against: were the defaulted extension stored back
(`setCfg`), the shared Config would change and so would the file every later MatchSnapshot /
MatchJSON call through it addresses (".snap" vs ".snap.json") -/
example :
    let c : Cfg := {}
    let c' : Cfg := { c with extension := Generated.saJSONExt }
    setCfg [(0, c)] 0 c' ≠ [(0, c)] ∧
    constructFilename c [47, 97, 47, 98, 95, 116, 101, 115, 116, 46, 103, 111] [84] false =
      [98, 95, 116, 101, 115, 116, 46, 115, 110, 97, 112] ∧                                 -- b_test.snap
    constructFilename c' [47, 97, 47, 98, 95, 116, 101, 115, 116, 46, 103, 111] [84] false =
      [98, 95, 116, 101, 115, 116, 46, 115, 110, 97, 112, 46, 106, 115, 111, 110] := by     -- b_test.snap.json
  decide +kernel

/-- the protocol operations that create or replace a Config value (`cfg`: `snaps.WithConfig`
with an absolute directory; `cfgrel`: the same with a relative/default directory) or start from a
fresh world -/
def configOps : List String := ["cfg", "cfgrel", "world"]

/-- **every protocol line**: `step` changes the Config store only on the lines whose
first token is one of `configOps`; every other line — every Match*, Skip, Clean, end-of-test,
file-system and oracle line — leaves it as it was -/
theorem config_immutable_step (s : DState) (line : String)
    (h : ∀ k ∈ configOps, ((line.splitOn " ").filter (· ≠ "")).head? ≠ some k) :
    (step s line).1.w.cfgs = s.w.cfgs := by
  unfold step
  generalize (line.splitOn " ").filter (· ≠ "") = toks at h
  dsimp only
  -- one goal `h_k` per alternative of the `match` in `step`, in the order of `Driver.lean`
  split
  -- `world`, `cfg`, `cfgrel`: excluded by `h`
  case h_2 | h_5 | h_22 => exact absurd rfl (h _ (by decide))
  -- `json`, `yaml`, `sajson`
  case h_12 | h_13 | h_14 => exact config_immutable_docOp_now _ _ _ _ _
  -- `snap` (h_11), `sasnap` (h_15), `end` (h_16), `clean` (h_18): the new world is that of a model step
  case h_11 =>
    split
    · split
      · rfl
      · exact config_immutable_matchEntry _ _ _ _ _ _ _
    · rfl
  case h_15 =>
    split
    · exact config_immutable_matchStandalone _ _ _ _ _ _
    · rfl
  case h_16 =>
    split
    · exact config_immutable_endTest _ _
    · rfl
  case h_18 =>
    split
    · exact config_immutable_clean _ _ _ _ _
    · rfl
  -- every other line keeps `s.w` or replaces another field of it
  all_goals (repeat' split) <;> rfl

/-! ## 5. addressing depends on the Config value only; call order is irrelevant -/

/-- `snapshotPath` has no argument but `(c, caller, tName, standalone)`: no world, no registry,
no environment.  (Trivial by definition — stated so that a change of the signature breaks it.) -/
theorem order_independent (w w' : World) (c : Cfg) (caller tName : Text) (sa : Bool) :
    (fun (_ : World) => snapshotPath c caller tName sa) w = (fun (_ : World) => snapshotPath c caller tName sa) w' :=
  rfl

/-- **Either order, same addresses**: a `MatchJSON`-like call and a `MatchStandaloneJSON`-like
call through the same Config value `c` (any tests, any `pre`), made in either order, address
the same two files, get the same ordinals, and can only write at those addresses; the Config
store is the same afterwards. -/
theorem order_independent_calls (w : World) (c : Cfg) (caller t₁ t₂ : Text) (x₁ x₂ : Nat) (cmp : Cmp)
    (pre₁ pre₂ : Except Text Text) :
    let a₁ := matchEntry w c caller t₁ x₁ cmp pre₁                 -- entry first
    let a₂ := matchStandalone a₁.1 c caller t₂ x₂ pre₂
    let b₂ := matchStandalone w c caller t₂ x₂ pre₂                -- standalone first
    let b₁ := matchEntry b₂.1 c caller t₁ x₁ cmp pre₁
    -- the standalone call resolves to the same file in both orders
    addrStandalone a₁.1 c caller t₂ = addrStandalone w c caller t₂ ∧
    -- the entry call gets the same ordinal in both orders
    (regBump b₂.1 (addrEntry c caller t₁, t₁)).2 = (regBump w (addrEntry c caller t₁, t₁)).2 ∧
    -- all writes of both orders go to the same two addresses
    (∀ p ∈ a₁.2.writes ++ a₂.2.writes, p = addrEntry c caller t₁ ∨ some p = addrStandalone w c caller t₂) ∧
    (∀ p ∈ b₂.2.writes ++ b₁.2.writes, p = addrEntry c caller t₁ ∨ some p = addrStandalone w c caller t₂) ∧
    a₂.1.cfgs = w.cfgs ∧ b₁.1.cfgs = w.cfgs := by
  dsimp only
  have ha₁ := matchEntry_touches w c caller t₁ x₁ cmp pre₁
  have hb₂ := matchStandalone_touches w c caller t₂ x₂ pre₂
  have hs : addrStandalone (matchEntry w c caller t₁ x₁ cmp pre₁).1 c caller t₂ =
      addrStandalone w c caller t₂ := by
    unfold addrStandalone; rw [ha₁.regs.srunning]; rfl
  refine ⟨hs, ?_, ?_, ?_, ?_, ?_⟩
  · show alGet (matchStandalone w c caller t₂ x₂ pre₂).1.running _ + 1 = alGet w.running _ + 1
    rw [hb₂.regs.running]; rfl
  · intro p hp
    rcases List.mem_append.mp hp with h | h
    · exact .inl (Option.some.inj (ha₁.writes p h))
    · exact .inr (((matchStandalone_touches ..).writes p h).trans hs)
  · intro p hp
    rcases List.mem_append.mp hp with h | h
    · exact .inr (hb₂.writes p h)
    · exact .inl (Option.some.inj ((matchEntry_touches ..).writes p h))
  · exact (config_immutable_matchStandalone ..).trans ha₁.cfgs
  · exact (config_immutable_matchEntry ..).trans hb₂.cfgs

/-! ## 6. the outcomes commute -/

theorem entryTail_out_congr (w w' : World) (c : Cfg) (p rel id s : Text) (cmp : Cmp)
    (he : w'.env = w.env) (hf : fsRead w'.fs p = fsRead w.fs p) :
    (entryTail w' c p rel id s cmp).2 = (entryTail w c p rel id s cmp).2 := by
  unfold entryTail
  rw [hf, he]
  split
  · split
    · rfl
    · split <;> rfl
  · dsimp only
    generalize prettyDiff _ _ _ _ = diff
    split
    · rfl
    · split
      · rfl
      · split <;> rfl

theorem standaloneTail_out_congr (w w' : World) (c : Cfg) (p rel s : Text)
    (he : w'.env = w.env) (hf : fsRead w'.fs p = fsRead w.fs p) :
    (standaloneTail w' c p rel s).2 = (standaloneTail w c p rel s).2 := by
  unfold standaloneTail
  rw [hf, he]
  split
  · split <;> rfl
  · dsimp only
    generalize prettyDiff _ _ _ _ = diff
    split
    · rfl
    · split <;> rfl

theorem entryTail_frame (w : World) (c : Cfg) (p rel id s : Text) (cmp : Cmp) :
    (entryTail w c p rel id s cmp).1.env = w.env ∧
    ∀ q, q ≠ p → fsRead (entryTail w c p rel id s cmp).1.fs q = fsRead w.fs q :=
  ⟨(entryTail_touches ..).env, fun q hq => (entryTail_touches ..).fs_other q fun e => hq (Option.some.inj e)⟩

theorem matchEntry_out_congr (w w' : World) (c : Cfg) (caller tName : Text) (texec : Nat) (cmp : Cmp)
    (pre : Except Text Text) (hr : w'.running = w.running) (he : w'.env = w.env)
    (hf : fsRead w'.fs (addrEntry c caller tName) = fsRead w.fs (addrEntry c caller tName)) :
    (matchEntry w' c caller tName texec cmp pre).2 = (matchEntry w c caller tName texec cmp pre).2 := by
  unfold matchEntry addrEntry at *
  generalize snapshotPath c caller tName false = sp at hf ⊢
  obtain ⟨snapPath, rel?⟩ := sp
  dsimp only [regBump] at hf ⊢
  rw [hr]
  split
  · cases pre with
    | error msg => rfl
    | ok s => exact entryTail_out_congr _ _ _ _ _ _ _ _ he hf
  · rfl

theorem matchStandalone_out_congr (w w' : World) (c : Cfg) (caller tName : Text) (texec : Nat)
    (pre : Except Text Text) (hr : w'.srunning = w.srunning) (he : w'.env = w.env)
    (hf : ∀ q, some q = addrStandalone w c caller tName → fsRead w'.fs q = fsRead w.fs q) :
    (matchStandalone w' c caller tName texec pre).2 = (matchStandalone w c caller tName texec pre).2 := by
  unfold matchStandalone addrStandalone at *
  generalize snapshotPath c caller tName true = sp at hf ⊢
  obtain ⟨generic, grel?⟩ := sp
  dsimp only [sregBump] at hf ⊢
  rw [hr]
  split
  · rfl
  · split
    · rename_i snapPath rel hsp hrel
      cases pre with
      | error msg => rfl
      | ok s => exact standaloneTail_out_congr _ _ _ _ _ _ he (hf snapPath hsp.symm)
    · rfl

/-- **Either order, same outcomes**: if the two calls address different files (`hne`; for one
Config value the names are `<name>.snap…` and `<name>_<k>.snap…`, but that they differ is assumed
here, not proved), then each
call produces the same events, writes and output whichever of the two runs first -/
theorem calls_commute (w : World) (c : Cfg) (caller t₁ t₂ : Text) (x₁ x₂ : Nat) (cmp : Cmp)
    (pre₁ pre₂ : Except Text Text)
    (hne : addrStandalone w c caller t₂ ≠ some (addrEntry c caller t₁)) :
    let a₁ := matchEntry w c caller t₁ x₁ cmp pre₁
    let a₂ := matchStandalone a₁.1 c caller t₂ x₂ pre₂
    let b₂ := matchStandalone w c caller t₂ x₂ pre₂
    let b₁ := matchEntry b₂.1 c caller t₁ x₁ cmp pre₁
    a₁.2 = b₁.2 ∧ a₂.2 = b₂.2 := by
  dsimp only
  have ha₁ := matchEntry_touches w c caller t₁ x₁ cmp pre₁
  have hb₂ := matchStandalone_touches w c caller t₂ x₂ pre₂
  exact ⟨(matchEntry_out_congr w _ c caller t₁ x₁ cmp pre₁ hb₂.regs.running hb₂.env
      (hb₂.fs_other _ fun e => hne e.symm)).symm,
    matchStandalone_out_congr w _ c caller t₂ x₂ pre₂ ha₁.regs.srunning ha₁.env
      fun q hq => ha₁.fs_other q fun e => hne (hq.symm.trans e)⟩

/-- two creations from an empty world, in both orders: the same two files are written -/
example :
    let w : World := { env := ⟨false, ""⟩ }
    let c : Cfg := {}
    let caller : Text := [47, 97, 47, 98, 95, 116, 101, 115, 116, 46, 103, 111]   -- "/a/b_test.go"
    let a₁ := matchEntry w c caller [84] 0 .raw (.ok [120])
    let a₂ := matchStandalone a₁.1 c caller [84] 0 (.ok [121])
    let b₂ := matchStandalone w c caller [84] 0 (.ok [121])
    let b₁ := matchEntry b₂.1 c caller [84] 0 .raw (.ok [120])
    a₁.2.writes = b₁.2.writes ∧ a₂.2.writes = b₂.2.writes ∧ a₁.2.writes ≠ [] ∧ a₂.2.writes ≠ [] ∧
    a₁.2.writes ≠ a₂.2.writes := by
  decide +kernel

end GoSnaps.C12
