/-
C03 — entries are stably addressed and isolated.

The header of an entry is
`fmt.Sprintf("[%s - %d]", testName, ordinal)` (`syncRegistry.getTestID`, snaps/snapshot.go);
the ordinal is the per-(file, test) call counter `running`, reset by the `t.Cleanup` of the
test that made the calls (`endTest`), while `cleanup` only ever grows.

Byte legend: 91 = '[', 93 = ']', 32 = ' ', 45 = '-', 48..57 = '0'..'9'.
-/
import GoSnaps.Lemmas.Update
namespace GoSnaps.C03

open GoSnaps

/-! ## decimal rendering (`%d`, `strconv.Itoa` on naturals) -/

theorem natToText_ne_nil (n : Nat) : natToText n ≠ [] := (natToText_spec n).1

theorem natToText_digits (n : Nat) : ∀ c ∈ natToText n, 48 ≤ c ∧ c ≤ 57 := (natToText_spec n).2.1

theorem decodeNat_natToText (n : Nat) : decodeNat (natToText n) = n := (natToText_spec n).2.2

theorem natToText_injective (m n : Nat) (h : natToText m = natToText n) : m = n := by
  have := congrArg decodeNat h
  rwa [decodeNat_natToText, decodeNat_natToText] at this

example : natToText 10 = [49, 48] ∧ natToText 1 = [49] ∧ decodeNat [49, 48] = 10 := by decide +kernel

/-! ## the header is `"[" ++ name ++ " - " ++ ordinal ++ "]"` -/

/-- the header line of the `k`-th snapshot of test `name` -/
def testID (name : Text) (k : Nat) : Text := 91 :: name ++ [32, 45, 32] ++ natToText k ++ [93]

/-- the executable model computes the header by interpreting the format string read from the
    Go source; on its current value that is `testID` -/
theorem testID_eq (name : Text) (k : Nat) :
    sprintf Generated.idFmt [.s name, .d k] = some (testID name k) := by
  have hp : parseFmt Generated.idFmt =
      some [.lit [91], .verb 115, .lit [32, 45, 32], .verb 100, .lit [93]] := by decide +kernel
  simp [sprintf, hp, fmtPieces, fmtVerb, testID]

example : sprintf Generated.idFmt [.s [84, 101, 115, 116, 65], .d 12] =
    some [91, 84, 101, 115, 116, 65, 32, 45, 32, 49, 50, 93] := by decide +kernel   -- "[TestA - 12]"

theorem testID_ne_nil (name : Text) (k : Nat) : testID name k ≠ [] := by simp [testID]

/-- Distinct (name, ordinal) pairs have distinct headers, for arbitrary byte strings as
names (spaces, dashes, brackets, digits, newlines, "` - 1]`" suffixes … included): the decimal
ordinal contains no space, so the LAST space of the header is the one the format string wrote
and splits it unambiguously.  In particular `[T - 1]` ≠ `[T - 10]` and `[TestA - k]` ≠
`[TestAB - k']`.  No hypothesis on `name` is needed. -/
theorem header_injective (name name' : Text) (k k' : Nat)
    (h : testID name k = testID name' k') : name = name' ∧ k = k' := by
  have hd : ∀ n : Nat, (32 : Byte) ∉ natToText n ++ [93] := by
    intro n hm
    simp only [List.mem_append, List.mem_singleton] at hm
    rcases hm with hm | hm
    · exact isDigit_ne_space 32 ((natToText_spec n).2.1 32 hm) rfl
    · exact absurd hm (by decide)
  have hs : ∀ (nm : Text) (n : Nat),
      testID nm n = (91 :: nm ++ [32, 45]) ++ 32 :: (natToText n ++ [93]) := by
    intro nm n; simp [testID]
  rw [hs, hs] at h
  obtain ⟨h1, h2⟩ := split_at_last_space _ _ _ _ (hd k) (hd k') h
  have hn : name = name' := by
    simp only [List.cons_append, List.cons.injEq, true_and] at h1
    exact List.append_cancel_right h1
  exact ⟨hn, natToText_injective k k' (List.append_cancel_right h2)⟩

example :
    testID [84] 1 ≠ testID [84] 10 ∧                                   -- [T - 1] vs [T - 10]
    testID [84, 65] 1 ≠ testID [84, 65, 66] 1 ∧                        -- [TA - 1] vs [TAB - 1]
    testID [84, 32, 45, 32, 49] 1 ≠ testID [84] 11 ∧                   -- name "T - 1" vs "T"
    testID [84] 1 = [91, 84, 32, 45, 32, 49, 93] := by decide +kernel

theorem header_ne (name name' : Text) (k k' : Nat) (h : name ≠ name' ∨ k ≠ k') :
    testID name k ≠ testID name' k' := by
  intro e
  obtain ⟨h1, h2⟩ := header_injective name name' k k' e
  rcases h with h | h
  · exact h h1
  · exact h h2

/-- A header is a legal single line of the file (`C01.WF.idNoNL`) when the test name has no
newline — which is what Go's `testing` produces (it rewrites "\n" in sub-test names).
`header_injective` does NOT depend on it. -/
theorem testID_noNL (name : Text) (k : Nat) (h : NoNL name) : NoNL (testID name k) := by
  have hdig : nl ∉ natToText k := fun hm => absurd (natToText_digits k nl hm) (by decide)
  unfold NoNL at *
  simp only [testID, List.mem_cons, List.mem_append, List.not_mem_nil, or_false, h, hdig]
  decide  -- what is left: none of the literal bytes `[`, ` `, `-`, `]` is a newline

/-- Go `map[K]int` read-after-write -/
theorem alGet_alSet_same {κ : Type} [DecidableEq κ] (m : List (κ × Nat)) (k : κ) (v : Nat) :
    alGet (alSet m k v) k = v := GoSnaps.alGet_alSet_same m k v

theorem alGet_alSet_other {κ : Type} [DecidableEq κ] (m : List (κ × Nat)) (k k' : κ) (v : Nat)
    (h : k' ≠ k) : alGet (alSet m k v) k' = alGet m k' := GoSnaps.alGet_alSet_other m k k' v h

/-- one `getTestID`: returns the incremented running counter of its key -/
theorem regBump_returns (w : World) (k : RegKey) :
    (regBump w k).2 = alGet w.running k + 1 ∧
    alGet (regBump w k).1.running k = alGet w.running k + 1 ∧
    alGet (regBump w k).1.cleanup k = alGet w.cleanup k + 1 :=
  ⟨rfl, regBump_running_same w k, regBump_cleanup_same w k⟩

theorem regBump_other (w : World) (k k' : RegKey) (h : k' ≠ k) :
    alGet (regBump w k).1.running k' = alGet w.running k' ∧
    alGet (regBump w k).1.cleanup k' = alGet w.cleanup k' :=
  ⟨regBump_running_other w k k' h, regBump_cleanup_other w k k' h⟩

/-- a run of `getTestID` calls with the given keys, in order, no cleanup in between -/
def bumpAll (w : World) (ks : List RegKey) : World := ks.foldl (fun w k => (regBump w k).1) w

/-- instance search for `LawfulBEq` on pairs of lists of bytes is slow: found once here -/
local instance lawfulBEqRegKey : LawfulBEq RegKey := inferInstance

/-- After any sequence of calls, both counters of every key `k` have
grown by the number of calls made with exactly that key; calls with other keys are invisible. -/
theorem ordinal_counts_from (w : World) (ks : List RegKey) (k : RegKey) :
    alGet (bumpAll w ks).running k = alGet w.running k + ks.count k ∧
    alGet (bumpAll w ks).cleanup k = alGet w.cleanup k + ks.count k := by
  induction ks generalizing w with
  | nil => exact ⟨rfl, rfl⟩
  | cons a as ih =>
    have hstep : bumpAll w (a :: as) = bumpAll (regBump w a).1 as := rfl
    rw [hstep, (ih _).1, (ih _).2]
    by_cases h : a = k
    · subst h
      rw [regBump_running_same, regBump_cleanup_same, List.count_cons_self]
      exact ⟨by rw [Nat.add_assoc, Nat.add_comm 1], by rw [Nat.add_assoc, Nat.add_comm 1]⟩
    · rw [regBump_running_other w a k (Ne.symm h), regBump_cleanup_other w a k (Ne.symm h),
        List.count_cons_of_ne h]
      exact ⟨rfl, rfl⟩

/-- from a fresh registry the running counter of `k` IS the number of calls made with `k` -/
theorem ordinal_counts (env : Generated.Env) (ks : List RegKey) (k : RegKey) :
    alGet (bumpAll { env := env } ks).running k = ks.count k := by
  have := (ordinal_counts_from { env := env } ks k).1
  simpa [alGet] using this

/-- The n-th consecutive call for `k` gets ordinal n: after a run `ks` (other keys
arbitrarily interleaved, no cleanup) the next call with `k` returns `1 + (number of earlier
calls with k)`. -/
theorem regBump_ordinal (env : Generated.Env) (ks : List RegKey) (k : RegKey) :
    (regBump (bumpAll { env := env } ks) k).2 = ks.count k + 1 := by
  rw [regBump_snd, ordinal_counts]

example :
    let a : RegKey := ([97], [84]); let b : RegKey := ([97], [85])
    (regBump (bumpAll { env := ⟨false, ""⟩ } [a, b, a, b, b]) a).2 = 3 ∧
    (regBump (bumpAll { env := ⟨false, ""⟩ } [a, b, a, b, b]) b).2 = 4 := by decide +kernel

/-- `t.Cleanup` restarts the ordinals and keeps the occurrence count: once the cleanup of the
mock T number `texec` that registered key `k` has run, the next call with `k` returns 1 again,
while `cleanup` is untouched (and keeps growing with the next call). -/
theorem endTest_resets (w : World) (texec : Nat) (k : RegKey)
    (h : (texec, Pending.reg k) ∈ w.pending) :
    (regBump (endTest w texec) k).2 = 1 ∧
    (endTest w texec).cleanup = w.cleanup ∧
    alGet (regBump (endTest w texec) k).1.cleanup k = alGet w.cleanup k + 1 := by
  refine ⟨?_, endTest_cleanup w texec, ?_⟩
  · rw [regBump_snd, endTest_running, if_pos h]
  · rw [regBump_cleanup_same, endTest_cleanup]

theorem endTest_other (w : World) (texec : Nat) (k : RegKey)
    (h : (texec, Pending.reg k) ∉ w.pending) :
    alGet (endTest w texec).running k = alGet w.running k := by
  rw [endTest_running, if_neg h]

/-- end to end: ANY `matchEntry` call (whatever its outcome) made under mock T `texec`
registers the cleanup, so after `endTest` the next ordinal for that (file, test) is 1 while the
occurrence counter `cleanup` remembers the call. -/
theorem matchEntry_then_endTest (w : World) (c : Cfg) (caller tName : Text) (texec : Nat)
    (cmp : Cmp) (pre : Except Text Text) :
    let k : RegKey := ((snapshotPath c caller tName false).1, tName)
    let w₁ := (matchEntry w c caller tName texec cmp pre).1
    (regBump (endTest w₁ texec) k).2 = 1 ∧
    alGet (endTest w₁ texec).cleanup k = alGet w.cleanup k + 1 := by
  intro k w₁
  obtain ⟨_, hc, hp⟩ := matchEntry_regs w c caller tName texec cmp pre
  have hmem : (texec, Pending.reg k) ∈ w₁.pending := by rw [hp]; exact List.mem_cons_self
  refine ⟨(endTest_resets w₁ texec k hmem).1, ?_⟩
  rw [endTest_cleanup, hc]; exact regBump_cleanup_same w k

/-- The registry update happens before the validation/matcher result `pre` is looked at:
a call that fails early leaves both counters exactly where a successful call leaves them, so
the following call of the same test gets the next ordinal either way. -/
theorem failing_call_consumes_ordinal (w : World) (c : Cfg) (caller tName : Text) (texec : Nat)
    (cmp : Cmp) (msg s : Text) :
    let k : RegKey := ((snapshotPath c caller tName false).1, tName)
    (matchEntry w c caller tName texec cmp (.error msg)).1.running =
      (matchEntry w c caller tName texec cmp (.ok s)).1.running ∧
    (matchEntry w c caller tName texec cmp (.error msg)).1.running = (regBump w k).1.running ∧
    (matchEntry w c caller tName texec cmp (.error msg)).1.cleanup = (regBump w k).1.cleanup ∧
    (matchEntry w c caller tName texec cmp (.ok s)).1.cleanup = (regBump w k).1.cleanup := by
  intro k
  obtain ⟨h1, h2, _⟩ := matchEntry_regs w c caller tName texec cmp (.error msg)
  obtain ⟨h3, h4, _⟩ := matchEntry_regs w c caller tName texec cmp (.ok s)
  exact ⟨h1.trans h3.symm, h1, h2, h4⟩

/-- the same for `MatchStandaloneSnapshot` and its per-path registry -/
theorem failing_standalone_consumes_ordinal (w : World) (c : Cfg) (caller tName : Text)
    (texec : Nat) (msg s : Text) :
    let g : Text := (snapshotPath c caller tName true).1
    (matchStandalone w c caller tName texec (.error msg)).1.srunning =
      (matchStandalone w c caller tName texec (.ok s)).1.srunning ∧
    (matchStandalone w c caller tName texec (.error msg)).1.srunning = (sregBump w g).1.srunning ∧
    (matchStandalone w c caller tName texec (.error msg)).1.scleanup = (sregBump w g).1.scleanup ∧
    (matchStandalone w c caller tName texec (.ok s)).1.scleanup = (sregBump w g).1.scleanup := by
  intro g
  obtain ⟨h1, h2, _⟩ := matchStandalone_regs w c caller tName texec (.error msg)
  obtain ⟨h3, h4, _⟩ := matchStandalone_regs w c caller tName texec (.ok s)
  exact ⟨h1.trans h3.symm, h1, h2, h4⟩

/-- consequence: after a failing call the next call of the same test asks for ordinal + 1 -/
theorem ordinal_after_failing_call (w : World) (c : Cfg) (caller tName : Text) (texec : Nat)
    (cmp : Cmp) (msg : Text) :
    let k : RegKey := ((snapshotPath c caller tName false).1, tName)
    (regBump (matchEntry w c caller tName texec cmp (.error msg)).1 k).2 = (regBump w k).2 + 1 := by
  intro k
  obtain ⟨h1, _, _⟩ := matchEntry_regs w c caller tName texec cmp (.error msg)
  rw [regBump_snd, h1, regBump_running_same, regBump_snd]

end GoSnaps.C03
