import GoSnaps.Difflib
import GoSnaps.DifflibSpec
import GoSnaps.Lemmas.Difflib

/-!
  Main theorems about the model in `GoSnaps/Difflib.lean`, for ALL inputs (no length bound).
  Helper lemmas live in `GoSnaps/Lemmas/Difflib.lean`; the few specification-level
  definitions used in statements (`replay`, `aParts`, `bParts`, `changes`, `SubEqual`) live in
  `GoSnaps/DifflibSpec.lean`; `equal_only_identical` and `grouped_complete` write `slice` and `SubEqual` out.
-/
namespace GoSnaps.Difflib

variable {α : Type} [DecidableEq α]

theorem flm_valid (a b : List α) (alo ahi blo bhi : Nat)
    (h1 : alo ≤ ahi) (h2 : ahi ≤ a.length) (h3 : blo ≤ bhi) (h4 : bhi ≤ b.length) :
    let m := findLongestMatch a b alo ahi blo bhi
    alo ≤ m.i ∧ m.i + m.k ≤ ahi ∧ blo ≤ m.j ∧ m.j + m.k ≤ bhi ∧
    ∀ t, t < m.k → ∃ x, a[m.i + t]? = some x ∧ b[m.j + t]? = some x :=
  flm_bestOK h1 h2 h3

example :
    let m := findLongestMatch "qabxcd".toList "abycdf".toList 0 6 0 6
    0 ≤ m.i ∧ m.i + m.k ≤ 6 ∧ 0 ≤ m.j ∧ m.j + m.k ≤ 6 ∧
    ∀ t, t < m.k → ∃ x, "qabxcd".toList[m.i + t]? = some x ∧ "abycdf".toList[m.j + t]? = some x :=
  flm_valid "qabxcd".toList "abycdf".toList 0 6 0 6 (by decide) (by decide) (by decide) (by decide)

/-- The fuel passed by `matchBlocks` (`ahi - alo`) is sufficient: under the window
pre-conditions `matchBlocks` satisfies exactly the recursion equation of the Go closure. -/
theorem matchBlocks_unfold (a b : List α) (alo ahi blo bhi : Nat) (matched : List Match)
    (h1 : alo ≤ ahi) (h2 : ahi ≤ a.length) (h3 : blo ≤ bhi) (h4 : bhi ≤ b.length) :
    matchBlocks a b alo ahi blo bhi matched =
      (let m := findLongestMatch a b alo ahi blo bhi
       if 0 < m.k then
         let matched1 :=
           if alo < m.i ∧ blo < m.j then matchBlocks a b alo m.i blo m.j matched else matched
         let matched2 := matched1 ++ [m]
         if m.i + m.k < ahi ∧ m.j + m.k < bhi then
           matchBlocks a b (m.i + m.k) ahi (m.j + m.k) bhi matched2
         else matched2
       else matched) := by
  have hv := flm_bestOK (b := b) h1 h2 h3
  simp only [matchBlocks, matchBlocksF_eq]
  generalize hm : findLongestMatch a b alo ahi blo bhi = m at hv
  obtain ⟨v1, v2, v3, v4, _⟩ := hv
  by_cases hk : 0 < m.k
  · obtain ⟨f, hf⟩ : ∃ f, ahi - alo = f + 1 :=
      Nat.exists_eq_succ_of_ne_zero (Nat.sub_ne_zero_of_lt
        (Nat.lt_of_lt_of_le (Nat.lt_of_le_of_lt v1 (Nat.lt_add_of_pos_right hk)) v2))
    obtain ⟨f1, f2⟩ := fuel_split v1 v2 hk (Nat.le_of_eq hf)
    rw [hf, mbN, hm, if_pos hk, if_pos hk,
      mbN_fuel f (m.i - alo) _ _ _ _ v1 (Nat.le_trans (Nat.le_of_add_right_le v2) h2) v3 f1 (Nat.le_refl _),
      mbN_fuel f (ahi - (m.i + m.k)) _ _ _ _ v2 h2 v4 f2 (Nat.le_refl _)]
    by_cases c1 : alo < m.i ∧ blo < m.j <;> by_cases c2 : m.i + m.k < ahi ∧ m.j + m.k < bhi <;>
      simp only [c1, c2, and_self, if_true, if_false, List.append_assoc, List.cons_append, List.nil_append]
  · rw [if_neg hk]
    cases ahi - alo with
    | zero => exact List.append_nil _
    | succ f => rw [mbN, hm, if_neg hk]; exact List.append_nil _

/-- More fuel never changes the result. -/
theorem matchBlocks_fuel_irrelevant (a b : List α) (f alo ahi blo bhi : Nat)
    (matched : List Match)
    (h1 : alo ≤ ahi) (h2 : ahi ≤ a.length) (h3 : blo ≤ bhi) (h4 : bhi ≤ b.length)
    (hf : ahi - alo ≤ f) :
    matchBlocksF a b f alo ahi blo bhi matched = matchBlocks a b alo ahi blo bhi matched := by
  simp only [matchBlocks, matchBlocksF_eq]
  rw [mbN_fuel f (ahi - alo) alo ahi blo bhi h1 h2 h3 hf (Nat.le_refl _)]

/-- Every block (before and after the adjacency collapse) is a real match; blocks are
strictly increasing and non-overlapping in both `i` and `j`; all blocks except the final
sentinel are non-empty; the last block is the sentinel `(len a, len b, 0)`. -/
theorem blocks_valid_monotone (a b : List α) :
    let raw := matchBlocks a b 0 a.length 0 b.length []
    let blocks := getMatchingBlocks a b
    -- before collapse
    (∀ m ∈ raw, 0 < m.k ∧ m.i + m.k ≤ a.length ∧ m.j + m.k ≤ b.length ∧
        ∀ t, t < m.k → ∃ x, a[m.i + t]? = some x ∧ b[m.j + t]? = some x) ∧
    raw.Pairwise (fun m1 m2 =>
        m1.i < m2.i ∧ m1.j < m2.j ∧ m1.i + m1.k ≤ m2.i ∧ m1.j + m1.k ≤ m2.j) ∧
    -- after collapse, with sentinel
    (∃ body, blocks = body ++ [⟨a.length, b.length, 0⟩] ∧ ∀ m ∈ body, 0 < m.k) ∧
    (∀ m ∈ blocks, m.i + m.k ≤ a.length ∧ m.j + m.k ≤ b.length ∧
        ∀ t, t < m.k → ∃ x, a[m.i + t]? = some x ∧ b[m.j + t]? = some x) ∧
    blocks.Pairwise (fun m1 m2 =>
        m1.i < m2.i ∧ m1.j < m2.j ∧ m1.i + m1.k ≤ m2.i ∧ m1.j + m1.k ≤ m2.j) := by
  intro raw blocks
  have hraw : raw = mbN a b a.length 0 a.length 0 b.length := by
    simp [raw, matchBlocks, matchBlocksF_eq]
  have hblocks : blocks = collapseN (mbN a b a.length 0 a.length 0 b.length) 0 0 0 ++
      [⟨a.length, b.length, 0⟩] := getMatchingBlocks_eq a b
  have w1 := matched_inWin a b
  have w2 := collapsed_inWin a b
  refine ⟨?_, ?_, ?_, ?_, ?_⟩
  · intro m hm
    rw [hraw] at hm
    obtain ⟨_, _, g3, g4, g5, g6⟩ := InWin_mem w1 m hm
    exact ⟨g5, g3, g4, g6⟩
  · rw [hraw]; exact InWin_pairwise w1
  · refine ⟨_, hblocks, ?_⟩
    intro m hm
    obtain ⟨_, _, _, _, hk, _⟩ := InWin_mem w2 m hm
    exact hk
  · intro m hm
    rw [hblocks] at hm
    simp only [List.mem_append, List.mem_singleton] at hm
    rcases hm with hm | rfl
    · obtain ⟨_, _, g3, g4, _, g6⟩ := InWin_mem w2 m hm
      exact ⟨g3, g4, g6⟩
    · exact ⟨Nat.le_refl _, Nat.le_refl _, fun t ht => absurd ht (Nat.not_lt_zero _)⟩
  · rw [hblocks, List.pairwise_append]
    refine ⟨InWin_pairwise w2, List.pairwise_singleton _ _, ?_⟩
    intro m hm s hs
    simp only [List.mem_singleton] at hs
    subst hs
    obtain ⟨_, _, g3, g4, g5, _⟩ := InWin_mem w2 m hm
    simp only
    omega

example :
    let blocks := getMatchingBlocks "qabxcd".toList "abycdf".toList
    blocks.Pairwise (fun m1 m2 =>
        m1.i < m2.i ∧ m1.j < m2.j ∧ m1.i + m1.k ≤ m2.i ∧ m1.j + m1.k ≤ m2.j) :=
  (blocks_valid_monotone "qabxcd".toList "abycdf".toList).2.2.2.2

theorem opcodes_tile (a b : List α) :
    let ops := getOpCodes a b
    (ops = [] ↔ a = [] ∧ b = []) ∧
    (∀ c, ops.head? = some c → c.i1 = 0 ∧ c.j1 = 0) ∧
    (∀ n (h : n + 1 < ops.length), ops[n + 1].i1 = ops[n].i2 ∧ ops[n + 1].j1 = ops[n].j2) ∧
    (∀ c, ops.getLast? = some c → c.i2 = a.length ∧ c.j2 = b.length) ∧
    (∀ c ∈ ops, c.i1 ≤ c.i2 ∧ c.j1 ≤ c.j2 ∧ c.i2 ≤ a.length ∧ c.j2 ≤ b.length ∧
      ((c.tag = opEqual ∧ c.i1 < c.i2 ∧ c.i2 - c.i1 = c.j2 - c.j1) ∨
       (c.tag = opInsert ∧ c.i1 = c.i2 ∧ c.j1 < c.j2) ∨
       (c.tag = opDelete ∧ c.i1 < c.i2 ∧ c.j1 = c.j2) ∨
       (c.tag = opReplace ∧ c.i1 < c.i2 ∧ c.j1 < c.j2))) := by
  intro ops
  have ht : Tile a b 0 0 ops := getOpCodes_tile a b
  refine ⟨Tile_nil_iff ht, fun c hc => Tile_head ht hc, fun n h => Adj_index ops (Tile_adj ops 0 0 ht) n h,
    fun c hc => Tile_last ops 0 0 c ht hc, ?_⟩
  intro c hc
  obtain ⟨g1, g2, g3, g4, g5⟩ := Tile_mem ops 0 0 ht c hc
  exact ⟨g1, g2, g3, g4, g5.imp_left fun ⟨x1, x2, x3, _⟩ => ⟨x1, x2, x3⟩⟩

example :
    let ops := getOpCodes "qabxcd".toList "abycdf".toList
    ∀ c, ops.getLast? = some c → c.i2 = 6 ∧ c.j2 = 6 :=
  (opcodes_tile "qabxcd".toList "abycdf".toList).2.2.2.1

theorem equal_only_identical (a b : List α) :
    ∀ c ∈ getOpCodes a b, c.tag = opEqual →
      (a.drop c.i1).take (c.i2 - c.i1) = (b.drop c.j1).take (c.j2 - c.j1) := by
  intro c hc ht
  exact OpOK_equal_slice (Tile_mem _ 0 0 (getOpCodes_tile a b) c hc) ht

example : ∀ c ∈ getOpCodes "qabxcd".toList "abycdf".toList, c.tag = opEqual →
    ("qabxcd".toList.drop c.i1).take (c.i2 - c.i1) = ("abycdf".toList.drop c.j1).take (c.j2 - c.j1) :=
  equal_only_identical _ _

theorem replay_opcodes (a b : List α) : replay a b (getOpCodes a b) = b := by
  simpa using replay_tile _ 0 0 (getOpCodes_tile a b)

/-- the `a`-sides of the opcodes concatenate to `a` -/
theorem opcodes_cover_a (a b : List α) : aParts a (getOpCodes a b) = a := by
  simpa using aParts_tile _ 0 0 (getOpCodes_tile a b)

/-- the `b`-sides of the opcodes concatenate to `b` -/
theorem opcodes_cover_b (a b : List α) : bParts b (getOpCodes a b) = b := by
  simpa using bParts_tile _ 0 0 (getOpCodes_tile a b)

example : replay "qabxcd".toList "abycdf".toList
    (getOpCodes "qabxcd".toList "abycdf".toList) = "abycdf".toList := replay_opcodes _ _

/-- identical inputs give exactly one Equal opcode covering everything (or nothing if empty) -/
theorem opcodes_identical (s : List α) :
    getOpCodes s s = if s.length = 0 then [] else [⟨opEqual, 0, s.length, 0, s.length⟩] :=
  getOpCodes_self s

theorem opcodes_eq_iff (a b : List α) :
    a = b ↔ ∀ c ∈ getOpCodes a b, c.tag = opEqual := by
  constructor
  · rintro rfl c hc
    rw [getOpCodes_self] at hc
    split at hc
    · simp at hc
    · simp only [List.mem_singleton] at hc
      subst hc; rfl
  · intro h
    have h1 := replay_opcodes a b
    rw [replay_allEqual a b _ h, opcodes_cover_a] at h1
    exact h1

/-- different inputs produce at least one change opcode -/
theorem opcodes_ne_has_change (a b : List α) (h : a ≠ b) :
    ∃ c ∈ getOpCodes a b, c.tag ≠ opEqual := by
  apply Classical.byContradiction
  intro hno
  apply h
  rw [opcodes_eq_iff]
  intro c hc
  apply Classical.byContradiction
  intro hne
  exact hno ⟨c, hc, hne⟩

example : ∃ c ∈ getOpCodes "qabxcd".toList "abycdf".toList, c.tag ≠ opEqual :=
  opcodes_ne_has_change _ _ (by decide)

example : ∀ c ∈ getOpCodes "abcabc".toList "abcabc".toList, c.tag = opEqual :=
  (opcodes_eq_iff _ _).mp rfl

/-- Flattening the groups and keeping the non-Equal opcodes gives exactly the non-Equal
opcodes of `getOpCodes`, in the same order (so every change opcode appears, unchanged, in
exactly one group position and order is preserved). -/
theorem grouped_changes (a b : List α) (n : Nat) :
    changes (getGroupedOpCodes a b n).flatten = changes (getOpCodes a b) :=
  groupOpCodes_changes n _

/-- Every opcode inside a group either is literally an opcode of `getOpCodes`, or is an
Equal opcode that is a sub-range (same diagonal) of an Equal opcode of `getOpCodes`. -/
theorem grouped_members (a b : List α) (n : Nat) :
    ∀ g ∈ getGroupedOpCodes a b n, ∀ c' ∈ g,
      ∃ c ∈ getOpCodes a b, c' = c ∨ SubEqual c' c := by
  intro g hg c' hc'
  have hw : ∀ c ∈ getOpCodes a b, WfEq c := fun c hc =>
    OpOK_wf (Tile_mem _ 0 0 (getOpCodes_tile a b) c hc)
  exact groupOpCodes_rel n _ hw g hg c' hc'

/-- In particular, a non-Equal opcode inside a group is an unchanged opcode of `getOpCodes`. -/
theorem grouped_nonEqual_unchanged (a b : List α) (n : Nat) :
    ∀ g ∈ getGroupedOpCodes a b n, ∀ c' ∈ g, c'.tag ≠ opEqual → c' ∈ getOpCodes a b := by
  intro g hg c' hc' ht
  obtain ⟨c, hc, h⟩ := grouped_members a b n g hg c' hc'
  rcases h with rfl | h
  · exact hc
  · exact absurd h.1 ht

theorem grouped_complete (a b : List α) (n : Nat) :
    changes (getGroupedOpCodes a b n).flatten = changes (getOpCodes a b) ∧
    (∀ g ∈ getGroupedOpCodes a b n, ∀ c' ∈ g,
      ∃ c ∈ getOpCodes a b, c' = c ∨
        (c'.tag = opEqual ∧ c.tag = opEqual ∧ c.i1 ≤ c'.i1 ∧ c'.i1 ≤ c'.i2 ∧ c'.i2 ≤ c.i2 ∧
          c'.j1 + c.i1 = c.j1 + c'.i1 ∧ c'.j2 + c.i1 = c.j1 + c'.i2)) :=
  ⟨grouped_changes a b n, grouped_members a b n⟩

/-- different inputs always produce at least one group -/
theorem grouped_nonempty_of_ne (a b : List α) (n : Nat) (h : a ≠ b) :
    getGroupedOpCodes a b n ≠ [] := by
  intro he
  obtain ⟨c, hc, ht⟩ := opcodes_ne_has_change a b h
  have h1 := grouped_changes a b n
  rw [he] at h1
  have : c ∈ changes (getOpCodes a b) := by
    simp only [changes, List.mem_filter]
    exact ⟨hc, by simpa using ht⟩
  rw [← h1] at this
  simp [changes] at this

/-- identical inputs produce no group at all (for every context size `n`) -/
theorem grouped_empty_of_eq (s : List α) (n : Nat) : getGroupedOpCodes s s n = [] := by
  unfold getGroupedOpCodes
  rw [getOpCodes_self]
  split
  · exact groupOpCodes_nil n
  · exact groupOpCodes_single_equal n _

example : changes (getGroupedOpCodes "qabxcd".toList "abycdf".toList 3).flatten =
    changes (getOpCodes "qabxcd".toList "abycdf".toList) := (grouped_complete _ _ 3).1

example : getGroupedOpCodes "qabxcd".toList "abycdf".toList 3 ≠ [] :=
  grouped_nonempty_of_ne _ _ 3 (by decide)

/-- Go doc of `getMatchingBlocks`: adjacent triples (other than the sentinel) never describe
adjacent equal blocks. -/
theorem blocks_nonadjacent (a b : List α) :
    ∃ body, getMatchingBlocks a b = body ++ [⟨a.length, b.length, 0⟩] ∧
      ∀ n (h : n + 1 < body.length),
        ¬ (body[n].i + body[n].k = body[n + 1].i ∧ body[n].j + body[n].k = body[n + 1].j) :=
  ⟨_, getMatchingBlocks_eq a b, Adj_index _ (collapsed_NA a b)⟩

/-- no two consecutive opcodes are both Equal: blocks that are not adjacent leave a gap opcode between
    their Equal opcodes (`collapsed_NA`, the fact behind `blocks_nonadjacent`, through `getOpCodes_alt`) -/
theorem opcodes_alternate (a b : List α) :
    let ops := getOpCodes a b
    ∀ n (h : n + 1 < ops.length), ¬ (ops[n].tag = opEqual ∧ ops[n + 1].tag = opEqual) := by
  intro ops n h
  have := Adj_index _ (getOpCodes_alt a b) n (by simpa using h)
  simpa using this

/-- every group returned by `GetGroupedOpCodes` contains at least one change opcode
(in particular no group is empty or context-only) -/
theorem grouped_groups_have_change (a b : List α) (n : Nat) :
    ∀ g ∈ getGroupedOpCodes a b n, ∃ c ∈ g, c.tag ≠ opEqual :=
  groupOpCodes_hasChange n _ (getOpCodes_alt a b)


end GoSnaps.Difflib
