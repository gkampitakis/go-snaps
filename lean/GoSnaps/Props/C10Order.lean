/-
C10 (sorting is an idempotent permutation), the hypothesis `TotalOn` discharged.

`Props/C10.lean` proves that the sort step of `Clean` is a permutation, sorted, unique and idempotent WHEN
`naturalSort` is a strict total order on the ids present (`TotalOn`); `natLt_not_total` shows that this is not
always so (`T01 - 1` / `T1 - 1`).  `Lemmas/NaturalOrder.lean` proves that `natural.Less` IS a strict total
order on texts whose digit runs are canonical numerals (`NatOrd.Canon`).  Here:

* the id `name - k` of a slot is canonical when the test name is and `k < 10^19` (`canon_tid`) — so the order
  hypothesis of every C10 / C07 / C09 end-to-end theorem is implied by a DECIDABLE condition on the test
  names alone (`NatOrd.canonB`, run by the kernel);
* `totalOn_of_canon`, `totalOn_of_slots`: `TotalOn` for such ids; the C10 sort theorems without `TotalOn`
  (`sortNat_sorted_canon`, `sort_idempotent_canon`, `sortNat_unique_canon`, `sort_supported_canon`);
* non-vacuity and sharpness: closed examples; a name with a leading zero ("Test01", as in the witness of `natLt_not_total`) is
  rejected by `canonB`.
-/
import GoSnaps.Lemmas.NaturalOrder
import GoSnaps.Lemmas.CleanWorld
import GoSnaps.Lemmas.EndToEndClean
import GoSnaps.Props.C10
namespace GoSnaps
namespace C10Order
open NatOrd
open GoSnaps.C03 (testID)
open GoSnaps.CleanWorld (tidOf_of_id tidOf_congr FileInv)

/-! ## the decimal rendering of an ordinal is a canonical numeral -/

theorem val_snoc (l : Text) (c : Byte) : val (l ++ [c]) = val l * 10 + (c.toNat - 48) := by
  simp [val, List.foldl_append]

theorem allDig_snoc {l : Text} {c : Byte} (hl : AllDig l) (hc : isDigit c = true) : AllDig (l ++ [c]) := by
  intro x hx
  simp only [List.mem_append, List.mem_singleton] at hx
  rcases hx with h | rfl
  · exact hl x h
  · exact hc

theorem digit_isDigit' (n : Nat) : isDigit (UInt8.ofNat (48 + n % 10)) = true := by
  rw [isDigit_iff, digit_toNat]
  have : n % 10 < 10 := Nat.mod_lt _ (by omega)
  omega

/-- `strconv.Itoa`: digits only, the value is `n`, no leading zero unless it is the single digit `0` -/
theorem natToTextAux_canon (fuel n : Nat) (acc : Text) (h : n < fuel) :
    ∃ d ds, natToTextAux fuel n acc = d :: ds ++ acc ∧ AllDig (d :: ds) ∧ (ds = [] ∨ d.toNat ≠ 48) ∧
      val (d :: ds) = n := by
  induction fuel generalizing n acc with
  | zero => omega
  | succ f ih =>
    simp only [natToTextAux]
    have hm : n % 10 < 10 := Nat.mod_lt _ (by omega)
    split
    · rename_i hn
      refine ⟨UInt8.ofNat (48 + n % 10), [], by simp, ?_, Or.inl rfl, ?_⟩
      · intro c hc
        simp only [List.mem_singleton] at hc
        rw [hc]; exact digit_isDigit' n
      · simp only [val, List.foldl_cons, List.foldl_nil, digit_toNat]; omega
    · rename_i hn
      obtain ⟨d, ds, h1, h2, h3, h4⟩ := ih (n / 10) (UInt8.ofNat (48 + n % 10) :: acc) (by omega)
      refine ⟨d, ds ++ [UInt8.ofNat (48 + n % 10)], by rw [h1]; simp, ?_, Or.inr ?_, ?_⟩
      · have := allDig_snoc h2 (digit_isDigit' n)
        simpa using this
      · rcases h3 with h3 | h3
        · subst h3
          have hd := h2.head
          simp only [val, List.foldl_cons, List.foldl_nil] at h4
          omega
        · exact h3
      · have : d :: (ds ++ [UInt8.ofNat (48 + n % 10)]) = (d :: ds) ++ [UInt8.ofNat (48 + n % 10)] := rfl
        rw [this, val_snoc, h4, digit_toNat]; omega

theorem natToText_canonRun (k : Nat) (hk : k < 10 ^ 19) :
    AllDig (natToText k) ∧ CanonRun (natToText k) := by
  obtain ⟨d, ds, h1, h2, h3, h4⟩ := natToTextAux_canon (k + 1) k [] (by omega)
  have e : natToText k = d :: ds := by simpa [natToText] using h1
  rw [e]
  refine ⟨h2, ?_, h3⟩
  rcases h3 with h3 | h3
  · subst h3; simp
  · have lo := val_run_lower h2 h3
    rw [h4] at lo
    apply Classical.byContradiction
    intro hlen
    have : 10 ^ 19 ≤ 10 ^ ds.length := Nat.pow_le_pow_right (by decide) (by omega)
    omega

theorem canon_natToText (k : Nat) (hk : k < 10 ^ 19) : Canon (natToText k) :=
  let ⟨h1, h2⟩ := natToText_canonRun k hk
  Canon.ofRun h1 h2

/-- the id of slot `(name, k)` — what `getTestID` extracts from the header `[name - k]` -/
def tid (name : Text) (k : Nat) : Text := name ++ [32, 45, 32] ++ natToText k

theorem canon_tid {name : Text} {k : Nat} (hn : Canon name) (hk : k < 10 ^ 19) : Canon (tid name k) := by
  have h : tid name k = name ++ 32 :: (45 :: 32 :: natToText k) := by simp [tid]
  rw [h]
  exact Canon.append (by decide) hn
    (Canon.cons_byte (by decide) (Canon.cons_byte (by decide) (Canon.cons_byte (by decide) (canon_natToText k hk))))

theorem totalOn_of_canon {l : List Text} (h : ∀ x ∈ l, Canon x) : TotalOn l where
  trans a ha b hb c hc := natLt_trans (h a ha) (h b hb) (h c hc)
  total a ha b hb := natLt_total (h a ha) (h b hb)

/-- the ids of a snapshot file whose headers are `[name - k]` with canonical names: the sort step of
    `Clean` works with a strict total order -/
theorem totalOn_of_slots {es : List Entry}
    (h : ∀ e ∈ es, ∃ name k, e.id = testID name k ∧ Canon name ∧ k < 10 ^ 19) :
    TotalOn (es.map tidOf) := by
  apply totalOn_of_canon
  intro x hx
  obtain ⟨e, he, rfl⟩ := List.mem_map.mp hx
  obtain ⟨name, k, hid, hn, hk⟩ := h e he
  rw [tidOf_of_id hid]
  exact canon_tid hn hk

/-- the same for the file a run leaves (`FileInv`, `Lemmas/EndToEndClean.lean`: every header is a header of the
    initial file or `[t - k]` for a called test `t`): the `total` field of `FileAfter` — the one hypothesis of
    the C07 / C09 / C10 end-to-end theorems that is not about the inputs — follows from canonical ids in the
    initial file, canonical names of the called tests and ordinals below 10^19 -/
theorem totalOn_of_fileInv {es₀ es : List Entry} {N T : List Text} (hinv : FileInv es₀ N T es)
    (h₀ : ∀ e ∈ es₀, Canon (tidOf e)) (hN : ∀ t ∈ N, Canon t)
    (hk : ∀ o ∈ es, ∀ t k, o.id = testID t k → k < 10 ^ 19) : TotalOn (es.map tidOf) := by
  apply totalOn_of_canon
  intro x hx
  obtain ⟨o, ho, rfl⟩ := List.mem_map.mp hx
  rcases hinv.ids o ho with hi | ⟨t, ht, k, hi⟩
  · obtain ⟨o₀, ho₀, e⟩ := List.mem_map.mp hi
    rw [tidOf_congr e.symm]
    exact h₀ o₀ ho₀
  · rw [tidOf_of_id hi]
    exact canon_tid (hN t ht) (hk o ho t k hi)

/-! ## the sort theorems of C10 for canonical ids, without `TotalOn` -/

theorem sortNat_sorted_canon (l : List Text) (h : ∀ x ∈ l, Canon x) : allPairsOrdered (sortNat l) = true :=
  C10.sortNat_sorted l (totalOn_of_canon h)

theorem isSortedNat_sortNat_canon (l : List Text) (h : ∀ x ∈ l, Canon x) : isSortedNat (sortNat l) = true :=
  C10.isSortedNat_sortNat l (totalOn_of_canon h)

theorem sort_idempotent_canon (l : List Text) (h : ∀ x ∈ l, Canon x) : sortNat (sortNat l) = sortNat l :=
  C10.sort_idempotent l (totalOn_of_canon h)

theorem sortNat_perm_invariant_canon (l₁ l₂ : List Text) (h : ∀ x ∈ l₁, Canon x) (hp : l₁.Perm l₂) :
    sortNat l₁ = sortNat l₂ :=
  C10.sortNat_perm_invariant l₁ l₂ (totalOn_of_canon h) hp

theorem sortNat_of_sorted_canon (l : List Text) (h : ∀ x ∈ l, Canon x) (hs : isSortedNat l = true) :
    sortNat l = l :=
  C10.sortNat_of_sorted l (totalOn_of_canon h) hs

theorem sortNat_unique_canon (l l' : List Text) (h : ∀ x ∈ l, Canon x) (hp : l'.Perm l)
    (hs : allPairsOrdered l' = true) : l' = sortNat l :=
  C10.sortNat_unique l l' (totalOn_of_canon h) hp hs

/-- for canonical ids the sort step of the model's `examineSnaps` never answers `.unsupportedOrder` -/
theorem sort_supported_canon (l : List Text) (h : ∀ x ∈ l, Canon x) :
    (allPairsOrdered (sortNat l) && pairwiseComparable (sortNat l)) = true :=
  C10.sort_supported l (totalOn_of_canon h)

/-! ## the slots of one test are sorted by their ordinals, numerically -/

theorem lexLt_append_left : ∀ (p a b : List Tok), lexLt (p ++ a) (p ++ b) = lexLt a b
  | [], _, _ => rfl
  | t :: p, a, b => by
    simp only [List.cons_append]
    rw [lexLt_cons_same, lexLt_append_left p a b]

theorem key_append {c : Byte} (hc : isDigit c = false) (a b : Text) : key (a ++ c :: b) = key a ++ key (c :: b) := by
  simp [key, toks_append hc b _ a (Nat.le_refl _)]

theorem key_run {ds : Text} (hd : AllDig ds) (hne : ds ≠ []) : key ds = [.num (val ds)] := by
  cases ds with
  | nil => exact absurd rfl hne
  | cons d rest =>
    rw [key_digit rest (hd d (by simp)), takeWhile_allDig hd.tail, dropWhile_allDig hd.tail, key_nil]

theorem val_natToText (k : Nat) : val (natToText k) = k := by
  obtain ⟨d, ds, h1, _, _, h4⟩ := natToTextAux_canon (k + 1) k [] (by omega)
  have e : natToText k = d :: ds := by simpa [natToText] using h1
  rw [e, h4]

theorem key_tid (name : Text) (k : Nat) (hk : k < 10 ^ 19) :
    key (tid name k) = key name ++ [.byte 32, .byte 45, .byte 32, .num k] := by
  have h : tid name k = name ++ 32 :: (45 :: 32 :: natToText k) := by simp [tid]
  rw [h, key_append (by decide), key_byte _ (by decide), key_byte _ (by decide), key_byte _ (by decide),
    key_run (natToText_canonRun k hk).1 (C03.natToText_ne_nil k), val_natToText]

/-- **`[T - 2]` stands before `[T - 10]`**: two slots of the same test compare as their ordinals do, for every
    canonical test name and all ordinals below 10^19 (so a sorted file lists a test's snapshots in call order) -/
theorem natLt_tid_same {name : Text} (hn : Canon name) {j k : Nat} (hj : j < 10 ^ 19) (hk : k < 10 ^ 19) :
    natLt (tid name j) (tid name k) = decide (j < k) := by
  rw [natLt_eq_lexLt (canon_tid hn hj) (canon_tid hn hk), key_tid name j hj, key_tid name k hk, lexLt_append_left,
    lexLt_cons_same, lexLt_cons_same, lexLt_cons_same]
  simp only [lexLt, tokLt]
  by_cases h : j < k
  · simp [h]
  · by_cases h2 : k < j
    · simp [h, h2]
    · simp [h, h2]

/-- the slots `[T - s]`, `[T - s+1]`, …, `[T - s+n-1]` of one test, in the order the calls recorded them, pass
    `slices.IsSortedFunc(ids, naturalSort)` … -/
theorem isSortedNat_slots {name : Text} (hn : Canon name) :
    ∀ (n s : Nat), s + n < 10 ^ 19 → isSortedNat ((List.range' s n).map (tid name)) = true
  | 0, _, _ => by simp [isSortedNat]
  | 1, _, _ => by simp [List.range', isSortedNat]
  | n + 2, s, h => by
    have ih := isSortedNat_slots hn (n + 1) (s + 1) (by omega)
    have h1 : natLt (tid name (s + 1)) (tid name s) = false := by
      rw [natLt_tid_same hn (by omega) (by omega)]; simp
    have e : List.range' s (n + 2) = s :: (s + 1) :: List.range' (s + 1 + 1) n := by
      simp [List.range']
    have e2 : List.range' (s + 1) (n + 1) = (s + 1) :: List.range' (s + 1 + 1) n := by
      simp [List.range']
    rw [e2] at ih
    rw [e]
    simp only [List.map_cons, isSortedNat, h1, Bool.not_false, Bool.true_and]
    simpa using ih

/-- … so `Clean` with `Sort` finds the file of a test that recorded `n` snapshots in call order already sorted: the
    sort is the identity on it (with `C10.clean_nothing_to_do`: the file is not written) -/
theorem sortNat_slots {name : Text} (hn : Canon name) (n : Nat) (h : 1 + n < 10 ^ 19) :
    sortNat ((List.range' 1 n).map (tid name)) = (List.range' 1 n).map (tid name) :=
  sortNat_of_sorted_canon _ (by
      intro x hx
      obtain ⟨k, hk, rfl⟩ := List.mem_map.mp hx
      have := List.mem_range'_1.mp hk
      exact canon_tid hn (by omega))
    (isSortedNat_slots hn n 1 h)

/-! ## non-vacuity and sharpness -/

-- "TestA/x#2" and "Test12/b_7": canonical, by running the checker in the kernel
example : Canon [84, 101, 115, 116, 65, 47, 120, 35, 50] := canonB_sound (by decide)
example : Canon [84, 101, 115, 116, 49, 50, 47, 98, 95, 55] := canonB_sound (by decide)

-- so their slots are totally ordered, whatever the ordinals below 10^19
example : TotalOn [tid [84, 101, 115, 116, 65, 47, 120, 35, 50] 3, tid [84, 101, 115, 116, 49, 50, 47, 98, 95, 55] 10,
    tid [84, 101, 115, 116, 65, 47, 120, 35, 50] 12] :=
  totalOn_of_canon (by
    intro x hx
    simp only [List.mem_cons, List.not_mem_nil, or_false] at hx
    rcases hx with rfl | rfl | rfl <;>
      exact canon_tid (canonB_sound (by decide)) (by decide))

-- "Test01" (a leading zero, as in the witness of `C10.natLt_not_total`) is rejected by the checker, "Test1" is accepted
example : canonB [84, 101, 115, 116, 48, 49] = false ∧ canonB [84, 101, 115, 116, 49] = true := by decide

-- twenty digits are rejected (`ParseUint` may overflow: `natural.Less` falls back to the byte order)
example : canonB (List.replicate 20 49) = false ∧ canonB (List.replicate 19 57) = true := by decide

/-- **the 19-digit limit is sharp**: with a run of twenty digits `strconv.ParseUint` overflows, `natural.Less` falls back
    to the byte order for that pair, and the comparator is not transitive any more:
    `x20000000000000000000 < x3 < x10 < x20000000000000000000` -/
theorem natLt_cycle_with_twenty_digits :
    let big : Text := 120 :: 50 :: List.replicate 19 48
    natLt big [120, 51] = true ∧ natLt [120, 51] [120, 49, 48] = true ∧ natLt [120, 49, 48] big = true ∧
      canonB big = false := by decide

-- the key of "a10b" : byte a, number 10, byte b
example : (toksF 4 [97, 49, 48, 98]).map tokOf = [.byte 97, .num 10, .byte 98] := by decide

end C10Order
end GoSnaps
