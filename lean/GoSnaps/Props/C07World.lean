/-
C07World — "Clean never discards a snapshot that was matched in this run", END TO END at the level
of worlds and histories: record (or replay) a history, call `Clean` in the same process, replay
the history in a fresh process.

Setting (as in `C01World.replay_history`): one test file `caller`, whose multi-entry snapshot file
is `p`; a `Scoped` history `h` of `MatchSnapshot`-style calls and `t.Cleanup`s; initial file state
`Holds fs₀ p es₀` with `Good es₀` — the entries of `es₀` MAY be stale (no call of `h` addresses
them: `hfresh`).  `Clean` is called with no `-run` filter (`runOnly = []`, so no oracle is ever
consulted: `C08.isFileSkipped_runOnly_empty`, `classified_noRun`) and `-count=1`.

Hypotheses beyond those of `replay_history`:

* `hrec₀ : ∀ e ∈ es₀, Recognised e`, `hrecH : ∀ e ∈ entriesOf h, Recognised e` — every header of
  the file is one the Go `getTestID` parses (`[name - <digits>]`, first `" - "` is the
  separator).  For the history's headers this follows from the test NAMES: `recognised_history`
  (names contain no space — `testing` rewrites spaces of sub-test names to `_`).  It is needed: a header `getTestID` does not recognise is invisible to the scan of
  `examineSnaps`, so any rewrite (prune or sort) drops that entry.
* `hsup` — the model covers the `Clean` call (`unsupported = none`); with `runOnly = []` the only
  uncovered case left is `Sort(true)` on ids on which `natural.Less` is not a total order.

No hypothesis on the mode: `env` of the process that calls `Clean` is arbitrary beyond "creating"
(needed by the record run only), so report mode, clean mode (`UPDATE_SNAPS=clean|true`) and sort
mode are all covered; `env'` of the final replay is arbitrary.

Main theorems: `run_clean_replay` (core), `record_clean_replay`, `replay_clean_replay`,
`recognised_history`; concrete instance `Ex` at the end.
-/
import GoSnaps.Lemmas.CleanWorld
import GoSnaps.Props.C05Clean

namespace GoSnaps.C07World

open GoSnaps GoSnaps.C06Refine GoSnaps.Wld GoSnaps.C01World GoSnaps.CleanWorld
open GoSnaps.C03 (testID)
open GoSnaps.Generated (Env shouldCreate)

/-- **Core.**  Process 1 runs the history `h` (ANY environment `env₁` / config `c₁` addressing
`p`, from fresh registries on the file system `fs₁`) and afterwards `p` holds a `Good` entry list
`es` of recognised headers that contains all the history's entries.  `Clean` is then called in that
process (`runOnly = []`, `-count=1`, any `sortOpt`, any mode) and is covered by the model.  Then

1. a replay of `h` in a fresh process — ANY `env'`, any config addressing `p` — is entirely
   `Silent` (no event, no write, no removal), leaves the file system as `Clean` left it, and made
   one output per call;
2. `p` is not among the removed files;
3. `p` holds again a `Good` `CleanFile` `es'`, made of entries of `es` (same header, same body)
   and containing every entry of the history;
4. no id of the history is reported obsolete: for the `obsTests` of THE run of `Clean` (the
   `CleanRun` record is unique, its fields are function values);
5. every other path that was not removed reads as before. -/
theorem run_clean_replay (o : Oracles) (env₁ env' : Env) (c₁ c' : Cfg)
    (caller₁ caller' p rel₁ rel' : Text) (fs₁ : FS) (es : List Entry) (h : List Step)
    (sortOpt : Bool)
    (hsp₁ : ∀ t, snapshotPath c₁ caller₁ t false = (p, some rel₁))
    (hsp' : ∀ t, snapshotPath c' caller' t false = (p, some rel'))
    (hscoped : Scoped [] h)
    (hfile : Holds (run c₁ caller₁ { env := env₁, fs := fs₁ } h).1.fs p es)
    (hgood : Good es) (hrec : ∀ e ∈ es, Recognised e) (hall : ∀ e ∈ entriesOf h, e ∈ es)
    (hsup : (clean o (run c₁ caller₁ { env := env₁, fs := fs₁ } h).1 sortOpt [] 1).2.unsupported
      = none) :
    let w := (run c₁ caller₁ { env := env₁, fs := fs₁ } h).1
    let cl := clean o w sortOpt [] 1
    let rep := replayRun env' c' caller' cl.1 h
    (∀ out ∈ rep.2, Silent out) ∧ rep.1.fs = cl.1.fs ∧ rep.2.length = (calledNames h).length ∧
    p ∉ cl.2.removed ∧
    (∃ es', Holds cl.1.fs p es' ∧ Good es' ∧ CleanFile es' ∧ (∀ e ∈ entriesOf h, e ∈ es') ∧
      (∀ e ∈ es', e ∈ es)) ∧
    (∀ sa fr obsT fs wr, CleanRun o w sortOpt [] 1 sa fr obsT fs wr →
      ∀ e ∈ entriesOf h, tidOf e ∉ obsT) ∧
    (∀ q, q ≠ p → q ∉ cl.2.removed → fsRead cl.1.fs q = fsRead w.fs q) := by
  intro w cl rep
  have hreg : RegInv p w ((calledNames h).reverse ++ []) :=
    run_regInv c₁ caller₁ p (fun t => by rw [hsp₁ t]) h _ [] (RegInv.fresh p env₁ fs₁)
  obtain ⟨sa, fr, obsT, fs, wr, crun⟩ := clean_supported o w sortOpt [] 1 hsup
  have hcov : ∀ e ∈ entriesOf h, ∃ t k n, e.id = testID t k ∧ 1 ≤ k ∧ k ≤ n / 1 ∧
      ((p, t), n) ∈ w.cleanup := by
    intro e he
    obtain ⟨t, k, h1, h2, h3, h4⟩ := entriesFrom_bound h [] e he
    refine ⟨t, k, ((calledNames h).reverse ++ []).count t, h1, h2, ?_, hreg.mem t (by simp [h4])⟩
    simpa using h3
  have hf : CleanFile es := cleanFile_of_good hgood hrec
  have key := fun sa fr obsT fs wr crun =>
    clean_keeps_of_kept o w sortOpt [] 1 p es (entriesOf h) hreg.keys hreg.sclean
      (fun registered hr e he =>
        let ⟨_, _, _, hid, hk1, hk2, hm⟩ := hcov e he
        kept_of_covered o w.cleanup w.skipped [] 1 p registered hr hid hk1 hk2 hm)
      (fun registered e _ => classified_noRun o registered w.skipped _) hf hfile hall sa fr obsT fs wr crun
  obtain ⟨k1, _, ⟨es', e1, e2, e3, e4⟩, k4⟩ := key _ _ _ _ _ crun
  have hcl1 : cl.1.fs = fs := by
    show (clean o w sortOpt [] 1).1.fs = fs
    rw [crun.result]
  have hrem : cl.2.removed = fr.removed := by
    show (clean o w sortOpt [] 1).2.removed = fr.removed
    rw [crun.result]
  have hg' : Good es' := good_of_subset hgood e4 e1.distinct
  have e2' : Holds cl.1.fs p es' := by rw [hcl1]; exact e2
  obtain ⟨q1, q2, q3⟩ := replay_run c' caller' p rel' hsp' es' hg' h
    { env := env', fs := cl.1.fs } [] (Inv.fresh p env' _ h) hscoped e2' (fun e he => e3 e he)
  refine ⟨q2, q1, q3, by rw [hrem]; exact k1, ⟨es', e2', hg', e1, e3, e4⟩, ?_, ?_⟩
  · intro sa fr obsT fs wr crun'
    exact (key _ _ _ _ _ crun').2.1
  · intro q hq hqr
    rw [hcl1]
    exact k4 q hq (by rw [← hrem]; exact hqr)

/-- **`record_clean_replay`** (C07, end to end).  Hypotheses of `C01World.replay_history` (scoped
history, `Good` initial file that contains none of the history's headers — its entries are stale
for this run —, usable names and texts, NoShadow, creating mode) plus: all headers are recognised
by `getTestID` (`hrec₀`, `hrecH`; the latter from the names by `recognised_history`) and `Clean` is
covered by the model.  Conclusions 1–5 of `run_clean_replay`, with `es = es₀ ++ entriesOf h`:
in report mode, clean mode and sort mode alike the replay after `Clean` is entirely silent, the
file `p` is not removed, none of the history's ids is reported obsolete, and the file still holds
every entry of the history unchanged (what may have gone are stale entries of `es₀`). -/
theorem record_clean_replay (o : Oracles) (env env' : Env) (c c' : Cfg)
    (caller caller' p rel rel' : Text) (fs₀ : FS) (es₀ : List Entry) (h : List Step)
    (sortOpt : Bool)
    (hsp : ∀ t, snapshotPath c caller t false = (p, some rel))
    (hsp' : ∀ t, snapshotPath c' caller' t false = (p, some rel'))
    (hscoped : Scoped [] h)
    (hfile : Holds fs₀ p es₀) (hgood : Good es₀)
    (hfresh : ∀ id ∈ headers h, id ∉ fileLines es₀)
    (hnames : ∀ t ∈ calledNames h, NoNL t)
    (hbodies : ∀ s ∈ texts h, GoodBody s)
    (hns : ∀ s ∈ texts h, ∀ id ∈ ids es₀ ++ headers h, id ∉ lines s)
    (hcreate : shouldCreate env c.update = true)
    (hrec₀ : ∀ e ∈ es₀, Recognised e) (hrecH : ∀ e ∈ entriesOf h, Recognised e)
    (hsup : (clean o (recordRun env c caller fs₀ h).1 sortOpt [] 1).2.unsupported = none) :
    let rcd := recordRun env c caller fs₀ h
    let cl := clean o rcd.1 sortOpt [] 1
    let rep := replayRun env' c' caller' cl.1 h
    (∀ out ∈ rep.2, Silent out) ∧ rep.1.fs = cl.1.fs ∧ rep.2.length = (calledNames h).length ∧
    p ∉ cl.2.removed ∧
    (∃ es', Holds cl.1.fs p es' ∧ Good es' ∧ CleanFile es' ∧ (∀ e ∈ entriesOf h, e ∈ es') ∧
      (∀ e ∈ es', e ∈ es₀ ++ entriesOf h)) ∧
    (∀ sa fr obsT fs wr, CleanRun o rcd.1 sortOpt [] 1 sa fr obsT fs wr →
      ∀ e ∈ entriesOf h, tidOf e ∉ obsT) ∧
    (∀ q, q ≠ p → q ∉ cl.2.removed → fsRead cl.1.fs q = fsRead fs₀ q) := by
  intro rcd cl rep
  obtain ⟨_, r2, r3, r4, _⟩ := replay_history env env c c caller caller p rel rel fs₀ es₀ h hsp hsp
    hscoped hfile hgood hfresh hnames hbodies hns hcreate
  have hrec : ∀ e ∈ es₀ ++ entriesOf h, Recognised e := by
    intro e he
    rcases List.mem_append.mp he with he | he
    · exact hrec₀ e he
    · exact hrecH e he
  obtain ⟨a1, a2, a3, a4, a5, a6, a7⟩ := run_clean_replay o env env' c c' caller caller' p rel rel'
    fs₀ (es₀ ++ entriesOf h) h sortOpt hsp hsp' hscoped r2 r3 hrec
    (fun e he => List.mem_append.mpr (Or.inr he)) hsup
  refine ⟨a1, a2, a3, a4, a5, a6, ?_⟩
  intro q hq hqr
  exact (a7 q hq hqr).trans (r4 q hq)

/-- **`replay_clean_replay`.**  Process 1 records `h` (hypotheses of `replay_history`); process 2
— fresh registries, ANY environment `env₂` and config `c₂` addressing `p` — replays `h` and then
calls `Clean`; process 3 — fresh again, ANY `env'`, `c'` — replays `h`.  Both replays are entirely
silent, and conclusions 2–5 of `run_clean_replay` hold for the `Clean` of process 2. -/
theorem replay_clean_replay (o : Oracles) (env env₂ env' : Env) (c c₂ c' : Cfg)
    (caller caller₂ caller' p rel rel₂ rel' : Text) (fs₀ : FS) (es₀ : List Entry) (h : List Step)
    (sortOpt : Bool)
    (hsp : ∀ t, snapshotPath c caller t false = (p, some rel))
    (hsp₂ : ∀ t, snapshotPath c₂ caller₂ t false = (p, some rel₂))
    (hsp' : ∀ t, snapshotPath c' caller' t false = (p, some rel'))
    (hscoped : Scoped [] h)
    (hfile : Holds fs₀ p es₀) (hgood : Good es₀)
    (hfresh : ∀ id ∈ headers h, id ∉ fileLines es₀)
    (hnames : ∀ t ∈ calledNames h, NoNL t)
    (hbodies : ∀ s ∈ texts h, GoodBody s)
    (hns : ∀ s ∈ texts h, ∀ id ∈ ids es₀ ++ headers h, id ∉ lines s)
    (hcreate : shouldCreate env c.update = true)
    (hrec₀ : ∀ e ∈ es₀, Recognised e) (hrecH : ∀ e ∈ entriesOf h, Recognised e)
    (hsup : (clean o (replayRun env₂ c₂ caller₂ (recordRun env c caller fs₀ h).1 h).1
      sortOpt [] 1).2.unsupported = none) :
    let rcd := recordRun env c caller fs₀ h
    let rep₂ := replayRun env₂ c₂ caller₂ rcd.1 h
    let cl := clean o rep₂.1 sortOpt [] 1
    let rep := replayRun env' c' caller' cl.1 h
    (∀ out ∈ rep₂.2, Silent out) ∧ rep₂.1.fs = rcd.1.fs ∧
    (∀ out ∈ rep.2, Silent out) ∧ rep.1.fs = cl.1.fs ∧ rep.2.length = (calledNames h).length ∧
    p ∉ cl.2.removed ∧
    (∃ es', Holds cl.1.fs p es' ∧ Good es' ∧ CleanFile es' ∧ (∀ e ∈ entriesOf h, e ∈ es') ∧
      (∀ e ∈ es', e ∈ es₀ ++ entriesOf h)) ∧
    (∀ sa fr obsT fs wr, CleanRun o rep₂.1 sortOpt [] 1 sa fr obsT fs wr →
      ∀ e ∈ entriesOf h, tidOf e ∉ obsT) ∧
    (∀ q, q ≠ p → q ∉ cl.2.removed → fsRead cl.1.fs q = fsRead fs₀ q) := by
  intro rcd rep₂ cl rep
  obtain ⟨_, r2, r3, r4, r5, r6, _, _⟩ := replay_history env env₂ c c₂ caller caller₂ p rel rel₂ fs₀
    es₀ h hsp hsp₂ hscoped hfile hgood hfresh hnames hbodies hns hcreate
  have hrec : ∀ e ∈ es₀ ++ entriesOf h, Recognised e := by
    intro e he
    rcases List.mem_append.mp he with he | he
    · exact hrec₀ e he
    · exact hrecH e he
  have hfile₂ : Holds rep₂.1.fs p (es₀ ++ entriesOf h) := by
    show Holds (replayRun env₂ c₂ caller₂ (recordRun env c caller fs₀ h).1 h).1.fs p _
    rw [r6]; exact r2
  obtain ⟨a1, a2, a3, a4, a5, a6, a7⟩ := run_clean_replay o env₂ env' c₂ c' caller₂ caller' p rel₂
    rel' (recordRun env c caller fs₀ h).1.fs (es₀ ++ entriesOf h) h sortOpt hsp₂ hsp' hscoped hfile₂
    r3 hrec (fun e he => List.mem_append.mpr (Or.inr he)) hsup
  refine ⟨r5, r6, a1, a2, a3, a4, a5, a6, ?_⟩
  intro q hq hqr
  have h1 : fsRead rep₂.1.fs q = fsRead rcd.1.fs q := by
    show fsRead (replayRun env₂ c₂ caller₂ (recordRun env c caller fs₀ h).1 h).1.fs q = _
    rw [r6]
  exact ((a7 q hq hqr).trans h1).trans (r4 q hq)

theorem indexOf_go_sep (a b : Text) (n : Nat) (ha : (32 : Byte) ∉ a) :
    indexOf.go [32, 45, 32] (a ++ [32, 45, 32] ++ b) n = some (n + a.length) := by
  induction a generalizing n with
  | nil => simp [indexOf.go]
  | cons x a ih =>
    have hx : (32 : Byte) ≠ x := fun e => ha (by simp [e])
    have ha' : (32 : Byte) ∉ a := fun e => ha (by simp [e])
    simp only [List.cons_append, indexOf.go]
    have hp : List.isPrefixOf [32, 45, 32] (x :: (a ++ [32, 45, 32] ++ b)) = false := by
      simp [List.isPrefixOf, hx]
    simp only [List.append_assoc, List.cons_append, List.nil_append] at hp ih ⊢
    rw [hp]
    simp only [Bool.false_eq_true, ↓reduceIte]
    rw [ih (n + 1) ha']
    simp only [List.length_cons]
    congr 1; omega

/-- **`getTestID` parses back the header of every test whose name contains no space** (Go test
names never do: `testing` rewrites the spaces of sub-test names to `_`), whatever the name starts
with (`Test…`, `Fuzz…`, `Benchmark…`) -/
theorem getTestID_testID (t : Text) (k : Nat) (hsp : (32 : Byte) ∉ t) :
    getTestID (testID t k) = some (t ++ [32, 45, 32] ++ natToText k) := by
  have hb : testID t k = (91 :: t) ++ [32, 45, 32] ++ (natToText k ++ [93]) := by simp [testID]
  have h1 : testID t k ≠ [] := C03.testID_ne_nil t k
  have h2 : hasPrefix (testID t k) Generated.headerPrefix = true := by
    simp [testID, hasPrefix, Generated.headerPrefix]
  have h3 : (testID t k).getLast? = some 93 := by
    rw [hb, ← List.append_assoc]; exact List.getLast?_concat
  have h4 : indexOf (testID t k) Generated.idSep = some (t.length + 1) := by
    show indexOf.go [32, 45, 32] (testID t k) 0 = _
    have h32 : (32 : Byte) ∉ (91 :: t) := by
      intro hm
      rcases List.mem_cons.mp hm with h | h
      · exact absurd h (by decide)
      · exact hsp h
    rw [hb, indexOf_go_sep (91 :: t) _ 0 h32]
    simp
  have hA : ((91 :: t) ++ [32, 45, 32]).length = t.length + 1 + 3 := by rw [List.length_append]; rfl
  have hlen : (testID t k).length = t.length + 1 + 3 + (natToText k).length + 1 := by
    rw [hb]; simp only [List.length_append, List.length_cons, List.length_nil]; omega
  have h5 : ((testID t k).drop (t.length + 1 + 3)).take
      ((testID t k).length - 1 - (t.length + 1 + 3)) = natToText k := by
    rw [hlen, hb, List.drop_left' hA]
    have : t.length + 1 + 3 + (natToText k).length + 1 - 1 - (t.length + 1 + 3) =
        (natToText k).length := by omega
    rw [this, List.take_left' rfl]
  have h6 : isNumber (natToText k) = true := by
    simp only [isNumber, List.all_eq_true, isDigit, Bool.and_eq_true, decide_eq_true_eq]
    exact C03.natToText_digits k
  have h7 : ((testID t k).drop 1).take ((testID t k).length - 2) =
      t ++ [32, 45, 32] ++ natToText k := tidOf_testID t [] k
  have hsl : Generated.idSep.length = 3 := rfl
  have hlo : ¬ (t.length + 1 + 3 > (testID t k).length - 1) := by rw [hlen]; omega
  unfold getTestID
  rw [if_neg h1]
  simp only [h2, h3, h4, hsl, Bool.not_true, ne_eq, not_true_eq_false, decide_false, Bool.or_self,
    Bool.false_eq_true, ↓reduceIte, hlo, h5, h6, h7]

theorem recognised_testID (t s : Text) (k : Nat) (hsp : (32 : Byte) ∉ t) : Recognised ⟨testID t k, s⟩ := by
  unfold Recognised
  rw [getTestID_testID t k hsp, tidOf_testID]

/-- **all headers of a history are recognised** when the test names contain no space: discharges
`hrecH` of the main theorems -/
theorem recognised_history (h : List Step)
    (hn : ∀ t ∈ calledNames h, (32 : Byte) ∉ t) :
    ∀ e ∈ entriesOf h, Recognised e := by
  intro e he
  obtain ⟨t, k, hid, _, ht⟩ := entriesFrom_ids h [] e he
  have h2 := hn t ht
  have : e = ⟨testID t k, e.body⟩ := by cases e; simp only at hid; rw [hid]
  rw [this]
  exact recognised_testID t e.body k h2

/-- … it IS needed: the sub-test name `Test/a - b` contains the separator, `getTestID` stops at
the first `" - "`, finds `b - 1` where it expects digits, and does not recognise the header; a
name that does not start with `Test` is recognised -/
example :
    getTestID (testID [84, 101, 115, 116, 47, 97, 32, 45, 32, 98] 1) = none ∧
    getTestID (testID [65] 1) = some [65, 32, 45, 32, 49] ∧
    getTestID (testID [84, 101, 115, 116, 65] 12) =
      some [84, 101, 115, 116, 65, 32, 45, 32, 49, 50] := by decide

/-! ## a concrete instance (non-vacuity)

Test file "/t/a_test.go" (snapshot file `exPath` = "/t/__snapshots__/a_test.snap").  The file
initially holds ONE STALE entry "[TestZ - 1]" (body "q") that no call of the run addresses.
History (as `C01World.exHistory`, with recognisable names): tests "TestA" (`testing.T` number 1)
and "TestB" (number 2, parallel, interleaved); TestA records "x" and "x\n\ny" and is `done` before
TestB's last call; TestB records "z" and "zz".  The process runs off CI with `UPDATE_SNAPS=clean`
(`cleanSnapsUpdate = true`) and calls `Clean` with `Sort(true)`.

(`Scoped` forbids calling a name again after ITS `testing.T` is done — with `-count=1` every test
function runs once —, so "executed twice" is represented by the two calls of each test, which get
ordinals 1 and 2.)

Byte legend: `[84,101,115,116,65]` = "TestA", `…66` = "TestB", `…90` = "TestZ". -/

namespace Ex

def tA : Text := [84, 101, 115, 116, 65]
def tB : Text := [84, 101, 115, 116, 66]
def tZ : Text := [84, 101, 115, 116, 90]

def hist : List Step :=
  [.call tA [120] .escaped 1, .call tB [122] .raw 2, .call tA [120, 10, 10, 121] .escaped 1,
   .done 1, .call tB [122, 122] .raw 2, .done 2]

def es₀ : List Entry := [⟨testID tZ 1, [113]⟩]
def fs₀ : FS := [(exPath, render es₀)]

def envClean : Env := ⟨false, "clean"⟩

example : Generated.cleanSnapsUpdate envClean true = true ∧
    Generated.cleanSnapsSort envClean true = true ∧ Generated.cleanFilesUpdate envClean true = true := by
  decide

example : entriesOf hist =
    [⟨testID tA 1, [120]⟩, ⟨testID tB 1, [122]⟩, ⟨testID tA 2, [120, 10, 10, 121]⟩,
     ⟨testID tB 2, [122, 122]⟩] := by decide +kernel

/-- all hypotheses of `record_clean_replay` hold, `hsup` included … -/
structure Hyps : Prop where
  inScope : Scoped [] hist
  file : Holds fs₀ exPath es₀
  good : Good es₀
  fresh : ∀ id ∈ headers hist, id ∉ fileLines es₀
  names : ∀ t ∈ calledNames hist, NoNL t
  bodies : ∀ s ∈ texts hist, GoodBody s
  noShadow : ∀ s ∈ texts hist, ∀ id ∈ ids es₀ ++ headers hist, id ∉ lines s
  create : shouldCreate envClean ({} : Cfg).update = true
  rec₀ : ∀ e ∈ es₀, Recognised e
  recH : ∀ e ∈ entriesOf hist, Recognised e
  sup : (clean {} (recordRun envClean {} exCaller fs₀ hist).1 true [] 1).2.unsupported = none

theorem hyps : Hyps :=
  ⟨by decide +kernel, Or.inl (by decide +kernel), by decide +kernel, by decide +kernel,
   by decide +kernel, by decide +kernel, by decide +kernel, by decide, by decide +kernel,
   recognised_history hist (by decide +kernel), by decide +kernel⟩

/-- … so the theorem applies (final replay on CI with UPDATE_SNAPS=true) … -/
example :=
  record_clean_replay {} envClean ⟨true, "true"⟩ {} {} exCaller exCaller exPath exRel exRel
    fs₀ es₀ hist true exPath_spec exPath_spec hyps.inScope hyps.file hyps.good hyps.fresh
    hyps.names hyps.bodies hyps.noShadow hyps.create
    hyps.rec₀ hyps.recH hyps.sup

/-- … and this is what happens, by evaluation: the record run appends the four entries after the
stale one; `Clean` prunes the stale one and writes the file SORTED (A1, A2, B1, B2);
nothing is removed; the replay in a fresh process is silent and leaves the file system alone -/
example :
    let rcd := recordRun envClean {} exCaller fs₀ hist
    let cl := clean {} rcd.1 true [] 1
    let rep := replayRun ⟨true, "true"⟩ {} exCaller cl.1 hist
    fsRead rcd.1.fs exPath = some (render (es₀ ++ entriesOf hist)) ∧
    cl.2.unsupported = none ∧ cl.2.writes = [exPath] ∧ cl.2.removed = [] ∧
    cl.1.fs = [(exPath, render [⟨testID tA 1, [120]⟩, ⟨testID tA 2, [120, 10, 10, 121]⟩,
      ⟨testID tB 1, [122]⟩, ⟨testID tB 2, [122, 122]⟩])] ∧
    rep.2.map (·.events) = List.replicate 4 [] ∧ rep.2.map (·.writes) = List.replicate 4 [] ∧
    rep.1.fs = cl.1.fs := by decide +kernel

/-- the same history in REPORT mode with `Sort(true)` (off CI, `UPDATE_SNAPS` unset): the stale
entry is kept, the file is sorted, the replay is silent again -/
example :
    let rcd := recordRun ⟨false, ""⟩ {} exCaller fs₀ hist
    let cl := clean {} rcd.1 true [] 1
    let rep := replayRun ⟨true, "true"⟩ {} exCaller cl.1 hist
    cl.2.unsupported = none ∧ cl.2.writes = [exPath] ∧ cl.2.removed = [] ∧
    cl.1.fs = [(exPath, render [⟨testID tA 1, [120]⟩, ⟨testID tA 2, [120, 10, 10, 121]⟩,
      ⟨testID tB 1, [122]⟩, ⟨testID tB 2, [122, 122]⟩, ⟨testID tZ 1, [113]⟩])] ∧
    rep.2.map (·.events) = List.replicate 4 [] ∧ rep.1.fs = cl.1.fs := by decide +kernel

/-- process 2 replays and cleans (clean mode), process 3 replays (on CI): `replay_clean_replay` applies; its
`hsup` by evaluation -/
example :=
  replay_clean_replay {} envClean envClean ⟨true, "true"⟩ {} {} {} exCaller exCaller exCaller exPath
    exRel exRel exRel fs₀ es₀ hist true exPath_spec exPath_spec exPath_spec hyps.inScope hyps.file
    hyps.good hyps.fresh hyps.names hyps.bodies hyps.noShadow
    hyps.create hyps.rec₀ hyps.recH (by decide +kernel)

/-- `hrecH` is needed: a (mock) test named "A - b" records "[A - b - 1]", which `getTestID` does
not recognise (it stops at the first separator); pruning the stale "[TestZ - 1]" rewrites the file
from the scanned ids only, the entry is gone, and the replay (on CI) fails with "snapshot not found" -/
example :
    let h : List Step := [.call [65, 32, 45, 32, 98] [120] .raw 1]
    let rcd := recordRun envClean {} exCaller fs₀ h
    let cl := clean {} rcd.1 false [] 1
    let rep := replayRun ⟨true, ""⟩ {} exCaller cl.1 h
    ¬ (∀ e ∈ entriesOf h, Recognised e) ∧
    fsRead rcd.1.fs exPath = some (render (es₀ ++ entriesOf h)) ∧
    cl.2.unsupported = none ∧ cl.2.writes = [exPath] ∧ fsRead cl.1.fs exPath = some [] ∧
    rep.2.map (·.events) = [[.error errNotFound]] := by decide +kernel

end Ex

/-
Axioms (checked with `#print axioms` on Lean 4.33.0):

  'GoSnaps.C07World.run_clean_replay'    depends on axioms: [propext, Classical.choice, Quot.sound]
  'GoSnaps.C07World.record_clean_replay' depends on axioms: [propext, Classical.choice, Quot.sound]
  'GoSnaps.C07World.replay_clean_replay' depends on axioms: [propext, Classical.choice, Quot.sound]
  'GoSnaps.C07World.recognised_history'  depends on axioms: [propext, Quot.sound]
  'GoSnaps.C07World.getTestID_testID'    depends on axioms: [propext, Quot.sound]
  'GoSnaps.C07World.Ex.hyps'             depends on axioms: [propext, Quot.sound]
-/

end GoSnaps.C07World
