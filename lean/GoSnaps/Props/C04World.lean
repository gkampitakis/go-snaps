/-
C04World — update mode rewrites only what differs, at the level of CALLS of `entryTail` /
`matchEntry` / `standaloneTail` (`GoSnaps/Model.lean`).

Byte legend: `[47,115]` = "/s", 120/121/122 = 'x'/'y'/'z', `[110,10,10,119]` = "n\n\nw".
-/
import GoSnaps.Props.C01World
import GoSnaps.Props.C02World

namespace GoSnaps.C04World

open GoSnaps GoSnaps.C06Refine GoSnaps.Wld
open GoSnaps.C03 (testID)
open GoSnaps.Generated (Env shouldCreate shouldUpdate)

/-- ANY new text `s`: no hypothesis on it -/
theorem entryTail_update_eq (w : World) (c : Cfg) (p rel id s s₀ : Text) (cmp : Cmp)
    (pre post : List Entry)
    (hfile : Holds w.fs p (pre ++ ⟨id, s₀⟩ :: post)) (hgood : Good (pre ++ ⟨id, s₀⟩ :: post))
    (hne : cmpText cmp s₀ ≠ cmpText cmp s)
    (hu : shouldUpdate w.env c.update = true) :
    entryTail w c p rel id s cmp =
      ({ w with fs := fsWrite w.fs p (render (pre ++ ⟨id, s⟩ :: post)),
                events := { w.events with updated := w.events.updated + 1 } },
       { events := [.log Generated.go_updatedMsg], writes := [p] }) := by
  have hf : fsRead w.fs p = some (render (pre ++ ⟨id, s₀⟩ :: post)) :=
    hfile.some_of_ne_nil (List.append_ne_nil_of_right_ne_nil _ (List.cons_ne_nil _ _))
  rw [entryTail_found_ne_upd w c p rel id s cmp s₀ _ _ hf (good_lookup_split hgood) hne hu,
    good_update_split hgood s]

/-- An updating call replaces the one body: every other entry stays byte-identical and in place.
The new file is `Good` again provided `s` is a usable body none of whose lines is a header of the
file (a body line that equals a header is known finding D9). -/
theorem entryTail_update (w : World) (c : Cfg) (p rel id s s₀ : Text) (cmp : Cmp)
    (pre post : List Entry)
    (hfile : Holds w.fs p (pre ++ ⟨id, s₀⟩ :: post)) (hgood : Good (pre ++ ⟨id, s₀⟩ :: post))
    (hne : cmpText cmp s₀ ≠ cmpText cmp s)
    (hu : shouldUpdate w.env c.update = true) :
    let r := entryTail w c p rel id s cmp
    r.2.events = [.log Generated.go_updatedMsg] ∧ r.2.writes = [p] ∧ r.2.removed = [] ∧
    r.2.unsupported = none ∧
    fsRead r.1.fs p = some (render (pre ++ ⟨id, s⟩ :: post)) ∧
    (∀ q, q ≠ p → fsRead r.1.fs q = fsRead w.fs q) ∧
    r.1.events = { w.events with updated := w.events.updated + 1 } ∧
    (GoodBody s → (∀ o ∈ pre ++ ⟨id, s₀⟩ :: post, o.id ∉ lines s) →
      Good (pre ++ ⟨id, s⟩ :: post)) := by
  intro r
  have hr : r = _ := entryTail_update_eq w c p rel id s s₀ cmp pre post hfile hgood hne hu
  rw [hr]
  exact ⟨rfl, rfl, rfl, rfl, C19.fsRead_fsWrite_same _ _ _,
    fun q hq => C19.fsRead_fsWrite_other _ _ q _ hq, rfl, good_replace (e := ⟨id, s₀⟩) hgood⟩

/-- MatchJSON instance -/
theorem entryTail_update_raw (w : World) (c : Cfg) (p rel id s s₀ : Text)
    (pre post : List Entry)
    (hfile : Holds w.fs p (pre ++ ⟨id, s₀⟩ :: post)) (hgood : Good (pre ++ ⟨id, s₀⟩ :: post))
    (hne : s ≠ s₀) (hu : shouldUpdate w.env c.update = true) :
    let r := entryTail w c p rel id s .raw
    r.2.events = [.log Generated.go_updatedMsg] ∧ r.2.writes = [p] ∧ r.2.removed = [] ∧
    r.2.unsupported = none ∧
    fsRead r.1.fs p = some (render (pre ++ ⟨id, s⟩ :: post)) ∧
    (∀ q, q ≠ p → fsRead r.1.fs q = fsRead w.fs q) ∧
    r.1.events = { w.events with updated := w.events.updated + 1 } ∧
    (GoodBody s → (∀ o ∈ pre ++ ⟨id, s₀⟩ :: post, o.id ∉ lines s) →
      Good (pre ++ ⟨id, s⟩ :: post)) :=
  entryTail_update w c p rel id s s₀ .raw pre post hfile hgood (fun h => hne h.symm) hu

/-- MatchSnapshot / MatchYAML instance -/
theorem entryTail_update_escaped (w : World) (c : Cfg) (p rel id s s₀ : Text)
    (pre post : List Entry)
    (hfile : Holds w.fs p (pre ++ ⟨id, s₀⟩ :: post)) (hgood : Good (pre ++ ⟨id, s₀⟩ :: post))
    (hne : unescape s₀ ≠ unescape s) (hu : shouldUpdate w.env c.update = true) :
    let r := entryTail w c p rel id s .escaped
    r.2.events = [.log Generated.go_updatedMsg] ∧ r.2.writes = [p] ∧ r.2.removed = [] ∧
    r.2.unsupported = none ∧
    fsRead r.1.fs p = some (render (pre ++ ⟨id, s⟩ :: post)) ∧
    (∀ q, q ≠ p → fsRead r.1.fs q = fsRead w.fs q) ∧
    r.1.events = { w.events with updated := w.events.updated + 1 } ∧
    (GoodBody s → (∀ o ∈ pre ++ ⟨id, s₀⟩ :: post, o.id ∉ lines s) →
      Good (pre ++ ⟨id, s⟩ :: post)) :=
  entryTail_update w c p rel id s s₀ .escaped pre post hfile hgood hne hu

/-- three entries, the middle one updated from "y" to "n\n\nw" with UPDATE_SNAPS=true; a second
file is left alone -/
example :
    let p : Text := [47, 115]
    let pre : List Entry := [⟨testID [65] 1, [120]⟩]
    let post : List Entry := [⟨testID [65] 3, [122]⟩]
    let w : World := { env := ⟨false, "true"⟩,
                       fs := [(p, render (pre ++ ⟨testID [65] 2, [121]⟩ :: post)), ([47, 116], [1, 2])] }
    let r := entryTail w {} p [115] (testID [65] 2) [110, 10, 10, 119] .escaped
    Good (pre ++ ⟨testID [65] 2, [121]⟩ :: post) ∧
    r.2.events = [.log Generated.go_updatedMsg] ∧ r.2.writes = [p] ∧
    fsRead r.1.fs p = some (render (pre ++ ⟨testID [65] 2, [110, 10, 10, 119]⟩ :: post)) ∧
    fsRead r.1.fs [47, 116] = some [1, 2] ∧ r.1.events.updated = 1 := by decide +kernel

/-- the same through `matchEntry`: the `k`-th call of test `t` against the recorded `[t - k]` -/
theorem matchEntry_update (w : World) (c : Cfg) (caller t : Text) (x : Nat) (cmp : Cmp)
    (s s₀ p rel : Text) (pre post : List Entry)
    (hsp : snapshotPath c caller t false = (p, some rel))
    (hfile : Holds w.fs p (pre ++ ⟨testID t (alGet w.running (p, t) + 1), s₀⟩ :: post))
    (hgood : Good (pre ++ ⟨testID t (alGet w.running (p, t) + 1), s₀⟩ :: post))
    (hne : cmpText cmp s₀ ≠ cmpText cmp s)
    (hu : shouldUpdate w.env c.update = true) :
    let r := matchEntry w c caller t x cmp (.ok s)
    r.2.events = [.log Generated.go_updatedMsg] ∧ r.2.writes = [p] ∧ r.2.removed = [] ∧
    r.2.unsupported = none ∧
    fsRead r.1.fs p =
      some (render (pre ++ ⟨testID t (alGet w.running (p, t) + 1), s⟩ :: post)) ∧
    (∀ q, q ≠ p → fsRead r.1.fs q = fsRead w.fs q) ∧
    r.1.events = { w.events with updated := w.events.updated + 1 } := by
  intro r
  have hr : r = _ := matchEntry_eq w c caller t x cmp s p rel hsp
  rw [hr]
  obtain ⟨h1, h2, h3, h4, h5, h6, h7, _⟩ :=
    entryTail_update (bumped w p t x) c p rel _ s s₀ cmp pre post hfile hgood hne hu
  exact ⟨h1, h2, h3, h4, h5, h6, h7⟩

/-- test "A" of "/t/a_test.go": its second call receives "{}" where "[A - 2]" holds "[]", with
`Update(true)` and UPDATE_SNAPS unset -/
example :
    let es : List Entry := [⟨testID [65] 1, [120]⟩, ⟨testID [65] 2, [91, 93]⟩]
    let w : World := { env := ⟨false, ""⟩, fs := [(C01World.exPath, render es)],
                       running := [((C01World.exPath, [65]), 1)] }
    let r := matchEntry w { update := some true } C01World.exCaller [65] 7 .raw (.ok [123, 125])
    r.2.events = [.log Generated.go_updatedMsg] ∧ r.2.writes = [C01World.exPath] ∧
    fsRead r.1.fs C01World.exPath =
      some (render [⟨testID [65] 1, [120]⟩, ⟨testID [65] 2, [123, 125]⟩]) ∧
    r.1.events.updated = 1 := by decide +kernel

/-- "Update mode leaves files that an immediately following read-only run passes against without
writing": `w₂` shares only the file system with the world the updating call left (so it may be on
CI or under `Update(false)`, with fresh registries); the updated entry and every OTHER entry of the
file replay silently. -/
theorem update_then_readonly (w : World) (c : Cfg) (p rel id s s₀ : Text) (cmp : Cmp)
    (pre post : List Entry)
    (hfile : Holds w.fs p (pre ++ ⟨id, s₀⟩ :: post)) (hgood : Good (pre ++ ⟨id, s₀⟩ :: post))
    (hne : cmpText cmp s₀ ≠ cmpText cmp s)
    (hu : shouldUpdate w.env c.update = true)
    (hb : GoodBody s) (hold : ∀ o ∈ pre ++ ⟨id, s₀⟩ :: post, o.id ∉ lines s)
    (w₂ : World) (hw₂ : w₂.fs = (entryTail w c p rel id s cmp).1.fs)
    (c' : Cfg) (rel' : Text) (cmp' : Cmp) :
    (let r := entryTail w₂ c' p rel' id s cmp'
     r.2.events = [] ∧ r.2.writes = [] ∧ r.2.removed = [] ∧ r.2.unsupported = none ∧
     r.1.fs = w₂.fs ∧ r.1.events = { w₂.events with passed := w₂.events.passed + 1 }) ∧
    (∀ o ∈ pre ++ post,
     let r := entryTail w₂ c' p rel' o.id o.body cmp'
     r.2.events = [] ∧ r.2.writes = [] ∧ r.2.removed = [] ∧ r.2.unsupported = none ∧
     r.1.fs = w₂.fs ∧ r.1.events = { w₂.events with passed := w₂.events.passed + 1 }) := by
  obtain ⟨_, _, _, _, hfs, _, _, hg⟩ :=
    entryTail_update w c p rel id s s₀ cmp pre post hfile hgood hne hu
  have hfile₂ : Holds w₂.fs p (pre ++ ⟨id, s⟩ :: post) := by left; rw [hw₂]; exact hfs
  have hg₂ := hg hb hold
  have key : ∀ o ∈ pre ++ ⟨id, s⟩ :: post, _ := fun o ho =>
    C01World.entryTail_replay w₂ c' p rel' o.id o.body cmp' _ hfile₂ hg₂ ho
  exact ⟨key ⟨id, s⟩ (List.mem_append_right _ List.mem_cons_self), fun o ho => key o
    (List.mem_append.mpr ((List.mem_append.mp ho).imp (fun h => h) (List.mem_cons_of_mem _)))⟩

/-- update with UPDATE_SNAPS=true, then the same call and the neighbours' calls on CI -/
example :
    let p : Text := [47, 115]
    let pre : List Entry := [⟨testID [65] 1, [120]⟩]
    let post : List Entry := [⟨testID [65] 3, [122]⟩]
    let w : World := { env := ⟨false, "true"⟩,
                       fs := [(p, render (pre ++ ⟨testID [65] 2, [121]⟩ :: post))] }
    let w₁ := (entryTail w {} p [115] (testID [65] 2) [110, 10, 10, 119] .escaped).1
    let w₂ : World := { env := ⟨true, ""⟩, fs := w₁.fs }
    (entryTail w₂ {} p [115] (testID [65] 2) [110, 10, 10, 119] .escaped).2.events = [] ∧
    (entryTail w₂ {} p [115] (testID [65] 2) [110, 10, 10, 119] .escaped).2.writes = [] ∧
    (entryTail w₂ {} p [115] (testID [65] 3) [122] .escaped).2.events = [] ∧
    (entryTail w₂ {} p [115] (testID [65] 1) [120] .raw).2.events = [] := by decide +kernel

/-- EVERY mode, update mode (`UPDATE_SNAPS=true`, `Update(true)`) included: equal compared texts
write nothing. -/
theorem pass_no_write (w : World) (c : Cfg) (p rel id s s₀ : Text) (cmp : Cmp) (es : List Entry)
    (hfile : Holds w.fs p es) (hgood : Good es) (hm : (⟨id, s₀⟩ : Entry) ∈ es)
    (heq : cmpText cmp s₀ = cmpText cmp s) :
    let r := entryTail w c p rel id s cmp
    r.2.events = [] ∧ r.2.writes = [] ∧ r.2.removed = [] ∧ r.2.unsupported = none ∧
    r.1.fs = w.fs ∧ r.1.events = { w.events with passed := w.events.passed + 1 } := by
  intro r
  have hr : r = _ := entryTail_pass w c p rel id s s₀ cmp es hfile hgood hm heq
  rw [hr]
  exact ⟨rfl, rfl, rfl, rfl, rfl, rfl⟩

theorem pass_no_write_same (w : World) (c : Cfg) (p rel id s : Text) (cmp : Cmp) (es : List Entry)
    (hfile : Holds w.fs p es) (hgood : Good es) (hm : (⟨id, s⟩ : Entry) ∈ es) :
    (entryTail w c p rel id s cmp).2.writes = [] ∧ (entryTail w c p rel id s cmp).1.fs = w.fs := by
  rw [entryTail_pass w c p rel id s s cmp es hfile hgood hm rfl]
  exact ⟨rfl, rfl⟩

/-- a call on a file that holds its entry writes exactly when it updates (the recording call, on a
file without the entry, is `C01World.entryTail_record`) -/
theorem writes_iff (w : World) (c : Cfg) (p rel id s s₀ : Text) (cmp : Cmp)
    (pre post : List Entry)
    (hfile : Holds w.fs p (pre ++ ⟨id, s₀⟩ :: post)) (hgood : Good (pre ++ ⟨id, s₀⟩ :: post)) :
    (entryTail w c p rel id s cmp).2.writes ≠ [] ↔
      (shouldUpdate w.env c.update = true ∧ cmpText cmp s₀ ≠ cmpText cmp s) := by
  constructor
  · intro hw
    by_cases heq : cmpText cmp s₀ = cmpText cmp s
    · rw [entryTail_pass w c p rel id s s₀ cmp _ hfile hgood
        (List.mem_append_right _ List.mem_cons_self) heq] at hw
      exact absurd rfl hw
    · cases hu : shouldUpdate w.env c.update with
      | true => exact ⟨rfl, heq⟩
      | false =>
        exact absurd (C02World.entryTail_mismatch w c p rel id s s₀ cmp pre post hfile hgood heq
          hu).2.2.1 hw
  · rintro ⟨hu, hne⟩
    rw [entryTail_update_eq w c p rel id s s₀ cmp pre post hfile hgood hne hu]
    exact List.cons_ne_nil _ _

/-- the four combinations on one file: (update allowed?) × (texts differ?) -/
example :
    let p : Text := [47, 115]
    let es : List Entry := [⟨testID [65] 1, [120]⟩]
    let wU : World := { env := ⟨false, "true"⟩, fs := [(p, render es)] }
    let wR : World := { env := ⟨false, ""⟩, fs := [(p, render es)] }
    (entryTail wU {} p [115] (testID [65] 1) [121] .raw).2.writes = [p] ∧
    (entryTail wU {} p [115] (testID [65] 1) [120] .raw).2.writes = [] ∧
    (entryTail wR {} p [115] (testID [65] 1) [121] .raw).2.writes = [] ∧
    (entryTail wR {} p [115] (testID [65] 1) [120] .raw).2.writes = [] := by decide +kernel

/-- UPDATE_SNAPS=true and `Update(true)`: the stored TOK-containing text is compared with itself,
nothing is written -/
example :
    let p : Text := [47, 115]
    let s : Text := [120, 10, 47, 45, 47, 45, 47, 45, 47]
    let es : List Entry := [⟨testID [65] 1, s⟩, ⟨testID [65] 2, [121]⟩]
    let w : World := { env := ⟨false, "true"⟩, fs := [(p, render es)] }
    let r := entryTail w { update := some true } p [115] (testID [65] 1) s .escaped
    r.2.events = [] ∧ r.2.writes = [] ∧ r.1.fs = w.fs := by decide +kernel

/-- a differing standalone file is overwritten with exactly the received text in update mode,
and then replays silently in any mode (`C19.standalone_replay`) -/
theorem standaloneTail_update (w : World) (c : Cfg) (p rel s prev : Text)
    (hf : fsRead w.fs p = some prev) (hne : s ≠ prev)
    (hu : shouldUpdate w.env c.update = true) :
    let r := standaloneTail w c p rel s
    r.2.events = [.log Generated.go_updatedMsg] ∧ r.2.writes = [p] ∧ r.2.removed = [] ∧
    fsRead r.1.fs p = some s ∧ (∀ q, q ≠ p → fsRead r.1.fs q = fsRead w.fs q) ∧
    r.1.events = { w.events with updated := w.events.updated + 1 } := by
  intro r
  have hr := (C02World.standaloneTail_found_ne w c p rel s prev hf hne).2
  rw [hu] at hr
  have hr' : r = _ := hr
  rw [hr']
  exact ⟨rfl, rfl, rfl, C19.fsRead_fsWrite_same _ _ _,
    fun q hq => C19.fsRead_fsWrite_other _ _ q _ hq, rfl⟩

example :
    let p : Text := [47, 115]
    let w : World := { env := ⟨false, "true"⟩, fs := [(p, [120, 13, 10])] }
    let r := standaloneTail w {} p [115] [120, 10]
    r.2.events = [.log Generated.go_updatedMsg] ∧ fsRead r.1.fs p = some [120, 10] := by
  decide +kernel

end GoSnaps.C04World
