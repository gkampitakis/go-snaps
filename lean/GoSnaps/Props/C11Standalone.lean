/-
C11 (standalone part) — the k-th standalone snapshot of a test lives in the file
`<dir>/<Filename, or test name with / ↦ _>_<k>.snap<Ext>`.

`snapshotPath`/`constructFilename` build a FORMAT (user-controlled parts escaped by `escapeFormat`,
the placeholder `_%d` between stem and `.snap`); `getTestID` then calls `Sprintf(format, k)`.
Here: `Sprintf` undoes the escaping for EVERY byte string (`sprintf_escapeFormat`,
`sprintf_escaped_placeholder`), the file name (`standalone_file_name`), injectivity in the ordinal,
the full path through `filepath.Join`/`Clean` (`standalone_path`, under `ExtOK`; without it the
statement can fail: `standalone_path_needs_extOK`).
Byte legend: 37 = '%', 100 = 'd', 95 = '_', 47 = '/', 46 = '.'.
-/
import GoSnaps.Props.C11
import GoSnaps.Props.C03
import GoSnaps.Fmt
namespace GoSnaps.C11
open GoSnaps


theorem escapeFormat_nil : escapeFormat [] = [] := rfl

theorem escapeFormat_cons (c : Byte) (s : Text) :
    escapeFormat (c :: s) = (if c = 37 then [37, 37] else [c]) ++ escapeFormat s := by
  simp [escapeFormat, replaceByte]

theorem escapeFormat_append (a b : Text) : escapeFormat (a ++ b) = escapeFormat a ++ escapeFormat b := by
  simp [escapeFormat, replaceByte]

theorem escapeFormat_of_not_mem (s : Text) (h : (37 : Byte) ∉ s) : escapeFormat s = s := by
  induction s with
  | nil => rfl
  | cons c cs ih =>
    have hc : c ≠ 37 := by intro e; apply h; simp [e]
    have hcs : (37 : Byte) ∉ cs := by intro e; apply h; simp [e]
    rw [escapeFormat_cons, ih hcs]; simp [hc]

/-! the fixed pieces of a path format contain no `%` -/
theorem escapeFormat_dotdot : escapeFormat [dot, dot] = [dot, dot] :=
  escapeFormat_of_not_mem _ (by decide)
theorem escapeFormat_slash : escapeFormat [slash] = [slash] :=
  escapeFormat_of_not_mem _ (by decide)
theorem escapeFormat_underscore : escapeFormat [95] = [95] :=
  escapeFormat_of_not_mem _ (by decide)
theorem escapeFormat_snapsExt : escapeFormat Generated.snapsExt = Generated.snapsExt :=
  escapeFormat_of_not_mem _ (by decide)

/-- parse, then render: `sprintf` in one expression -/
def run (f acc : Text) (args : List FArg) : Option Text :=
  (parseFmtAux f acc).bind (fmtPieces · args)

theorem sprintf_eq_run (f : Text) (args : List FArg) : sprintf f args = run f [] args := by
  unfold sprintf run parseFmt
  cases parseFmtAux f [] <;> rfl

/-- flushing the accumulator in front of pieces `ps` prints the accumulator in front -/
theorem fmtPieces_flush (acc : Text) (ps : List Piece) (args : List FArg) :
    fmtPieces ((if acc = [] then [] else [.lit acc]) ++ ps) args = (fmtPieces ps args).map (acc ++ ·) := by
  by_cases h : acc = []
  · subst h; simp
  · simp [h, fmtPieces]

theorem fmtPieces_lits (ts : List Text) : fmtPieces (ts.map .lit) [] = some ts.flatten := by
  induction ts with
  | nil => simp [fmtPieces]
  | cons t ts ih => simp [fmtPieces, ih]

theorem parseFmtAux_cons_ne (c : Byte) (cs acc : Text) (hc : ¬ c = pct) :
    parseFmtAux (c :: cs) acc = parseFmtAux cs (acc ++ [c]) := by
  cases cs <;> simp [parseFmtAux, hc]

/-- the accumulator of `parseFmtAux` is printed first, whatever follows -/
theorem run_acc (f acc : Text) (args : List FArg) :
    run f acc args = (run f [] args).map (acc ++ ·) := by
  induction f generalizing acc with
  | nil =>
    unfold run parseFmtAux
    have := fmtPieces_flush acc [] args
    simp only [List.append_nil] at this
    simp [this]
  | cons c cs ih =>
    by_cases hc : c = pct
    · subst hc
      cases cs with
      | nil =>
        unfold run parseFmtAux
        simp [fmtPieces_flush]
      | cons v rest =>
        unfold run parseFmtAux
        simp only [if_true]
        split
        · simp
        · cases parseFmtAux rest [] with
          | none => simp
          | some ps =>
            by_cases hv : v = pct <;> simp [hv, fmtPieces_flush]
    · have e1 : run (c :: cs) acc args = run cs (acc ++ [c]) args := by
        unfold run; rw [parseFmtAux_cons_ne _ _ _ hc]
      have e2 : run (c :: cs) [] args = run cs [c] args := by
        unfold run; rw [parseFmtAux_cons_ne _ _ _ hc]; rfl
      rw [e1, e2, ih (acc ++ [c]), ih [c]]
      cases run cs [] args <;> simp

/-- **an escaped text inside a format prints the text**, whatever the rest of the format is -/
theorem run_escapeFormat (s rest : Text) (args : List FArg) :
    run (escapeFormat s ++ rest) [] args = (run rest [] args).map (s ++ ·) := by
  induction s with
  | nil => simp [escapeFormat_nil]
  | cons c cs ih =>
    rw [escapeFormat_cons]
    by_cases hc : c = 37
    · subst hc
      have e : run ([37, 37] ++ escapeFormat cs ++ rest) [] args
          = (run (escapeFormat cs ++ rest) [] args).map ([37] ++ ·) := by
        unfold run
        simp only [List.cons_append, List.nil_append]
        rw [parseFmtAux]
        cases parseFmtAux (escapeFormat cs ++ rest) [] with
        | none => simp [pct]
        | some ps => simp [pct, fmtPieces]
      simp only [if_true]
      rw [e, ih]
      cases run rest [] args <;> simp
    · have hc' : ¬ c = pct := hc
      have e : run ([c] ++ escapeFormat cs ++ rest) [] args = run (escapeFormat cs ++ rest) [c] args := by
        unfold run
        simp only [List.cons_append, List.nil_append]
        rw [parseFmtAux_cons_ne _ _ _ hc']; simp
      simp only [hc, if_false]
      rw [e, run_acc, ih]
      cases run rest [] args <;> simp

/-- piece level: an escaped text parses into literal pieces only (no verb, no `%!(NOVERB)`), and
    the literals concatenate to the accumulator followed by the text -/
theorem parseFmtAux_escapeFormat_lits (s : Text) :
    ∀ acc, ∃ ts : List Text, parseFmtAux (escapeFormat s) acc = some (ts.map .lit) ∧ ts.flatten = acc ++ s := by
  induction s with
  | nil =>
    intro acc
    by_cases h : acc = []
    · exact ⟨[], by simp [escapeFormat_nil, parseFmtAux, h], by simp [h]⟩
    · exact ⟨[acc], by simp [escapeFormat_nil, parseFmtAux, h], by simp⟩
  | cons c cs ih =>
    intro acc
    rw [escapeFormat_cons]
    by_cases hc : c = 37
    · subst hc
      obtain ⟨ts, h1, h2⟩ := ih []
      refine ⟨(if acc = [] then [] else [acc]) ++ [37] :: ts, ?_, ?_⟩
      · simp only [if_true, List.cons_append, List.nil_append]
        rw [parseFmtAux, h1]
        by_cases h : acc = [] <;> simp [pct, h]
      · by_cases h : acc = [] <;> simp [h, h2] at *
    · obtain ⟨ts, h1, h2⟩ := ih (acc ++ [c])
      refine ⟨ts, ?_, by simp [h2]⟩
      simp only [hc, if_false, List.cons_append, List.nil_append]
      rw [parseFmtAux_cons_ne _ _ _ hc, h1]

theorem parseFmt_escapeFormat_lits (s : Text) :
    ∃ ts : List Text, parseFmt (escapeFormat s) = some (ts.map .lit) ∧ ts.flatten = s := by
  simpa [parseFmt] using parseFmtAux_escapeFormat_lits s []

/-- `sprintf_escapeFormat`, proved at the piece level -/
theorem sprintf_escapeFormat' (s : Text) : sprintf (escapeFormat s) [] = some s := by
  obtain ⟨ts, h1, h2⟩ := parseFmt_escapeFormat_lits s
  simp [sprintf, h1, fmtPieces_lits, h2]

theorem sprintf_escapeFormat_append (s rest : Text) (args : List FArg) :
    sprintf (escapeFormat s ++ rest) args = (sprintf rest args).map (s ++ ·) := by
  simp only [sprintf_eq_run, run_escapeFormat]

theorem sprintf_literal_append (l rest : Text) (args : List FArg) (h : (37 : Byte) ∉ l) :
    sprintf (l ++ rest) args = (sprintf rest args).map (l ++ ·) := by
  have := sprintf_escapeFormat_append l rest args
  rwa [escapeFormat_of_not_mem l h] at this

theorem sprintf_d_append (rest : Text) (n : Nat) (args : List FArg) :
    sprintf ([37, 100] ++ rest) (.d n :: args) = (sprintf rest args).map (natToText n ++ ·) := by
  unfold sprintf parseFmt
  simp only [List.cons_append, List.nil_append]
  rw [parseFmtAux]
  cases parseFmtAux rest [] with
  | none => simp [pct]
  | some ps => simp [pct, fmtPieces, fmtVerb]

theorem sprintf_nil : sprintf [] [] = some [] := by decide

/-- an escaped text is a format that prints the text — for every byte string -/
theorem sprintf_escapeFormat (s : Text) : sprintf (escapeFormat s) [] = some s := by
  have := sprintf_escapeFormat_append s [] []
  simpa [sprintf_nil] using this

/-- escaped text, the ordinal placeholder, escaped text -/
theorem sprintf_escaped_placeholder (a b : Text) (n : Nat) :
    sprintf (escapeFormat a ++ [37, 100] ++ escapeFormat b) [.d n] = some (a ++ natToText n ++ b) := by
  rw [List.append_assoc, sprintf_escapeFormat_append, sprintf_d_append, sprintf_escapeFormat]
  simp

/-- the shape `constructFilename` produces: the literal `_%d.snap` between the escaped parts -/
theorem sprintf_escaped_placeholder_snap (a b : Text) (n : Nat) :
    sprintf (escapeFormat a ++ [95, 37, 100] ++ Generated.snapsExt ++ escapeFormat b) [.d n] =
      some (a ++ [95] ++ natToText n ++ Generated.snapsExt ++ b) := by
  have h1 : escapeFormat a ++ [95, 37, 100] ++ Generated.snapsExt ++ escapeFormat b
      = escapeFormat (a ++ [95]) ++ [37, 100] ++ escapeFormat (Generated.snapsExt ++ b) := by
    simp [escapeFormat_append, escapeFormat_snapsExt, escapeFormat_underscore]
  rw [h1, sprintf_escaped_placeholder]; simp


/-- the file name of the `n`-th standalone snapshot, as a plain text -/
def standaloneName (c : Cfg) (caller tName : Text) (n : Nat) : Text :=
  stem c caller tName true ++ [95] ++ natToText n ++ Generated.snapsExt ++ c.extension

/-- the `n`-th standalone file name is `<Filename, or test name with / ↦ _>_<n>.snap<Ext>`,
    for every name, `%` included -/
theorem standalone_file_name (c : Cfg) (caller tName : Text) (n : Nat) :
    sprintf (constructFilename c caller tName true) [.d n] =
      some (stem c caller tName true ++ [95] ++ natToText n ++ Generated.snapsExt ++ c.extension) := by
  rw [filename_spec_standalone]
  rw [consts_ok.2.1, sprintf_escaped_placeholder_snap]

/-- different ordinals, different file names -/
theorem standalone_ordinal_injective (c : Cfg) (caller tName : Text) (n m : Nat)
    (h : sprintf (constructFilename c caller tName true) [.d n] =
         sprintf (constructFilename c caller tName true) [.d m]) : n = m := by
  rw [standalone_file_name, standalone_file_name] at h
  have h := Option.some.inj h
  simp only [List.append_assoc] at h
  have h := List.append_cancel_left h
  have h := List.append_cancel_left h
  exact C03.natToText_injective n m (List.append_cancel_right h)


theorem splitSlash_ne_nil (s : Text) : splitSlash s ≠ [] := by
  cases s with
  | nil => simp [splitSlash]
  | cons c cs =>
    simp only [splitSlash]
    split
    · simp
    · split <;> simp

theorem splitSlash_cons_ne (c : Byte) (s m : Text) (ms : List Text) (hc : c ≠ slash)
    (h : splitSlash s = m :: ms) : splitSlash (c :: s) = (c :: m) :: ms := by
  simp [splitSlash, hc, h]

theorem splitSlash_cons_slash (s : Text) : splitSlash (slash :: s) = [] :: splitSlash s := by
  simp [splitSlash]

theorem splitSlash_of_not_mem (m : Text) (h : slash ∉ m) : splitSlash m = [m] := by
  induction m with
  | nil => rfl
  | cons c cs ih =>
    have hc : c ≠ slash := by intro e; apply h; simp [e]
    have hcs : slash ∉ cs := by intro e; apply h; simp [e]
    exact splitSlash_cons_ne c cs cs [] hc (ih hcs)

/-- the elements of a concatenation: the last element of the left part and the first element of
    the right part are glued -/
theorem splitSlash_append (x y b : Text) (R : List Text) (hy : splitSlash y = b :: R) :
    ∀ (L : List Text) (a : Text), splitSlash x = L ++ [a] → splitSlash (x ++ y) = L ++ (a ++ b) :: R := by
  induction x with
  | nil =>
    intro L a hx
    cases L with
    | nil =>
      simp [splitSlash] at hx; subst hx; simpa using hy
    | cons l L' => simp [splitSlash] at hx
  | cons c cs ih =>
    intro L a hx
    by_cases hc : c = slash
    · subst hc
      rw [splitSlash_cons_slash] at hx
      rw [List.cons_append, splitSlash_cons_slash]
      cases L with
      | nil => simp at hx; exact absurd hx.2 (splitSlash_ne_nil cs)
      | cons l L' =>
        simp only [List.cons_append, List.cons.injEq] at hx
        obtain ⟨rfl, h2⟩ := hx
        simp [ih L' a h2]
    · cases hq : splitSlash cs with
      | nil => exact absurd hq (splitSlash_ne_nil cs)
      | cons m ms =>
        rw [splitSlash_cons_ne c cs m ms hc hq] at hx
        cases L with
        | nil =>
          simp only [List.nil_append, List.cons.injEq] at hx
          obtain ⟨rfl, rfl⟩ := hx
          have := ih [] m (by simpa using hq)
          rw [List.cons_append, splitSlash_cons_ne c (cs ++ y) _ _ hc this]; simp
        | cons l L' =>
          simp only [List.cons_append, List.cons.injEq] at hx
          obtain ⟨rfl, h2⟩ := hx
          have := ih (m :: L') a (by rw [hq, h2]; rfl)
          rw [List.cons_append, splitSlash_cons_ne c (cs ++ y) m (L' ++ (a ++ b) :: R) hc this]; simp

theorem mem_escapeFormat_of_mem (x : Byte) (s : Text) (h : x ∈ s) : x ∈ escapeFormat s := by
  induction s with
  | nil => simp at h
  | cons c cs ih =>
    rw [escapeFormat_cons]
    rcases List.mem_cons.1 h with rfl | h
    · by_cases hx : x = 37 <;> simp [hx]
    · exact List.mem_append_right _ (ih h)

/-- escaping yields a `%`-free text only for that text itself -/
theorem escapeFormat_eq_iff (s t : Text) (ht : (37 : Byte) ∉ t) : escapeFormat s = t ↔ s = t := by
  constructor
  · intro h
    have hs : (37 : Byte) ∉ s := fun hm => ht (h ▸ mem_escapeFormat_of_mem 37 s hm)
    rwa [escapeFormat_of_not_mem s hs] at h
  · intro h; subst h; exact escapeFormat_of_not_mem s ht

theorem escapeFormat_eq_nil (s : Text) : escapeFormat s = [] ↔ s = [] :=
  escapeFormat_eq_iff s [] (by simp)
theorem escapeFormat_eq_dot (s : Text) : escapeFormat s = [dot] ↔ s = [dot] :=
  escapeFormat_eq_iff s [dot] (by decide)
theorem escapeFormat_eq_dotdot (s : Text) : escapeFormat s = [dot, dot] ↔ s = [dot, dot] :=
  escapeFormat_eq_iff s [dot, dot] (by decide)

/-- escaping neither creates nor destroys a `/`: it acts element by element -/
theorem splitSlash_escapeFormat (s : Text) : splitSlash (escapeFormat s) = (splitSlash s).map escapeFormat := by
  induction s with
  | nil => rfl
  | cons c cs ih =>
    rw [escapeFormat_cons]
    by_cases hs : c = slash
    · subst hs
      have : ¬ slash = 37 := by decide
      simp only [this, if_false, List.cons_append, List.nil_append, splitSlash_cons_slash, ih, List.map_cons]
      rfl
    · cases hq : splitSlash cs with
      | nil => exact absurd hq (splitSlash_ne_nil cs)
      | cons m ms =>
        rw [hq, List.map_cons] at ih
        rw [splitSlash_cons_ne c cs m ms hs hq, List.map_cons, escapeFormat_cons]
        by_cases h37 : c = 37
        · subst h37
          have h1 := splitSlash_cons_ne 37 _ _ _ (by decide) ih
          have h2 := splitSlash_cons_ne 37 _ _ _ (by decide) h1
          simpa using h2
        · have h1 := splitSlash_cons_ne c _ _ _ hs ih
          simpa [h37] using h1

theorem cleanComps_append (r : Bool) (xs ys : List Text) :
    ∀ out, cleanComps r (xs ++ ys) out = cleanComps r ys (cleanComps r xs out) := by
  induction xs with
  | nil => intro out; rfl
  | cons c cs ih =>
    intro out
    simp only [List.cons_append, cleanComps]
    split
    · exact ih _
    · split
      · cases out with
        | nil => cases r <;> simp [ih]
        | cons o os => simp only; split <;> exact ih _
      · exact ih _

/-- `filepath.Clean`'s element stack commutes with escaping -/
theorem cleanComps_escapeFormat (r : Bool) (xs : List Text) :
    ∀ out, cleanComps r (xs.map escapeFormat) (out.map escapeFormat) = (cleanComps r xs out).map escapeFormat := by
  induction xs with
  | nil => intro out; rfl
  | cons c cs ih =>
    intro out
    simp only [List.map_cons, cleanComps, escapeFormat_eq_nil, escapeFormat_eq_dot, escapeFormat_eq_dotdot]
    split
    · exact ih _
    · split
      · cases out with
        | nil =>
          cases r
          · simpa [escapeFormat_dotdot] using ih [[dot, dot]]
          · simpa using ih []
        | cons o os =>
          simp only [List.map_cons, escapeFormat_eq_dotdot]
          split
          · rename_i ho
            simpa [escapeFormat_dotdot] using ih ([dot, dot] :: o :: os)
          · exact ih os
      · have := ih (c :: out)
        simpa using this

/-- without a `..` element nothing is popped: the stack below is left alone -/
theorem cleanComps_no_dotdot (r : Bool) (xs : List Text) (h : [dot, dot] ∉ xs) :
    ∀ out, cleanComps r xs out = cleanComps r xs [] ++ out := by
  induction xs with
  | nil => intro out; rfl
  | cons c cs ih =>
    have hc : c ≠ [dot, dot] := by intro e; apply h; simp [e]
    have hcs : [dot, dot] ∉ cs := by intro e; apply h; simp [e]
    intro out
    simp only [cleanComps, hc, if_false]
    split
    · exact ih hcs _
    · rw [ih hcs (c :: out), ih hcs [c]]; simp

theorem cleanComps_push (r : Bool) (M : Text) (cs out : List Text)
    (h0 : M ≠ []) (h1 : M ≠ [dot]) (h2 : M ≠ [dot, dot]) :
    cleanComps r (M :: cs) out = cleanComps r cs (M :: out) := by
  simp [cleanComps, h0, h1, h2]

theorem joinSlash_cons (k : Text) (t : List Text) (ht : t ≠ []) :
    joinSlash (k :: t) = k ++ slash :: joinSlash t := by
  cases t with
  | nil => exact absurd rfl ht
  | cons m ms => rfl

/-- joining around a distinguished element: everything before it, it, everything after it -/
theorem joinSlash_mid (K : List Text) (a m b : Text) (R : List Text) :
    joinSlash (K ++ (a ++ m ++ b) :: R) = joinSlash (K ++ [a]) ++ m ++ joinSlash (b :: R) := by
  induction K with
  | nil =>
    cases R with
    | nil => simp [joinSlash]
    | cons r rs => simp [joinSlash]
  | cons k ks ih =>
    rw [List.cons_append, List.cons_append, joinSlash_cons _ _ (by simp), joinSlash_cons _ _ (by simp), ih]
    simp

theorem escapeFormat_joinSlash (cs : List Text) :
    escapeFormat (joinSlash cs) = joinSlash (cs.map escapeFormat) := by
  induction cs with
  | nil => rfl
  | cons c cs ih =>
    cases cs with
    | nil => rfl
    | cons m ms =>
      rw [joinSlash_cons c (m :: ms) (by simp), List.map_cons,
        joinSlash_cons (escapeFormat c) ((m :: ms).map escapeFormat) (by simp), ← ih]
      rw [show c ++ slash :: joinSlash (m :: ms) = c ++ ([slash] ++ joinSlash (m :: ms)) from rfl,
        escapeFormat_append, escapeFormat_append, escapeFormat_slash]; rfl


/-- the part of a path element that makes it an ordinary one: no `/` in it, and a byte other than
    `.` (so the element is neither empty, `.` nor `..`).  Both `%d` and a decimal number qualify. -/
def Mid (m : Text) : Prop := slash ∉ m ∧ ∃ c ∈ m, c ≠ dot

theorem mid_placeholder : Mid [37, 100] := ⟨by decide, 37, by simp, by decide⟩

theorem mid_natToText (n : Nat) : Mid (natToText n) := by
  have hd := C03.natToText_digits n
  refine ⟨fun hm => ?_, ?_⟩
  · have := hd slash hm; revert this; decide
  · cases hq : natToText n with
    | nil => exact absurd hq (C03.natToText_ne_nil n)
    | cons c cs =>
      refine ⟨c, by simp, ?_⟩
      intro e
      have := hd c (by simp [hq])
      subst e; revert this; decide

theorem mid_ne_nil (m : Text) (hm : Mid m) : m ≠ [] := by
  obtain ⟨_, c, hc, _⟩ := hm
  intro e; subst e; simp at hc

theorem mid_elem (a m b : Text) (hm : Mid m) :
    a ++ m ++ b ≠ [] ∧ a ++ m ++ b ≠ [dot] ∧ a ++ m ++ b ≠ [dot, dot] := by
  obtain ⟨_, c, hc, hcd⟩ := hm
  have hmem : c ∈ a ++ m ++ b := by simp [hc]
  refine ⟨?_, ?_, ?_⟩ <;> intro e <;> rw [e] at hmem <;> simp at hmem <;> exact hcd hmem

theorem head_mid (A m B : Text) (hm : Mid m) :
    (A ++ m ++ B).head? = some slash ↔ A.head? = some slash := by
  cases A with
  | nil =>
    cases m with
    | nil => exact absurd rfl (mid_ne_nil _ hm)
    | cons x xs =>
      have : x ≠ slash := by intro e; apply hm.1; simp [e]
      simp [this]
  | cons x xs => simp

/-- **`filepath.Clean` of a path with a distinguished ordinary element** `a ++ m ++ b` (the path
is `A ++ m ++ B`, `a` = last element of `A`, `b` = first element of `B`), no `..` element after
it: the result is `X ++ m ++ Y` where `X` and `Y` do not depend on `m`. -/
theorem fpClean_mid (A B m : Text) (L R : List Text) (a b : Text)
    (hA : splitSlash A = L ++ [a]) (hB : splitSlash B = b :: R) (hm : Mid m) (hR : [dot, dot] ∉ R) :
    fpClean (A ++ m ++ B) =
      (if A.head? = some slash then [slash] else []) ++
        joinSlash ((cleanComps (decide (A.head? = some slash)) L []).reverse ++ [a]) ++ m ++
        joinSlash (b :: (cleanComps (decide (A.head? = some slash)) R []).reverse) := by
  have hsplit : splitSlash (A ++ m ++ B) = L ++ (a ++ m ++ b) :: R := by
    have h1 := splitSlash_append A m m [] (splitSlash_of_not_mem m hm.1) L a hA
    exact splitSlash_append (A ++ m) B b R hB L (a ++ m) h1
  obtain ⟨e0, e1, e2⟩ := mid_elem a m b hm
  have hm_ne := mid_ne_nil m hm
  have hne : A ++ m ++ B ≠ [] := by simp [hm_ne]
  unfold fpClean
  simp only [hne, if_false, head_mid A m B hm, hsplit]
  rw [cleanComps_append, cleanComps_push _ _ _ _ e0 e1 e2, cleanComps_no_dotdot _ R hR]
  simp only [List.reverse_append, List.reverse_cons, List.append_assoc, List.singleton_append]
  have hj := fun K R' => joinSlash_mid K a m b R'
  simp only [List.append_assoc] at hj
  rw [hj]
  by_cases hr : A.head? = some slash <;> simp [hr, hm_ne]

theorem splitSlash_snoc (s : Text) : ∃ L a, splitSlash s = L ++ [a] :=
  ⟨(splitSlash s).dropLast, (splitSlash s).getLast (splitSlash_ne_nil s),
    (List.dropLast_concat_getLast (splitSlash_ne_nil s)).symm⟩

theorem head_escapeFormat (A : Text) : (escapeFormat A).head? = some slash ↔ A.head? = some slash := by
  cases A with
  | nil => simp [escapeFormat_nil]
  | cons c cs =>
    rw [escapeFormat_cons]
    by_cases hc : c = 37
    · subst hc; simp
    · simp [hc]

/-- **`filepath.Clean` commutes with the escaping around the placeholder.**  For a path
`A ++ m ++ B` whose part `B` after the distinguished element has no `..` element (beyond its
first, glued, one), `Clean` yields `X ++ m ++ Y`, and for the escaped path it yields the escaped
`X` and `Y` — with the same `X`, `Y` for every ordinary middle part `m`. -/
theorem clean_template (A B : Text) (h : [dot, dot] ∉ (splitSlash B).tail) :
    ∃ X Y : Text,
      (∀ m, Mid m → fpClean (A ++ m ++ B) = X ++ m ++ Y) ∧
      (∀ m, Mid m → fpClean (escapeFormat A ++ m ++ escapeFormat B) = escapeFormat X ++ m ++ escapeFormat Y) := by
  obtain ⟨L, a, hA⟩ := splitSlash_snoc A
  cases hB : splitSlash B with
  | nil => exact absurd hB (splitSlash_ne_nil B)
  | cons b R =>
    rw [hB] at h
    simp only [List.tail_cons] at h
    refine ⟨(if A.head? = some slash then [slash] else []) ++
        joinSlash ((cleanComps (decide (A.head? = some slash)) L []).reverse ++ [a]),
      joinSlash (b :: (cleanComps (decide (A.head? = some slash)) R []).reverse), ?_, ?_⟩
    · intro m hm
      rw [fpClean_mid A B m L R a b hA hB hm h]
    · intro m hm
      have hA' : splitSlash (escapeFormat A) = L.map escapeFormat ++ [escapeFormat a] := by
        rw [splitSlash_escapeFormat, hA]; simp
      have hB' : splitSlash (escapeFormat B) = escapeFormat b :: R.map escapeFormat := by
        rw [splitSlash_escapeFormat, hB]; simp
      have hR' : [dot, dot] ∉ R.map escapeFormat := by
        intro hmem
        obtain ⟨x, hx, e⟩ := List.mem_map.1 hmem
        rw [escapeFormat_eq_dotdot] at e
        subst e; exact h hx
      rw [fpClean_mid _ _ m _ _ _ _ hA' hB' hm hR']
      have c1 := cleanComps_escapeFormat (decide (A.head? = some slash)) L []
      have c2 := cleanComps_escapeFormat (decide (A.head? = some slash)) R []
      simp only [List.map_nil] at c1 c2
      simp only [head_escapeFormat, c1, c2]
      rw [escapeFormat_append, escapeFormat_joinSlash, escapeFormat_joinSlash]
      by_cases hr : A.head? = some slash <;> simp [hr, escapeFormat_slash, escapeFormat_nil]


/-- the snapshot directory: an absolute `Dir` as is, a relative one joined to the test file's
    directory (the `dir` of `snapshotPath`, before escaping) -/
def snapsDirOf (c : Cfg) (caller : Text) : Text :=
  if fpIsAbs c.snapsDir then c.snapsDir else fpJoin [fpDir caller, c.snapsDir]

theorem fpJoin_pair (d f : Text) (hf : f ≠ []) :
    fpJoin [d, f] = fpClean ((if d = [] then [] else d ++ [slash]) ++ f) := by
  unfold fpJoin
  by_cases hd : d = [] <;> simp [joinSlash, hf, hd]

/-- "`Ext` does not climb out of the file name": no `..` path element in `Ext` after its first
    `/`.  (An `Ext` without `/` satisfies it, see `extOK_of_no_slash`.) -/
def ExtOK (c : Cfg) : Prop := [dot, dot] ∉ (splitSlash c.extension).tail

instance (c : Cfg) : Decidable (ExtOK c) := by unfold ExtOK; infer_instance

theorem extOK_of_no_slash (c : Cfg) (h : slash ∉ c.extension) : ExtOK c := by
  unfold ExtOK; rw [splitSlash_of_not_mem _ h]; simp

/-- the cleaned standalone path has the shape `X ++ <ordinal> ++ Y` with `X`, `Y` independent of
the ordinal, and the path FORMAT computed by `snapshotPath` is `escape X ++ "%d" ++ escape Y` -/
theorem standalone_path_shape (c : Cfg) (caller tName : Text) (h : ExtOK c) :
    ∃ X Y : Text,
      (∀ n, fpJoin [snapsDirOf c caller, standaloneName c caller tName n] = X ++ natToText n ++ Y) ∧
      (snapshotPath c caller tName true).1 = escapeFormat X ++ [37, 100] ++ escapeFormat Y := by
  have hB : [dot, dot] ∉ (splitSlash (Generated.snapsExt ++ c.extension)).tail := by
    cases hq : splitSlash c.extension with
    | nil => exact absurd hq (splitSlash_ne_nil _)
    | cons e1 R =>
      have h0 : splitSlash Generated.snapsExt = [] ++ [Generated.snapsExt] := by decide
      rw [splitSlash_append _ _ e1 R hq [] _ h0]
      unfold ExtOK at h; rw [hq] at h
      simpa using h
  obtain ⟨X, Y, h1, h2⟩ := clean_template
    ((if snapsDirOf c caller = [] then [] else snapsDirOf c caller ++ [slash]) ++ stem c caller tName true ++ [95])
    (Generated.snapsExt ++ c.extension) hB
  refine ⟨X, Y, ?_, ?_⟩
  · intro n
    rw [← h1 _ (mid_natToText n), fpJoin_pair]
    · simp [standaloneName]
    · simp [standaloneName]
  · rw [← h2 _ mid_placeholder, path_spec_standalone, filename_spec_standalone, fpJoin_pair]
    · have e5 : (if escapeFormat (snapsDirOf c caller) = [] then []
            else escapeFormat (snapsDirOf c caller) ++ [slash]) =
          escapeFormat (if snapsDirOf c caller = [] then [] else snapsDirOf c caller ++ [slash]) := by
        by_cases hd : snapsDirOf c caller = []
        · simp [hd, escapeFormat_nil]
        · simp [hd, escapeFormat_eq_nil, escapeFormat_append, escapeFormat_slash]
      unfold snapsDirOf at e5 ⊢
      rw [e5]
      simp [escapeFormat_append, consts_ok.2.1, escapeFormat_snapsExt, escapeFormat_underscore]
    · simp [consts_ok.2.1]

/-- `Sprintf(path, n)` is the cleaned join of the snapshot directory and the `n`-th
standalone file name — for every directory, stem and extension (`%`, `/`, `.`, `..` in `Dir` and
`Filename` included), provided `Ext` has no `..` element after a `/` (`ExtOK`; the statement is
can fail without it, see `standalone_path_needs_extOK`). -/
theorem standalone_path (c : Cfg) (caller tName : Text) (n : Nat) (h : ExtOK c) :
    sprintf (snapshotPath c caller tName true).1 [.d n] =
      some (fpJoin [if fpIsAbs c.snapsDir then c.snapsDir else fpJoin [fpDir caller, c.snapsDir],
                    stem c caller tName true ++ [95] ++ natToText n ++ Generated.snapsExt ++ c.extension]) := by
  obtain ⟨X, Y, h1, h2⟩ := standalone_path_shape c caller tName h
  rw [h2, sprintf_escaped_placeholder, ← h1 n]; rfl

theorem standalone_path_of_no_slash (c : Cfg) (caller tName : Text) (n : Nat) (h : (47 : Byte) ∉ c.extension) :
    sprintf (snapshotPath c caller tName true).1 [.d n] =
      some (fpJoin [snapsDirOf c caller, standaloneName c caller tName n]) :=
  standalone_path c caller tName n (extOK_of_no_slash c h)

theorem standalone_path_ordinal_injective (c : Cfg) (caller tName : Text) (n m : Nat) (h : ExtOK c)
    (e : sprintf (snapshotPath c caller tName true).1 [.d n] =
         sprintf (snapshotPath c caller tName true).1 [.d m]) : n = m := by
  obtain ⟨X, Y, h1, h2⟩ := standalone_path_shape c caller tName h
  rw [h2, sprintf_escaped_placeholder, sprintf_escaped_placeholder] at e
  have e := Option.some.inj e
  simp only [List.append_assoc] at e
  exact C03.natToText_injective n m (List.append_cancel_right (List.append_cancel_left e))


/-- a format without any `%` and one operand: Go's `%!(EXTRA …)` report is appended -/
theorem sprintf_no_verb_extra (l : Text) (h : (37 : Byte) ∉ l) (a : FArg) :
    sprintf l [a] = some (l ++ (ofString "%!(EXTRA " ++ argDesc a ++ ofString ")")) := by
  have := sprintf_literal_append l [] [a] h
  rw [List.append_nil] at this
  rw [this]
  simp [sprintf, parseFmt, parseFmtAux, fmtPieces]

theorem sprintf_no_verb_ne (l : Text) (h : (37 : Byte) ∉ l) (a : FArg) : sprintf l [a] ≠ some l := by
  rw [sprintf_no_verb_extra l h a]
  intro e
  have e := Option.some.inj e
  have e2 : ofString ")" = [] := by
    have : l ++ (ofString "%!(EXTRA " ++ argDesc a ++ ofString ")") = l ++ [] := by rw [e]; simp
    have := List.append_cancel_left this
    simp at this
    exact this.2.2
  have h41 : ofString ")" = [41] := by decide +kernel
  rw [h41] at e2
  simp at e2

/-- test `T/100%_done`, first standalone snapshot: file `T_100%_done_1.snap` -/
example :
    sprintf (constructFilename {} [47,120,46,103,111] [84,47,49,48,48,37,95,100,111,110,101] true) [.d 1] =
      some [84,95,49,48,48,37,95,100,111,110,101,95,49,46,115,110,97,112] := by decide +kernel

/-- the same through the theorem -/
example :
    sprintf (constructFilename {} [47,120,46,103,111] [84,47,49,48,48,37,95,100,111,110,101] true) [.d 1] =
      some [84,95,49,48,48,37,95,100,111,110,101,95,49,46,115,110,97,112] := by
  rw [standalone_file_name]; decide +kernel

/-- an extension `.%d` stays literal: `T_1.snap.%d` -/
example :
    sprintf (constructFilename { extension := [46,37,100] } [47,120,46,103,111] [84] true) [.d 1] =
      some [84,95,49,46,115,110,97,112,46,37,100] := by decide +kernel

/-- `Dir` = `s%` next to `/a/t.go`, second snapshot of test `T`: `/a/s%/T_2.snap` -/
example :
    sprintf (snapshotPath { snapsDir := [115,37] } [47,97,47,116,46,103,111] [84] true).1 [.d 2] =
      some [47,97,47,115,37,47,84,95,50,46,115,110,97,112] := by decide +kernel

/-- **Without `ExtOK` the statement can fail** (the condition is sufficient, not necessary).  With `Ext` = `/../x` the element `T_%d.snap` is removed by
`filepath.Join` BEFORE `Sprintf` runs: the format is `/a/__snapshots__/x`, it has no verb left, and
`Sprintf` reports the unused ordinal (`%!(EXTRA int=1)`) — ordinal 1 maps to a path that is not
the cleaned join of the directory and the file name. -/
theorem standalone_path_needs_extOK :
    let c : Cfg := { extension := [47,46,46,47,120] }
    ¬ ExtOK c ∧
    (snapshotPath c [47,97,47,116,46,103,111] [84] true).1 =
      [47,97,47,95,95,115,110,97,112,115,104,111,116,115,95,95,47,120] ∧
    fpJoin [snapsDirOf c [47,97,47,116,46,103,111], standaloneName c [47,97,47,116,46,103,111] [84] 1] =
      [47,97,47,95,95,115,110,97,112,115,104,111,116,115,95,95,47,120] ∧
    sprintf (snapshotPath c [47,97,47,116,46,103,111] [84] true).1 [.d 1] ≠
      some (fpJoin [snapsDirOf c [47,97,47,116,46,103,111], standaloneName c [47,97,47,116,46,103,111] [84] 1]) := by
  intro c
  have h1 : (snapshotPath c [47,97,47,116,46,103,111] [84] true).1 =
      [47,97,47,95,95,115,110,97,112,115,104,111,116,115,95,95,47,120] := by decide +kernel
  have h2 : fpJoin [snapsDirOf c [47,97,47,116,46,103,111], standaloneName c [47,97,47,116,46,103,111] [84] 1] =
      [47,97,47,95,95,115,110,97,112,115,104,111,116,115,95,95,47,120] := by decide +kernel
  refine ⟨by decide +kernel, h1, h2, ?_⟩
  rw [h1, h2]
  exact sprintf_no_verb_ne _ (by decide +kernel) _

end GoSnaps.C11
