/-
C15 / C16 for JSON — theorems about the executable model of gjson path lookup and sjson replacement
(GoSnaps/JsonPath.lean; helper lemmas in Lemmas/JsonPath.lean).  The model is tied to the real
libraries by the suite `json.lens` (driver / harness operation `jsonpath`).

The contract `C16.LensSpec` holds of the model on POSITIONS observed by label, for every document (`model_lensSpec`); on TEXT
paths the lens laws hold of the first-match lookup for every document, and of gjson / sjson on documents without duplicate
member names; a set changes exactly its target(s); text paths do not determine the document; the byte splice is the tree
replacement; the transliterated matcher loop run on the model is `C16.mask`.
-/
import GoSnaps.Lemmas.JsonPath
import GoSnaps.Props.C14Json
import GoSnaps.Props.C15
import GoSnaps.Props.C16
import GoSnaps.Props.Tie.Matchers
namespace GoSnaps.C16Json

open GoSnaps GoSnaps.Json GoSnaps.JsonPath

/-! ## 1. the lens on POSITIONS: `LensSpec` holds of the model, for every document

The path universe for which `LensSpec.ext` is true is the set of positions of the tree (child numbers),
observed by LABEL (a scalar with its raw text, an array with its length, an object with its raw keys in
order): text paths do not observe member order nor the members hidden behind a duplicate key (§4).
The observation has to be the label, not the subtree, because `LensSpec.get_set_overlap` demands that
what is read at ANY path that is not disjoint from the written one is a function of the two paths and
the written value; for a position ABOVE the written one that is true of the label (it does not
change) and false of the subtree.  Accordingly "disjoint from `p`" is "not at or below `p`", and the
values written through `LensSpec` are the labels (`reify`: scalars, containers filled with `null`);
arbitrary placeholder trees are covered by §2/§3 directly. -/

def getM (d : JV) (pos : Pos) : Option Label := labelAt d pos
def setM (d : JV) (pos : Pos) (l : Label) : JV := (replaceAt d pos (reify l)).getD d
def DisjM (pos pos' : Pos) : Prop := ¬ pos <+: pos'
def overlapM (pos pos' : Pos) (l : Label) : Option Label := labelAt (reify l) (pos'.drop pos.length)

instance (pos pos' : Pos) : Decidable (DisjM pos pos') := by unfold DisjM; infer_instance

theorem getAt_of_getM {d : JV} {pos : Pos} (h : getM d pos ≠ none) : ∃ x, getAt d pos = some x := by
  cases hg : getAt d pos with
  | none => exact absurd (by simp [getM, labelAt, hg]) h
  | some x => exact ⟨x, rfl⟩

theorem getM_setM_same (d : JV) (pos : Pos) (l : Label) (h : getM d pos ≠ none) :
    getM (setM d pos l) pos = some l := by
  obtain ⟨x, hg⟩ := getAt_of_getM h
  obtain ⟨d', hd'⟩ := replaceAt_some_of_getAt (reify l) hg
  simp [getM, setM, labelAt, hd', getAt_replaceAt_same pos d d' _ hd']

theorem getM_setM_other (d : JV) (pos pos' : Pos) (l : Label) (h : DisjM pos pos') :
    getM (setM d pos l) pos' = getM d pos' := by
  unfold getM setM
  cases hr : replaceAt d pos (reify l) with
  | none => rfl
  | some d' => exact labelAt_replaceAt_other d d' _ pos pos' hr h

theorem getM_setM_overlap (d : JV) (pos pos' : Pos) (l : Label) (h : ¬ DisjM pos pos') (hp : getM d pos ≠ none) :
    getM (setM d pos l) pos' = overlapM pos pos' l := by
  have hpre : pos <+: pos' := Decidable.not_not.mp h
  obtain ⟨r, rfl⟩ := hpre
  obtain ⟨x, hg⟩ := getAt_of_getM hp
  obtain ⟨d', hd'⟩ := replaceAt_some_of_getAt (reify l) hg
  simp [getM, setM, overlapM, labelAt, hd', getAt_replaceAt_append pos d d' _ r hd']

/-- **`model_lensSpec`**: the contract C16 assumes of the document library holds of the model — for
EVERY document (duplicate keys included), on the universe of positions observed by label -/
theorem model_lensSpec : C16.LensSpec getM setM DisjM overlapM where
  get_set_same := getM_setM_same
  get_set_other := getM_setM_other
  get_set_overlap := getM_setM_overlap
  ext := ext_labels

/-- `{"k":"t1","n":1}` and `{"k":"t2","n":1}` -/
def exA : JV := .obj [([34, 107, 34], .str [34, 116, 49, 34]), ([34, 110, 34], .num [49])]
def exB : JV := .obj [([34, 107, 34], .str [34, 116, 50, 34]), ([34, 110, 34], .num [49])]

/-- C16's `masked_irrelevant`, instantiated with the model: two documents that differ only at (or below)
the masked position are the same document after masking; and by evaluation: `{"k":"?","n":1}` -/
example : C16.mask setM [[0]] (.str [34, 63, 34]) exA = C16.mask setM [[0]] (.str [34, 63, 34]) exB :=
  C16.masked_irrelevant model_lensSpec [[0]] _ exA exB (by simp) (by decide +kernel) (by decide +kernel)
    (fun q hq => by
      have h0 : ¬ [0] <+: q := hq [0] (by simp)
      match q with
      | [] => rfl
      | 0 :: r => exact absurd (by simp) h0
      | 1 :: [] => rfl
      | 1 :: _ :: _ => rfl
      | (_ + 2) :: _ => rfl)

example : C16.mask setM [[0]] (.str [34, 63, 34]) exA =
    .obj [([34, 107, 34], .str [34, 63, 34]), ([34, 110, 34], .num [49])] := by rfl

/-- … and `unmasked_relevant`: a difference at a position that is not at or below a masked one survives -/
example : C16.mask setM [[0]] (.str [34, 63, 34]) exA ≠
    C16.mask setM [[0]] (.str [34, 63, 34]) (.obj [([34, 107, 34], .str [34, 116, 49, 34]), ([34, 110, 34], .num [50])]) :=
  C16.unmasked_relevant model_lensSpec [[0]] _ _ _ [1] (by decide +kernel) (by decide +kernel)

/-! ## 2. the lens on TEXT PATHS

`getS` / `setS` (Lemmas/JsonPath.lean) are the component-by-component lookup — sjson's route (2): at
every object the FIRST member of the name.  Its lens laws hold for every document.  On documents
without duplicate member names (`distinctG`) gjson's backtracking lookup and all three routes of sjson
ARE that lookup (`loc_eq_locS`), so the laws are laws of `getPath` / `setPath`.  With duplicate names
they are not: see `dup_get_set_diverge` below. -/

/-- first-match semantics, every document: read back what was written -/
theorem stepwise_get_set_same (p : Path) (d d' w : JV) (h : setS d p w = some d') : getS d' p = some w :=
  getS_setS_same p d d' w h

/-- first-match semantics, every document: a disjoint path is not affected -/
theorem stepwise_get_set_other (p q : Path) (d d' w : JV) (hd : disjP p q = true) (h : setS d p w = some d') :
    getS d' q = getS d q :=
  getS_setS_other p q d d' w hd h

/-- first-match semantics, every document: below the written path one reads the written value -/
theorem stepwise_get_set_overlap (p r : Path) (d d' w : JV) (h : setS d p w = some d') :
    getS d' (p ++ r) = getS w r :=
  getS_setS_below p d d' w r h

/-- what gjson finds is at least what the component-by-component lookup finds — every document -/
theorem gjson_finds_stepwise (p : Path) (d : JV) (pos : Pos) (h : locS p d = some pos) :
    loc p d = some (.one pos) := loc_of_locS p d pos h

theorem plain_append (p r : Path) : plain (p ++ r) = (plain p && plain r) := by
  simp [plain, List.all_append]

theorem setPath_distinct {opt : Bool} {d d' w : JV} {p : Path} (hd : distinctG d = true) (hw : distinctG w = true)
    (hp : plain p = true) (h : setPathO opt d p w = some d') : setS d p w = some d' ∧ distinctG d' = true := by
  rw [setPathO_eq_setS opt d p w hd hp] at h
  refine ⟨h, ?_⟩
  unfold setS at h
  cases hl : locS p d with
  | none => rw [hl] at h; cases h
  | some pos =>
    rw [hl] at h
    exact distinctG_replaceAt pos d d' w hd hw h

/-- **get_set_same** (either value of sjson's `Optimistic`) -/
theorem get_set_same (opt : Bool) (d d' w : JV) (p : Path) (hd : distinctG d = true) (hw : distinctG w = true)
    (hp : plain p = true) (h : setPathO opt d p w = some d') : getPath d' p = some w := by
  obtain ⟨hs, hd'⟩ := setPath_distinct hd hw hp h
  rw [getPath_eq_getS d' p hd' hp]
  exact getS_setS_same p d d' w hs

/-- an existing path can be set (no member is ever created on a duplicate-free document) -/
theorem set_of_exists (opt : Bool) (d w : JV) (p : Path) (hd : distinctG d = true) (hp : plain p = true)
    (he : getPath d p ≠ none) : ∃ d', setPathO opt d p w = some d' := by
  rw [setPathO_eq_setS opt d p w hd hp]
  rw [getPath_eq_getS d p hd hp] at he
  unfold getS at he
  unfold setS
  cases hl : locS p d with
  | none => rw [hl] at he; exact absurd rfl he
  | some pos =>
    rw [hl] at he
    obtain ⟨x, hx⟩ := Option.ne_none_iff_exists'.mp he
    exact replaceAt_some_of_getAt w hx

/-- **get_set_other**: `disjP` is the explicit decidable disjointness of Lemmas/JsonPath.lean (somewhere
along the common length the two components can never address the same child) -/
theorem get_set_other (opt : Bool) (d d' w : JV) (p q : Path) (hd : distinctG d = true) (hw : distinctG w = true)
    (hp : plain p = true) (hq : plain q = true) (hdj : disjP p q = true) (h : setPathO opt d p w = some d') :
    getPath d' q = getPath d q := by
  obtain ⟨hs, hd'⟩ := setPath_distinct hd hw hp h
  rw [getPath_eq_getS d' q hd' hq, getPath_eq_getS d q hd hq]
  exact getS_setS_other p q d d' w hdj hs

/-- **get_set_overlap**, at or below the written path: what is read is read in the written value -/
theorem get_set_overlap (opt : Bool) (d d' w : JV) (p r : Path) (hd : distinctG d = true) (hw : distinctG w = true)
    (hp : plain p = true) (hr : plain r = true) (h : setPathO opt d p w = some d') :
    getPath d' (p ++ r) = getPath w r := by
  obtain ⟨hs, hd'⟩ := setPath_distinct hd hw hp h
  rw [getPath_eq_getS d' (p ++ r) hd' (by rw [plain_append, hp, hr]; rfl), getPath_eq_getS w r hw hr]
  exact getS_setS_below p d d' w r hs

/-- `{"user":{"name":"x","fav.movie":"y"},"arr":[1,2],"n":1}` -/
def exDoc : JV :=
  .obj [([34, 117, 115, 101, 114, 34],
          .obj [([34, 110, 97, 109, 101, 34], .str [34, 120, 34]),
                ([34, 102, 97, 118, 46, 109, 111, 118, 105, 101, 34], .str [34, 121, 34])]),
        ([34, 97, 114, 114, 34], .arr [.num [49], .num [50]]),
        ([34, 110, 34], .num [49])]

/-- `user.fav\.movie`, `user.name`, `arr.01` (the first and the last as parsed from their text, below) -/
def exP1 : Path := [.key [117, 115, 101, 114] false, .key [102, 97, 118, 46, 109, 111, 118, 105, 101] true]
def exP2 : Path := [.key [117, 115, 101, 114] false, .key [110, 97, 109, 101] false]
def exP3 : Path := [.key [97, 114, 114] false, .key [48, 49] false]

example : parsePath [117, 115, 101, 114, 46, 102, 97, 118, 92, 46, 109, 111, 118, 105, 101] = some exP1 ∧
    parsePath [97, 114, 114, 46, 48, 49] = some exP3 := by decide +kernel

/-- the hypotheses are satisfiable and the statements say something: the path exists, it is set, it
reads back, a disjoint path (`user.name`, `arr.01` = element 1) reads as before -/
example : distinctG exDoc = true ∧ plain exP1 = true ∧ disjP exP1 exP2 = true ∧ disjP exP1 exP3 = true ∧
    getPath exDoc exP1 = some (.str [34, 121, 34]) ∧ getPath exDoc exP3 = some (.num [50]) ∧
    (setPath exDoc exP1 (.str [34, 63, 34])).isSome = true := by
  refine ⟨by decide +kernel, by decide +kernel, by decide +kernel, by decide +kernel, by rfl, by rfl, by rfl⟩

example (d' : JV) (h : setPath exDoc exP1 (.str [34, 63, 34]) = some d') :
    getPath d' exP1 = some (.str [34, 63, 34]) ∧ getPath d' exP2 = some (.str [34, 120, 34]) ∧
    getPath d' exP3 = some (.num [50]) :=
  ⟨get_set_same _ exDoc d' _ exP1 (by decide +kernel) (by decide +kernel) (by decide +kernel) h,
   (get_set_other _ exDoc d' _ exP1 exP2 (by decide +kernel) (by decide +kernel) (by decide +kernel) (by decide +kernel) (by decide +kernel) h).trans (by rfl),
   (get_set_other _ exDoc d' _ exP1 exP3 (by decide +kernel) (by decide +kernel) (by decide +kernel) (by decide +kernel) (by decide +kernel) h).trans (by rfl)⟩

/-- `{"a":{"x":1},"a":{"y-z":2}}` and the path `a.y-z`: gjson finds the 2 in the SECOND `a`; sjson (the
path has a byte outside `.`-`9`, `A`-`z`, so route (2)) looks only into the first `a`, does not find
`y-z`, and — in the library — creates it there: `setPath` is `none`.  With the member `y` in the place of `y-z`
and the path `a.y` (optimistic bytes only), route (2) fails in the same way, route (1) replaces the 2: the two
libraries agree only per route. -/
def dupDoc (k : Text) : JV :=
  .obj [([34, 97, 34], .obj [([34, 120, 34], .num [49])]), ([34, 97, 34], .obj [(34 :: k ++ [34], .num [50])])]

theorem dup_get_set_diverge :
    getPath (dupDoc [121, 45, 122]) [.key [97] false, .key [121, 45, 122] false] = some (.num [50]) ∧
    setPathO true (dupDoc [121, 45, 122]) [.key [97] false, .key [121, 45, 122] false] (.str [34, 63, 34]) = none ∧
    setPathO false (dupDoc [121]) [.key [97] false, .key [121] false] (.str [34, 63, 34]) = none ∧
    (setPathO true (dupDoc [121]) [.key [97] false, .key [121] false] (.str [34, 63, 34])).isSome = true ∧
    distinctG (dupDoc [121]) = false := by
  refine ⟨by rfl, by rfl, by rfl, by rfl, by decide +kernel⟩

/-! ## 3. C15: a set changes exactly its target(s); everything else keeps value, order and position

Stated on the tree with `replaceAt`, which is defined on positions and knows nothing about paths: the
result of a set IS the input with the subtree(s) at the target position(s) replaced.  Every document,
either route.  (That the caller's BYTES are not modified is not a statement about values: it is the
fact `C15.callerBytesAtRisk = false`, i.e. `ReplaceInPlace` is off in the source — read by
tools/extract on every run — and the harness compares the caller's slice before and after every call.) -/

/-- **one target** (`#`-free path): the result is `replaceAt` of the input at one position; putting the old
subtree back gives the input; the label at every position not at or below the target is unchanged
(above: same keys in the same order / same length; beside: the same subtree) -/
theorem set_changes_only_target (opt : Bool) (d d' w : JV) (p : Path) (hp : plain p = true)
    (h : setPathO opt d p w = some d') :
    ∃ pos old, getAt d pos = some old ∧ replaceAt d pos w = some d' ∧ replaceAt d' pos old = some d ∧
      (∀ pos', ¬ pos <+: pos' → labelAt d' pos' = labelAt d pos') ∧
      (∀ pos', ¬ pos <+: pos' → ¬ pos' <+: pos → getAt d' pos' = getAt d pos') := by
  unfold setPathO at h
  cases hl : setLocO opt d p with
  | none => rw [hl] at h; cases h
  | some l =>
    obtain ⟨pos, rfl⟩ := setLocO_plain_one opt d p l hp hl
    rw [hl] at h
    simp only at h
    obtain ⟨old, hold⟩ := getAt_some_of_replaceAt h
    refine ⟨pos, old, hold, h, ?_, ?_, ?_⟩
    · rw [replaceAt_replaceAt pos d d' w old h]
      exact replaceAt_getAt pos d old hold
    · intro pos' h1
      exact labelAt_replaceAt_other d d' w pos pos' h h1
    · intro pos' h1 h2
      exact getAt_replaceAt_other pos pos' d d' w h h1 h2

/-- **any path of the fragment** (one `#` allowed): the result is the input with the subtrees at the
positions gjson reported replaced, and the label at every position that is not at or below one of
them is unchanged -/
theorem set_changes_only_targets (opt : Bool) (d d' w : JV) (p : Path) (h : setPathO opt d p w = some d') :
    ∃ ps, (setLocO opt d p).map Loc.list = some ps ∧ d' = replaceAll d ps w ∧
      ∀ pos', (∀ pos ∈ ps, ¬ pos <+: pos') → labelAt d' pos' = labelAt d pos' := by
  unfold setPathO at h
  cases hl : setLocO opt d p with
  | none => rw [hl] at h; cases h
  | some l =>
    rw [hl] at h
    cases l with
    | one pos =>
      simp only at h
      refine ⟨[pos], rfl, ?_, ?_⟩
      · simp [replaceAll, h]
      · intro pos' hp'
        exact labelAt_replaceAt_other d d' w pos pos' h (hp' pos (by simp))
    | many ps =>
      simp only [Option.some.injEq] at h
      subst h
      exact ⟨ps, rfl, rfl, fun pos' hp' => labelAt_replaceAll_other ps d w pos' hp'⟩

/-- **the multi-value form** `pre.#.rest` on a document without duplicate names, `pre` leading to an array
`xs` at position `a`: gjson reports, and sjson replaces, exactly the positions `a ++ i :: r` where element
`i` of the array has `rest` at `r` (`mem_eachElem`); elements without it — and everything else — stay
(`set_changes_only_targets`).  Either value of `Optimistic` (a path with `#` never takes route (1)). -/
theorem set_each (opt : Bool) (d w : JV) (pre rest : Path) (a : Pos) (xs : List JV) (hd : distinctG d = true)
    (hp : plain pre = true) (h1 : locS pre d = some a) (h2 : getAt d a = some (.arr xs)) :
    getPath d (pre ++ .each :: rest) = some (.arr (((eachElem (loc rest) xs).map (a ++ ·)).filterMap (getAt d))) ∧
    setPathO opt d (pre ++ .each :: rest) w = some (replaceAll d ((eachElem (loc rest) xs).map (a ++ ·)) w) := by
  have hl : loc (pre ++ .each :: rest) d = some (.many ((eachElem (loc rest) xs).map (a ++ ·))) := by
    rw [loc_append_distinct pre _ d hd hp, h1]
    simp only [Option.bind_some, h2, loc_arr_each, Option.map_some, Loc.under]
  refine ⟨by unfold getPath; rw [hl], ?_⟩
  unfold setPathO setLocO
  have ho : optimistic (pre ++ .each :: rest) = false := by simp [optimistic, List.all_append]
  have hpl : plain (pre ++ .each :: rest) = false := by simp [plain, List.all_append, isEach]
  simp only [ho, hpl, Bool.and_false, Bool.false_eq_true, ↓reduceIte, hl]

/-- the aliasing half of C15, on the facts `tools/extract` generates from the source -/
theorem caller_bytes_not_at_risk : C15.callerBytesAtRisk = false := by decide

/-- `{"arr":[{"m":1},{"n":2},{"m":3}],"k":0}` and `arr.#.m`: both `m` are replaced, the element without
`m` and the member `k` stay, the order stays -/
example :
    setPath (.obj [([34, 97, 114, 114, 34], .arr [.obj [([34, 109, 34], .num [49])], .obj [([34, 110, 34], .num [50])],
        .obj [([34, 109, 34], .num [51])]]), ([34, 107, 34], .num [48])])
      [.key [97, 114, 114] false, .each, .key [109] false] (.str [34, 63, 34]) =
    some (.obj [([34, 97, 114, 114, 34], .arr [.obj [([34, 109, 34], .str [34, 63, 34])], .obj [([34, 110, 34], .num [50])],
        .obj [([34, 109, 34], .str [34, 63, 34])]]), ([34, 107, 34], .num [48])]) := by rfl

/-! ## 4. extensionality: what text paths do NOT observe

`LensSpec.ext` on the NON-EMPTY text paths (all that go-snaps can pass: `parsed_paths_nonempty`; the empty `Path` reads the
document itself) is false of the libraries and of the model: a member hidden behind an earlier member of the same name is
never read, and the order of the members is not observable.  The path universe for which it is true is the one of §1
(positions, labels): `ext_labels`. -/

theorem getPath_two_scalars (k1 k2 : Text) (v1 v2 : JV) (h1 : isScalar v1 = true) (h2 : isScalar v2 = true)
    (c : Comp) (rest : Path) :
    getPath (.obj [(k1, v1), (k2, v2)]) (c :: rest) =
      if rest = [] then (if gkey k1 = compName c then some v1 else if gkey k2 = compName c then some v2 else none)
      else none := by
  unfold getPath
  rw [loc_obj]
  cases rest with
  | cons c' r =>
    -- nothing is found below a scalar, so no member qualifies
    simp [firstMember, memberIdx, List.findIdx?_cons, loc_scalar c' r _ h1, loc_scalar c' r _ h2]
  | nil =>
    -- every member qualifies: the first one of the name is read
    by_cases e1 : gkey k1 = compName c
    · simp [firstMember, memberIdx, List.findIdx?_cons, e1, Loc.push, getAt_obj]
    · by_cases e2 : gkey k2 = compName c
      · simp [firstMember, memberIdx, List.findIdx?_cons, e1, e2, Loc.push, getAt_obj]
      · simp [firstMember, memberIdx, List.findIdx?_cons, e1, e2]
/-- **`ext` is false with duplicate names**: `{"k":1,"k":2}` and `{"k":1,"k":3}` are read alike by every path `p ≠ []` -/
theorem ext_false_duplicate :
    ∃ a b : JV, a ≠ b ∧ ∀ p : Path, p ≠ [] → getPath a p = getPath b p := by
  refine ⟨.obj [([34, 107, 34], .num [49]), ([34, 107, 34], .num [50])],
          .obj [([34, 107, 34], .num [49]), ([34, 107, 34], .num [51])], ?_, ?_⟩
  · intro h
    exact absurd (congrArg (fun d => labelAt d [1]) h) (by decide +kernel)
  · intro p hp
    cases p with
    | nil => exact absurd rfl hp
    | cons c rest =>
      rw [getPath_two_scalars _ _ _ _ rfl rfl, getPath_two_scalars _ _ _ _ rfl rfl]
      by_cases hr : rest = []
      · by_cases e1 : gkey [34, 107, 34] = compName c <;> simp [hr, e1]
      · simp [hr]

/-- **`ext` is false even without duplicate names**: `{"a":1,"b":2}` and `{"b":2,"a":1}` (member order) are read alike by
every path `p ≠ []` -/
theorem ext_false_order :
    ∃ a b : JV, distinctG a = true ∧ distinctG b = true ∧ a ≠ b ∧ ∀ p : Path, p ≠ [] → getPath a p = getPath b p := by
  refine ⟨.obj [([34, 97, 34], .num [49]), ([34, 98, 34], .num [50])],
          .obj [([34, 98, 34], .num [50]), ([34, 97, 34], .num [49])], by decide +kernel, by decide +kernel, ?_, ?_⟩
  · intro h
    exact absurd (congrArg (fun d => labelAt d [1]) h) (by decide +kernel)
  · intro p hp
    cases p with
    | nil => exact absurd rfl hp
    | cons c rest =>
      rw [getPath_two_scalars _ _ _ _ rfl rfl, getPath_two_scalars _ _ _ _ rfl rfl]
      have ha : gkey [34, 97, 34] = [97] := by decide +kernel
      have hb : gkey [34, 98, 34] = [98] := by decide +kernel
      rw [ha, hb]
      by_cases hr : rest = []
      · by_cases e1 : [97] = compName c
        · have e2 : ¬ [98] = compName c := by rw [← e1]; decide
          simp [hr, e1, e2]
        · simp [hr, e1]
      · simp [hr]

/-- **`ext_partial`**: on documents without duplicate names (`distinctG`) whose arrays are addressable
(`shortArrays`: fewer than 2^63 elements), what the `#`-free text paths read — the LABEL of the value
found, the empty path reading the root's — determines the document.  (Reading labels, and the root,
is what makes member order observable; `ext_false_order` shows it is necessary.  The proof does not use
`shortArrays b`.) -/
theorem ext_partial (a b : JV) (ha : distinctG a = true) (hb : distinctG b = true)
    (sa : shortArrays a = true) (sb : shortArrays b = true)
    (h : ∀ p : Path, plain p = true → (getPath a p).map label = (getPath b p).map label) : a = b :=
  ext_labels a b fun pos =>
    labelAt_of_getS pos a b ha sa fun p hp => by
      rw [← getPath_eq_getS a p ha hp, ← getPath_eq_getS b p hb hp]; exact h p hp

example : distinctG exDoc = true ∧ shortArrays exDoc = true := by decide +kernel

/-- every path the parser produces is non-empty, so `ext_false_duplicate` and `ext_false_order` speak about all of
go-snaps' paths -/
theorem parsed_paths_nonempty (s : Text) (p : Path) (h : parsePath s = some p) : p ≠ [] := parsePath_ne_nil s p h

/-! ## 5. bytes: sjson's splice is the tree replacement, and keeps the document valid

`jsonSet doc path val` replaces, in the BYTES of the document, the byte range of the value found (offsets
from the tokeniser, `ptokens`) by `val`, as sjson does; every other byte — white space included — stays
by construction (`splice`).  For a `#`-free path: the result is a valid document (`gjson.Valid`'s model)
and parses to `setPath` of the parsed input.  For the multi-value form `a.#.b` the byte-level statement
is not proved (several splices, later offsets first); it is what the suite `json.lens` compares on
every such line. -/

/-- what a successful `jsonSet` went through: the three texts parse, and `setB` answered -/
theorem jsonSet_inv {doc path val out : Text} (h : jsonSet doc path val = some out) :
    ∃ p d w, parsePath path = some p ∧ parse doc = some d ∧ parse val = some w ∧
      setB Generated.sjsonOptimistic doc d p val = some out := by
  unfold jsonSet at h
  cases hpp : parsePath path <;> cases hd : parse doc <;> cases hv : parse val <;>
    simp only [hpp, hd, hv] at h <;> first | cases h | skip
  split at h
  · exact ⟨_, _, _, rfl, rfl, rfl, h⟩
  · cases h

/-- for a `#`-free path `setB` splices at the ONE byte range of the one position `setLocO` reports -/
theorem setB_plain_inv {opt : Bool} {doc val out : Text} {d : JV} {p : Path} (hp : plain p = true)
    (h : setB opt doc d p val = some out) :
    ∃ pt pos ab, ptokens doc = some pt ∧ setLocO opt d p = some (.one pos) ∧ spanAt pt d pos = some ab ∧
      out = splice doc ab val := by
  unfold setB at h
  cases hpt : ptokens doc <;> cases hl : setLocO opt d p <;> simp only [hpt, hl] at h <;> first | cases h | skip
  rename_i pt l
  obtain ⟨pos, rfl⟩ := setLocO_plain_one _ d p l hp hl
  simp only [Loc.list, List.mapM_cons, List.mapM_nil] at h
  cases hs : spanAt pt d pos with
  | none => rw [hs] at h; simp at h
  | some ab =>
    rw [hs] at h
    simp only [Option.pure_def, Option.bind_eq_bind, Option.bind_some, Option.map_some, List.foldr_cons,
      List.foldr_nil, Option.some.injEq] at h
    exact ⟨pt, pos, ab, rfl, rfl, hs, h.symm⟩

theorem jsonSet_parse_partial (doc path val out : Text) (p : Path) (hpp : parsePath path = some p) (hp : plain p = true)
    (h : jsonSet doc path val = some out) :
    ∃ d w d', parse doc = some d ∧ parse val = some w ∧ setPath d p w = some d' ∧
      parse out = some d' ∧ jsonValid out = true := by
  obtain ⟨p', d, w, hpp', hd, hv, hB⟩ := jsonSet_inv h
  cases hpp.symm.trans hpp'
  obtain ⟨pt, pos, ab, hpt, hl, hs, rfl⟩ := setB_plain_inv hp hB
  -- the range exists, so the position does; the splice at it is the replacement in the tree (`splice_parse`)
  obtain ⟨sub, hg⟩ := getAt_of_spanAt hs
  obtain ⟨d', hd'⟩ := replaceAt_some_of_getAt w hg
  have hparse := splice_parse doc d pt pos ab val w d' hd hpt hs hv hd'
  refine ⟨d, w, d', hd, hv, ?_, hparse, (C14Json.jsonValid_iff_parse _).mpr ⟨d', hparse⟩⟩
  unfold setPath setPathO
  rw [hl]
  exact hd'

/-- `{"a" : [ 1 , {"b" :  null } ] }` with `a.1.b` set to `"<Any value>"`: the white space stays -/
example :
    jsonSet [123, 34, 97, 34, 32, 58, 32, 91, 32, 49, 32, 44, 32, 123, 34, 98, 34, 32, 58, 32, 32, 110, 117, 108, 108, 32, 125, 32, 93, 32, 125]
        [97, 46, 49, 46, 98] (stringify [60, 65, 110, 121, 32, 118, 97, 108, 117, 101, 62]) =
      some [123, 34, 97, 34, 32, 58, 32, 91, 32, 49, 32, 44, 32, 123, 34, 98, 34, 32, 58, 32, 32,
        34, 60, 65, 110, 121, 32, 118, 97, 108, 117, 101, 62, 34, 32, 125, 32, 93, 32, 125] := by decide +kernel

/-- **the placeholder as sjson encodes it** (`appendStringify`: raw between quotes when no byte is below
0x20, above 0x7f, `"` or `\`; `encoding/json` otherwise) is always one JSON string token — so the
value handed to `jsonSet` by the matchers for a Go string is a JSON value, whatever bytes the string
holds (control bytes, ill-formed UTF-8, `<`, U+2028 …; the area of defect D13) -/
theorem stringify_valid (s : Text) : parse (stringify s) = some (.str (stringify s)) ∧ jsonValid (stringify s) = true :=
  ⟨stringify_parse s, (C14Json.jsonValid_iff_parse _).mpr ⟨_, stringify_parse s⟩⟩

/-- `q"\` + NUL + `<` + 0xFF + U+2028  ↦  `"q\"\\\u0000\u003c\ufffd\u2028"`;  `<Any value>` stays as it is -/
example : stringify [113, 34, 92, 0, 60, 255, 0xE2, 0x80, 0xA8] =
      [34, 113, 92, 34, 92, 92, 92, 117, 48, 48, 48, 48, 92, 117, 48, 48, 51, 99, 92, 117, 102, 102, 102, 100,
       92, 117, 50, 48, 50, 56, 34] ∧
    stringify [60, 65, 110, 121, 32, 118, 97, 108, 117, 101, 62] =
      [34, 60, 65, 110, 121, 32, 118, 97, 108, 117, 101, 62, 34] := by decide +kernel

/-! ## 6. the transliterated matcher loops run on the model

`Generated.FuncsIO.anyMatcher_JSON` (transliterated from match/any.go on every run) takes the two library
calls as parameters.  Instantiated with the model (`jsonGet`, `jsonSet` with the placeholder encoded as
sjson encodes a Go string), the hypotheses `Tie.JSONLens` of Props/Tie/Matchers.lean hold by definition,
so its theorems apply: the Go loop is `C16.mask` with the model's set. -/

open GoSnaps.GoIO in
def gjsonGetM (d p : Text) : GResult :=
  match jsonGet d p with
  | some (some (raw, _)) => ⟨true, raw⟩
  | _ => ⟨false, []⟩

open GoSnaps.GoIO in
def sjsonSetM (d p v : Text) : Text × Err := ((jsonSet d p (stringify v)).getD d, .nil)

def getT (d p : Text) : Option Text :=
  match jsonGet d p with
  | some (some (raw, _)) => some raw
  | _ => none

def setT (d p v : Text) : Text := (jsonSet d p (stringify v)).getD d

theorem model_JSONLens : Tie.JSONLens gjsonGetM sjsonSetM getT setT where
  exists_iff d p := by
    unfold gjsonGetM getT
    cases jsonGet d p with
    | none => rfl
    | some o => cases o <;> rfl
  value_eq d p v h := by
    unfold gjsonGetM
    unfold getT at h
    cases hj : jsonGet d p with
    | none => rw [hj] at h; cases h
    | some o =>
      rw [hj] at h
      cases o with
      | none => cases h
      | some rv => simp only [Option.some.injEq] at h; simp [h]
  set_eq _ _ _ := rfl

/-- `{"id":7,"t":"x"}`, `match.Any("id", "t")`: the transliterated loop run on the model gives
`{"id":"<Any value>","t":"<Any value>"}` and no error, and it is `C16.mask` -/
example :
    Generated.FuncsIO.anyMatcher_JSON gjsonGetM sjsonSetM
        ⟨[[105, 100], [116]], [60, 65, 110, 121, 32, 118, 97, 108, 117, 101, 62], true, [65, 110, 121]⟩
        [123, 34, 105, 100, 34, 58, 55, 44, 34, 116, 34, 58, 34, 120, 34, 125] =
      (C16.mask setT [[105, 100], [116]] [60, 65, 110, 121, 32, 118, 97, 108, 117, 101, 62]
        [123, 34, 105, 100, 34, 58, 55, 44, 34, 116, 34, 58, 34, 120, 34, 125], []) ∧
    C16.mask setT [[105, 100], [116]] [60, 65, 110, 121, 32, 118, 97, 108, 117, 101, 62]
        [123, 34, 105, 100, 34, 58, 55, 44, 34, 116, 34, 58, 34, 120, 34, 125] =
      [123, 34, 105, 100, 34, 58, 34, 60, 65, 110, 121, 32, 118, 97, 108, 117, 101, 62, 34, 44,
       34, 116, 34, 58, 34, 60, 65, 110, 121, 32, 118, 97, 108, 117, 101, 62, 34, 125] :=
  ⟨Tie.anyMatcher_JSON_lens model_JSONLens _ _ (by decide +kernel), by decide +kernel⟩

end GoSnaps.C16Json
