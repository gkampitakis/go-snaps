/-
C05 — write permissions follow the mode table; CI runs are read-only.

The functions `Generated.shouldUpdate`, `shouldCreate`, `shouldClean`, `cleanFilesUpdate`,
`cleanSnapsUpdate`, `cleanSnapsSort`, `summaryUpdate` are *translated from /repo's current
source on every run* (tools/extract/modes.go); these theorems are re-checked against that
translation, for every value of UPDATE_SNAPS (an arbitrary string).
-/
import GoSnaps.Model
import GoSnaps.Clean
import GoSnaps.Props.C19
namespace GoSnaps.C05
open Generated

/-- the property's table, written once -/
def specUpdate (ci : Bool) (u : Option Bool) (upd : String) : Bool :=
  !ci && (u == some true || (u == none && upd == "true"))

def specCreate (ci : Bool) (u : Option Bool) : Bool :=
  !ci && (u != some false)

def specCleanDeletes (ci : Bool) (upd : String) : Bool :=
  !ci && (upd == "true" || upd == "clean")

def specCleanSorts (ci : Bool) (sortOpt : Bool) : Bool := !ci && sortOpt

theorem shouldUpdate_spec (env : Env) (u : Option Bool) :
    shouldUpdate env u = specUpdate env.isCI u env.updateVAR := by
  unfold shouldUpdate specUpdate
  cases env.isCI <;> cases u with
  | none => simp
  | some v => cases v <;> simp

theorem shouldCreate_spec (env : Env) (u : Option Bool) :
    shouldCreate env u = specCreate env.isCI u := by
  unfold shouldCreate specCreate
  cases env.isCI <;> cases u with
  | none => simp
  | some v => cases v <;> simp

theorem cleanDeletes_spec (env : Env) (s : Bool) :
    cleanFilesUpdate env s = specCleanDeletes env.isCI env.updateVAR ∧
    cleanSnapsUpdate env s = specCleanDeletes env.isCI env.updateVAR ∧
    summaryUpdate env s = specCleanDeletes env.isCI env.updateVAR := by
  unfold cleanFilesUpdate cleanSnapsUpdate summaryUpdate shouldClean specCleanDeletes
  cases env.isCI <;> simp

theorem cleanSorts_spec (env : Env) (s : Bool) :
    cleanSnapsSort env s = specCleanSorts env.isCI s := by
  unfold cleanSnapsSort specCleanSorts
  cases env.isCI <;> cases s <;> simp

/-- On CI every gate is closed, whatever Update(...) and UPDATE_SNAPS say. -/
theorem ci_gates_closed (env : Env) (h : env.isCI = true) (u : Option Bool) (s : Bool) :
    shouldUpdate env u = false ∧ shouldCreate env u = false ∧ cleanFilesUpdate env s = false ∧
    cleanSnapsUpdate env s = false ∧ cleanSnapsSort env s = false := by
  rw [shouldUpdate_spec, shouldCreate_spec, (cleanDeletes_spec env s).1, (cleanDeletes_spec env s).2.1,
    cleanSorts_spec]
  simp [specUpdate, specCreate, specCleanDeletes, specCleanSorts, h]

/-- Update(false) forbids creation and rewriting; Update(true) allows both off CI, whatever
    UPDATE_SNAPS says. -/
theorem update_option_overrides (env : Env) :
    shouldUpdate env (some false) = false ∧ shouldCreate env (some false) = false ∧
    (env.isCI = false → shouldUpdate env (some true) = true ∧ shouldCreate env (some true) = true) := by
  rw [shouldUpdate_spec, shouldCreate_spec, shouldUpdate_spec, shouldCreate_spec]
  refine ⟨by simp [specUpdate], by simp [specCreate], ?_⟩
  intro h; simp [specUpdate, specCreate, h]

/-- with both gates closed no outcome writes -/
theorem readonly_of_tailOutcome {total : Bool} {w : World} {c : Cfg} {p : Text}
    {r : World × Out} (h : TailOutcome total w c p r)
    (hc : shouldCreate w.env c.update = false) (hu : shouldUpdate w.env c.update = false) :
    r.1.fs = w.fs ∧ r.2.writes = [] ∧ r.2.removed = [] := by
  cases h with
  | failed | unsupported | passed => exact ⟨rfl, rfl, rfl⟩
  | added t hg => exact nomatch hc.symm.trans hg
  | updated t hg => exact nomatch hu.symm.trans hg

/-- a multi-entry call touches the file system only behind an open gate -/
theorem entryTail_readonly (w : World) (c : Cfg) (p rel id s : Text) (cmp : Cmp)
    (hc : shouldCreate w.env c.update = false) (hu : shouldUpdate w.env c.update = false) :
    (entryTail w c p rel id s cmp).1.fs = w.fs ∧ (entryTail w c p rel id s cmp).2.writes = [] ∧
    (entryTail w c p rel id s cmp).2.removed = [] :=
  readonly_of_tailOutcome (entryTail_outcome ..) hc hu

theorem standaloneTail_readonly (w : World) (c : Cfg) (p rel s : Text)
    (hc : shouldCreate w.env c.update = false) (hu : shouldUpdate w.env c.update = false) :
    (standaloneTail w c p rel s).1.fs = w.fs ∧ (standaloneTail w c p rel s).2.writes = [] ∧
    (standaloneTail w c p rel s).2.removed = [] :=
  readonly_of_tailOutcome (standaloneTail_outcome ..) hc hu

/-- **CI is read-only for every Match\* call** -/
theorem ci_match_readonly (w : World) (h : w.env.isCI = true) (c : Cfg) (p rel id s : Text) (cmp : Cmp) :
    (entryTail w c p rel id s cmp).1.fs = w.fs ∧ (entryTail w c p rel id s cmp).2.writes = [] ∧
    (standaloneTail w c p rel s).1.fs = w.fs ∧ (standaloneTail w c p rel s).2.writes = [] := by
  have g := ci_gates_closed w.env h c.update false
  have a := entryTail_readonly w c p rel id s cmp g.2.1 g.1
  have b := standaloneTail_readonly w c p rel s g.2.1 g.1
  exact ⟨a.1, a.2.1, b.1, b.2.1⟩

/-- … and a missing snapshot fails the test -/
theorem ci_missing_fails (w : World) (h : w.env.isCI = true) (c : Cfg) (p rel id s : Text) (cmp : Cmp)
    (hmiss : (fsRead w.fs p).bind (getPrev id) = none) :
    (entryTail w c p rel id s cmp).2.events = [.error errNotFound] := by
  have g := ci_gates_closed w.env h c.update false
  unfold entryTail
  simp [hmiss, g.2.1, handleError]

/-- the functions of the source that the model lets mutate the file system -/
def modelledWriters : List String :=
  ["addNewSnapshot", "examineFiles", "examineSnaps", "overwriteFile", "updateSnapshot", "upsertStandaloneSnapshot"]

/-- no function outside the modelled ones mutates the file system (fact read from the source) -/
theorem writers_closed : Generated.fsWriters.all (modelledWriters.contains ·) = true := by decide +kernel

/-- (writer, caller): the call sites of the writers that the model has -/
def modelledCallers : List (String × String) :=
  [("addNewSnapshot", "matchJSON"), ("addNewSnapshot", "matchSnapshot"), ("addNewSnapshot", "matchYAML"),
   ("examineFiles", "Clean"), ("examineSnaps", "Clean"), ("overwriteFile", "examineSnaps"),
   ("overwriteFile", "updateSnapshot"), ("updateSnapshot", "matchJSON"), ("updateSnapshot", "matchSnapshot"),
   ("updateSnapshot", "matchYAML"), ("upsertStandaloneSnapshot", "matchStandaloneJSON"),
   ("upsertStandaloneSnapshot", "matchStandaloneSnapshot")]

/-- every call site of a writer is one of the modelled gates' callers -/
theorem writer_callers_closed : Generated.fsWriterCallers.all (modelledCallers.contains ·) = true := by decide +kernel

/-- non-vacuity: a CI environment with UPDATE_SNAPS=true, and three off-CI ones -/
example : shouldUpdate { isCI := true, updateVAR := "true" } (some true) = false ∧
    shouldUpdate { isCI := false, updateVAR := "nope" } none = false ∧
    shouldUpdate { isCI := false, updateVAR := "true" } none = true ∧
    shouldCreate { isCI := false, updateVAR := "" } none = true := by decide +kernel

end GoSnaps.C05
