/- Protocol operations that are interpreted in front of `step` of Driver.lean (`step` itself is
   exactly the function the theorems talk about).

   `fscrlf <all|odd|even> <path>`: what a checkout with `core.autocrlf` (or an editor) does to a
   snapshot file: line feeds become CR LF — all of them, or every second one (mixed endings).
   The model computes the conversion itself from ITS file contents. -/
import GoSnaps.Driver
import GoSnaps.Json
import GoSnaps.JsonPath
import GoSnaps.Natural
namespace GoSnaps

def crlfAll (t : Text) : Text := t.flatMap (fun c => if c = nl then [cr, nl] else [c])

/-- every second line feed (starting with the first iff `b`) becomes CR LF -/
def crlfAlt : Text → Bool → Text
  | [], _ => []
  | c :: cs, b => if c = nl then (if b then [cr, nl] else [nl]) ++ crlfAlt cs (!b) else c :: crlfAlt cs b

/-- `jsonfmt <hex doc> <sortKeys 0|1> <hex indent> <width>`: the JSON model on its own (C14 tier B) —
`valid` = the model of `gjson.Valid`, `parse` = whether the structural parser accepts the
document (must agree with `valid`), `out` = the model of `pretty.PrettyOptions` (valid input only) -/
def jsonfmtOp (doc sk ind width : String) : Option String :=
  match unhex doc, unhex ind, width.toInt? with
  | some d, some i, some w =>
    let v := Json.jsonValid d
    let p := (Json.parse d).isSome
    let out := if v then Json.pretty { width := w, indent := i, sortKeys := sk = "1" } d else []
    some ("jsonfmt valid=" ++ (if v then "1" else "0") ++ " parse=" ++ (if p then "1" else "0") ++ " out=" ++ hexOf out)
  | _, _, _ => none

/-- `natless <hex a> <hex b>`: the model of `maruel/natural.Less` on its own (C10; `Natural.lean`, the function
`Lemmas/NaturalOrder.lean` proves a strict total order on canonical ids), both ways round -/
def natlessOp (a b : String) : Option String :=
  match unhex a, unhex b with
  | some x, some y =>
    some ("natless less=" ++ (if naturalLess x y then "1" else "0") ++ " rev=" ++ (if naturalLess y x then "1" else "0"))
  | _, _ => none

/-! `jsonpath <o0|o1>[a] <hex doc> (<hex path> <value> <hex enc>)+` (`o1` = `Optimistic: true`, go-snaps' setting;
`a` asks the harness to cross-check match.Any / match.Custom): the JSON lens model on its own (C15 / C16,
lean/GoSnaps/JsonPath.lean), one or more steps applied left to right, each step as go-snaps' matchers
do it: `gjson.GetBytes(doc, path)`, and — only when the path exists and a value is given —
`sjson.SetBytesOptions(doc, path, value, {Optimistic: true})`, whose result is the next step's document.
`<value>` is `-` (look-up only), `s:<hex>` (a Go string: the model computes sjson's encoding itself,
`JsonPath.stringify`) or `r:<hex>` (any other Go value: `<hex enc>` is the JSON text sjson wrote for it,
computed by the harness with the library and appended to the line handed to the model).
Answer per step: `exists= idx=<Result.Index | Result.Indexes> get=<Result.Raw> enc=<value text> set=<document
after the set> valid=<gjson.Valid of it> get2=<Raw of the same path in it> any=1`.  A step outside
the model (path outside the fragment, sjson would create members, …) makes the whole line
`skipline cover=0 reason=…`: it is not compared, and counted. -/

def natList (l : List Nat) : String :=
  if l.isEmpty then "-" else ",".intercalate (l.map toString)

/-- one step on the document `doc` with tree `d`; `Except` carries the reason the model does not
cover it; the result is the answer, the next document and its tree -/
def jsonpathStep (opt : Bool) (doc : Text) (d : Json.JV) (path value enc : String) : Except String (String × Text × Json.JV) :=
  match unhex path, unhex enc with
  | some ptxt, some encB =>
    let valText : Except String (Option Text) :=
      if value = "-" then .ok none
      else if value.startsWith "s:" then
        match unhex (value.drop 2).toString with
        | some s => .ok (some (JsonPath.stringify s))
        | none => .error "bad-value"
      else if value.startsWith "r:" then .ok (some encB)
      else .error "bad-value"
    match valText, JsonPath.parsePath ptxt with
    | .error e, _ => .error e
    | .ok _, none => .error "path"
    | .ok vt, some p =>
      if !JsonPath.covers d p then .error "gjson-quirk"
      else
        match JsonPath.getB doc d p with
        | none => .error "get"
        | some none =>
          .ok ("exists=0 idx=- get=- enc=" ++ hexOf (vt.getD []) ++ " set=- valid=- get2=- any=1", doc, d)
        | some (some (raw, idx)) =>
          match vt with
          | none =>
            .ok ("exists=1 idx=" ++ natList idx ++ " get=" ++ hexOf raw ++ " enc=- set=- valid=- get2=- any=1", doc, d)
          | some v =>
            if (Json.parse v).isNone then .error "value"
            else
              match JsonPath.setB opt doc d p v with
              | none => .error "create"
              | some out =>
                match Json.parse out with
                | none => .error "set-result-does-not-parse"
                | some d' =>
                  let g2 := if !JsonPath.covers d' p then "!outside" else
                    match JsonPath.getB out d' p with
                    | some (some (r2, _)) => hexOf r2
                    | some none => "!missing"
                    | none => "!outside"
                  .ok ("exists=1 idx=" ++ natList idx ++ " get=" ++ hexOf raw ++ " enc=" ++ hexOf v ++ " set=" ++ hexOf out ++
                    " valid=" ++ (if Json.jsonValid out then "1" else "0") ++ " get2=" ++ g2 ++ " any=1", out, d')
  | _, _ => .error "bad-hex"

def jsonpathSteps (opt : Bool) : Nat → Text → Json.JV → List String → String → Except String String
  | _, _, _, [], acc => .ok acc
  | k, doc, d, path :: value :: enc :: rest, acc =>
    match jsonpathStep opt doc d path value enc with
    | .error e => .error ("reason=" ++ e ++ " step=" ++ toString k)
    | .ok (s, doc', d') => jsonpathSteps opt (k + 1) doc' d' rest (acc ++ " " ++ s)
  | _, _, _, _, _ => .error "reason=bad-op step=0"

def jsonpathOp (o doc : String) (steps : List String) : Option String :=
  match unhex doc with
  | some doc =>
    if steps.isEmpty || !(o.startsWith "o0" || o.startsWith "o1") then none
    else
      match Json.parse doc with
      | none => some "skipline cover=0 reason=doc step=1"
      | some d =>
        match jsonpathSteps (o.startsWith "o1") 1 doc d steps "jsonpath" with
        | .ok r => some r
        | .error e => some ("skipline cover=0 " ++ e)
  | none => none

def stepX (s : DState) (line : String) : DState × Option String :=
  match (line.splitOn " ").filter (· ≠ "") with
  | "jsonpath" :: o :: doc :: steps =>
    match jsonpathOp o doc steps with
    | some r => (s, some r)
    | none => bad s line
  | ["jsonfmt", doc, sk, ind, width] =>
    match jsonfmtOp doc sk ind width with
    | some r => (s, some r)
    | none => bad s line
  | ["natless", a, b] =>
    match natlessOp a b with
    | some r => (s, some r)
    | none => bad s line
  | ["fscrlf", mode, p] =>
    match unhex p with
    | some p =>
      match fsRead s.w.fs p with
      | some c =>
        let c' := if mode = "all" then crlfAll c else crlfAlt c (mode = "odd")
        ({ s with w := { s.w with fs := fsWrite s.w.fs p c' } }, some "fscrlf ok")
      | none => (s, some "fscrlf ok")
    | none => bad s line
  | ["ora", "fs", p, c] =>
    -- `fsedit` of the harness: the file was edited from outside between two runs (top blank line, final
    -- newline, blank lines between entries removed); the harness reports the new content
    match unhex p, unhex c with
    | some p, some c => ({ s with w := { s.w with fs := fsWrite s.w.fs p c } }, none)
    | _, _ => bad s line
  | ["cfgrel", n, "=", file, ext] =>
    -- `Dir("")`: the empty directory option (snapshots next to the test file), as distinct from no `Dir` option
    match n.toNat?, unhex file, unhex ext with
    | some n, some f, some e =>
      ({ s with w := { s.w with cfgs := setCfg s.w.cfgs n { filename := f, snapsDir := [], extension := e, update := none } } }, some "cfgrel ok")
    | _, _, _ => bad s line
  | ["setenv", _, _] =>
    -- the process changes its environment while it runs: the mode of the run is what the `mode` line (the
    -- start-up capture of CI / UPDATE_SNAPS) said, a later change is not consulted
    (s, some "setenv ok")
  | ["fsrmdir", p] =>
    -- a directory removed with everything in it
    match unhex p with
    | some p => ({ s with w := { s.w with fs := s.w.fs.filter (fun e => !((p ++ [47]).isPrefixOf e.1)) } }, some "fsrmdir ok")
    | none => bad s line
  | ["goflag", _, _] =>
    -- a command-line flag declared by the user's tests (`-update` for golden files): the mode of the run is what
    -- the `mode` line said, nothing else is consulted
    (s, some "goflag ok")
  | ["chdir", _] =>
    -- the test changes its working directory: nothing in the model depends on it (ordinary builds)
    (s, some "chdir ok")
  | _ => step s line

/-- `stepX` never changes the state on a `jsonfmt` line -/
theorem stepX_jsonfmt_state (s : DState) (line doc sk ind width : String)
    (h : (line.splitOn " ").filter (· ≠ "") = ["jsonfmt", doc, sk, ind, width]) : (stepX s line).1 = s := by
  unfold stepX
  rw [h]
  simp only
  cases jsonfmtOp doc sk ind width <;> rfl

/-- `stepX` never changes the state on a `jsonpath` line -/
theorem stepX_jsonpath_state (s : DState) (line o doc : String) (steps : List String)
    (h : (line.splitOn " ").filter (· ≠ "") = "jsonpath" :: o :: doc :: steps) : (stepX s line).1 = s := by
  unfold stepX
  rw [h]
  simp only
  cases jsonpathOp o doc steps <;> rfl

/-- `stepX` never changes the state on a `chdir` line: nothing in the model of an ordinary build depends on the
working directory -/
theorem stepX_chdir_state (s : DState) (line d : String)
    (h : (line.splitOn " ").filter (· ≠ "") = ["chdir", d]) : (stepX s line).1 = s := by
  unfold stepX
  rw [h]
  simp only

/-- `stepX` never changes the state on a `setenv` line: the mode is the start-up capture -/
theorem stepX_setenv_state (s : DState) (line k v : String)
    (h : (line.splitOn " ").filter (· ≠ "") = ["setenv", k, v]) : (stepX s line).1 = s := by
  unfold stepX
  rw [h]
  simp only

/-- `cfgrel n = f e` builds the Config with the EMPTY snapshot directory (`Dir("")`), and touches nothing else -/
theorem stepX_cfgrel_empty_dir (s : DState) (line n f e : String) (k : Nat) (ft et : Text)
    (h : (line.splitOn " ").filter (· ≠ "") = ["cfgrel", n, "=", f, e])
    (hn : n.toNat? = some k) (hf : unhex f = some ft) (he : unhex e = some et) :
    (stepX s line).1 = { s with w := { s.w with cfgs := setCfg s.w.cfgs k { filename := ft, snapsDir := [], extension := et, update := none } } } := by
  unfold stepX
  rw [h]
  simp only
  rw [hn, hf, he]

end GoSnaps
