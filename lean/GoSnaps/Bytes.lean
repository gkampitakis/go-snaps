/-
L0: bytes and lines.  Models the Go standard-library primitives the snapshot code is built
from: `strings.Split(s, "\n")`, `strings.Join(ls, "\n")`, `bufio.ScanLines`,
`strings.TrimSuffix(s, "\n")`.  Core Lean only (no Mathlib) so the driver links natively.
-/
namespace GoSnaps

abbrev Byte := UInt8
abbrev Text := List Byte
abbrev Line := List Byte

def nl : Byte := 10
def cr : Byte := 13

/-- `strings.Split(s, "\n")`: always at least one segment. -/
def lines : Text → List Line
  | [] => [[]]
  | c :: cs =>
    if c = nl then [] :: lines cs
    else match lines cs with
      | [] => [[c]]            -- unreachable (`lines_ne_nil`)
      | l :: ls => (c :: l) :: ls

theorem lines_ne_nil (s : Text) : lines s ≠ [] := by
  cases s with
  | nil => simp [lines]
  | cons c cs =>
    simp only [lines]
    split
    · simp
    · split <;> simp

/-- `lines` on a non-empty text, without the unreachable alternative -/
theorem lines_cons (c : Byte) (cs : Text) :
    ∃ l ls, lines cs = l :: ls ∧
      lines (c :: cs) = if c = nl then [] :: l :: ls else (c :: l) :: ls := by
  cases hq : lines cs with
  | nil => exact absurd hq (lines_ne_nil cs)
  | cons l ls => exact ⟨l, ls, rfl, by simp only [lines, hq]⟩

/-- `strings.Join(ls, "\n")` -/
def unlines : List Line → Text
  | [] => []
  | [l] => l
  | l :: m :: ls => l ++ nl :: unlines (m :: ls)

theorem unlines_lines (s : Text) : unlines (lines s) = s := by
  induction s with
  | nil => rfl
  | cons c cs ih =>
    obtain ⟨l, ls, hq, hc⟩ := lines_cons c cs
    rw [hq] at ih
    rw [hc, ← ih]
    split
    · rename_i h; rw [h]; rfl
    · cases ls <;> rfl

def NoNL (l : Line) : Prop := nl ∉ l

instance (l : Line) : Decidable (NoNL l) := by unfold NoNL; infer_instance

theorem lines_append_nl (a b : Text) : lines (a ++ nl :: b) = lines a ++ lines b := by
  induction a with
  | nil => simp [lines]
  | cons c cs ih =>
    simp only [List.cons_append, lines]
    split
    · simp [ih]
    · rw [ih]
      cases hq : lines cs with
      | nil => exact absurd hq (lines_ne_nil cs)
      | cons l ls => simp

theorem lines_of_noNL (l : Line) (h : NoNL l) : lines l = [l] := by
  induction l with
  | nil => simp [lines]
  | cons c cs ih =>
    simp [lines, Ne.symm (List.ne_of_not_mem_cons h), ih (List.not_mem_of_not_mem_cons h)]

/-- `strings.Split` undoes `strings.Join` on newline-free lines -/
theorem lines_unlines_of_noNL (ls : List Line) (hne : ls ≠ []) (hn : ∀ l ∈ ls, NoNL l) :
    lines (unlines ls) = ls := by
  induction ls with
  | nil => exact absurd rfl hne
  | cons l ls ih =>
    cases ls with
    | nil => exact lines_of_noNL l (hn l (by simp))
    | cons m ms =>
      rw [show unlines (l :: m :: ms) = l ++ nl :: unlines (m :: ms) from rfl, lines_append_nl,
        lines_of_noNL l (hn l (by simp)), ih (by simp) fun x hx => hn x (by simp [hx])]
      rfl

/-- every segment produced by `lines` is newline-free -/
theorem noNL_of_mem_lines (s : Text) : ∀ l ∈ lines s, NoNL l := by
  induction s with
  | nil => simp [lines, NoNL]
  | cons c cs ih =>
    obtain ⟨l, ls, hq, hc⟩ := lines_cons c cs
    rw [hq] at ih
    rw [hc]
    intro x hx
    split at hx
    · rcases List.mem_cons.mp hx with rfl | hx
      · exact List.not_mem_nil
      · exact ih x hx
    · rename_i h
      rcases List.mem_cons.mp hx with rfl | hx
      · exact fun hm => (List.mem_cons.mp hm).elim (fun e => h e.symm) (ih l List.mem_cons_self)
      · exact ih x (List.mem_cons_of_mem _ hx)

/-- one trailing carriage return is dropped by `bufio.ScanLines` (`dropCR`) -/
def dropCR (l : Line) : Line :=
  match l.getLast? with
  | some c => if c = cr then l.dropLast else l
  | none => l

/-- `bufio.ScanLines` run to completion over the whole input: split at `\n`, no empty final
token, one trailing `\r` stripped from every token. -/
def scan (t : Text) : List Line :=
  let ls := lines t
  let ls' := if ls.getLast? = some [] then ls.dropLast else ls
  ls'.map dropCR

def NoCRLine (l : Line) : Prop := l.getLast? ≠ some cr

instance (l : Line) : Decidable (NoCRLine l) := by unfold NoCRLine; infer_instance

theorem dropCR_id (l : Line) (h : NoCRLine l) : dropCR l = l := by
  unfold dropCR NoCRLine at *
  cases hq : l.getLast? with
  | none => rfl
  | some c =>
    have : c ≠ cr := by intro e; apply h; rw [hq, e]
    simp [this]

/-- `strings.TrimSuffix(s, "\n")` -/
def trimNL (t : Text) : Text :=
  match t.getLast? with
  | some c => if c = nl then t.dropLast else t
  | none => t

theorem trimNL_append (b : Text) : trimNL (b ++ [nl]) = b := by
  simp [trimNL]

theorem flatMap_lines (b : Text) : (lines b).flatMap (· ++ [nl]) = b ++ [nl] := by
  induction b with
  | nil => simp [lines]
  | cons c cs ih =>
    obtain ⟨l, ls, hq, hc⟩ := lines_cons c cs
    rw [hq] at ih
    rw [hc]
    split
    · rename_i h; rw [List.flatMap_cons, ih, h]; rfl
    · exact congrArg (c :: ·) ih

/-- `strings.HasPrefix` -/
def hasPrefix (s p : Text) : Bool := p.isPrefixOf s

/-- `strings.HasSuffix` -/
def hasSuffix (s p : Text) : Bool := p.isSuffixOf s

/-- `strings.Index(s, sep)`; `none` = -1 -/
def indexOf (s sep : Text) : Option Nat :=
  go s 0
where
  go : Text → Nat → Option Nat
    | [], n => if sep = [] then some n else none
    | c :: cs, n => if sep.isPrefixOf (c :: cs) then some n else go cs (n + 1)

/-- `strings.Contains` -/
def containsSub (s sep : Text) : Bool := (indexOf s sep).isSome

/-- `strings.ReplaceAll(s, old, new)` for a single-byte `old` -/
def replaceByte (s : Text) (old : Byte) (new : Text) : Text :=
  s.flatMap (fun c => if c = old then new else [c])

def ofString (s : String) : Text := s.toUTF8.toList

/-- decimal digits of `n`, most significant first (`fuel` bounds the number of digits) -/
def natToTextAux : Nat → Nat → Text → Text
  | 0, _, acc => acc
  | fuel + 1, n, acc =>
    let acc' := UInt8.ofNat (48 + n % 10) :: acc
    if n < 10 then acc' else natToTextAux fuel (n / 10) acc'

/-- decimal rendering, `strconv.Itoa` / `%d` for naturals (kernel-reducible, unlike `toString`) -/
def natToText (n : Nat) : Text := natToTextAux (n + 1) n []

end GoSnaps

namespace GoSnaps
example : natToText 0 = [48] ∧ natToText 7 = [55] ∧ natToText 10 = [49, 48] ∧ natToText 1203 = [49, 50, 48, 51] := by decide
end GoSnaps
