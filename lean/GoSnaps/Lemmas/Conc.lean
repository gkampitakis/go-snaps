/-
The lock protocol of `GoSnaps/Conc.lean`: the counter invariant `CntInv`; the invariant behind
serialisability (`InvG`, `Inv`), its preservation by every step and what it gives once all threads
have finished; the simulation between two representations of the file (`Hom`, `grun_map`).
`Props/C06.lean` and `Props/C06Refine.lean` apply these to runs from `init`.
-/
import GoSnaps.Conc

namespace GoSnaps.Conc

variable {κ ν : Type}

theorem Disj.get {progs : List (List (Call κ ν))} (h : Disj progs) {i j : Nat} {p q : List (Call κ ν)}
    (hij : i ≠ j) (hp : progs[i]? = some p) (hq : progs[j]? = some q) :
    ∀ c ∈ p, ∀ d ∈ q, c.slot ≠ d.slot := by
  unfold Disj at h
  rw [List.pairwise_iff_getElem] at h
  obtain ⟨hi, rfl⟩ := List.getElem?_eq_some_iff.mp hp
  obtain ⟨hj, rfl⟩ := List.getElem?_eq_some_iff.mp hq
  rcases Nat.lt_or_gt_of_ne hij with hlt | hgt
  · exact h i j hi hj hlt
  · intro c hc d hd e
    exact h j i hj hi hgt d hd c hc e.symm

section Generic
variable {F : Type}

theorem holder_none_of_not_blocked {σ : State F κ ν}
    (h : ¬ blocked true σ = true) : σ.holder = none := by
  cases hh : σ.holder with
  | none => rfl
  | some k => exact absurd (by rw [blocked, hh]; rfl) h

theorem sum_map_set {α : Type} (g : α → Nat) (l : List α) (i : Nat) (a b : α)
    (h : l[i]? = some a) : ((l.set i b).map g).sum + g a = (l.map g).sum + g b := by
  induction l generalizing i with
  | nil => cases h
  | cons x xs ih =>
    cases i with
    | zero =>
      cases h
      simp only [List.set_cons_zero, List.map_cons, List.sum_cons]; omega
    | succ n =>
      have := ih n h
      simp only [List.set_cons_succ, List.map_cons, List.sum_cons]; omega

def countOuts (ts : List (TState F κ ν)) (o : Outcome) : Nat :=
  (ts.map (fun t => t.outs.count o)).sum

def CntInv (σ : State F κ ν) : Prop := ∀ o, σ.cnt.get o = countOuts σ.ts o

theorem Counters.get_bump (k : Counters) (o o' : Outcome) :
    (k.bump o).get o' = k.get o' + [o].count o' := by
  cases o <;> cases o' <;> rfl

theorem CntInv.set {σ : State F κ ν} (h : CntInv σ) {i : Nat} {t t' : TState F κ ν}
    (hti : σ.ts[i]? = some t) (f' : F) (h' : Option Nat) {cnt' : Counters}
    (hc : ∀ o, cnt'.get o + t.outs.count o = σ.cnt.get o + t'.outs.count o) :
    CntInv ⟨f', h', σ.ts.set i t', cnt'⟩ := by
  intro o
  have := sum_map_set (fun t => t.outs.count o) σ.ts i t t' hti
  have := hc o
  simp only [countOuts, h o] at *
  omega

theorem init_cnt (f₀ : F) (progs : List (List (Call κ ν))) :
    CntInv (init f₀ progs : State F κ ν) := by
  intro o
  have : ∀ ps : List (List (Call κ ν)),
      ((ps.map (initT (F := F))).map (fun t => t.outs.count o)).sum = 0 := by
    intro ps; induction ps with
    | nil => rfl
    | cons p ps ih => exact (Nat.zero_add _).trans ih
  simp only [init, countOuts, this]
  cases o <;> rfl

variable [DecidableEq ν]

/-- Whatever a step of thread `i` does, it is one of three things: nothing; completing the current
call (`State.emit`); moving on inside it (only the `pc` of thread `i`, the file and the lock
change).  Facts that do not depend on which operation ran follow from this alone; `step_invG` and
`gstep_map` need the operation and follow the definition of `gstepT` branch by branch. -/
theorem gstepT_cases {motive : State F κ ν → Prop} (ops : FileOps F κ ν) (L : Locks)
    (σ : State F κ ν) (i : Nat) (t : TState F κ ν) (stutter : motive σ)
    (emit : ∀ cs o f' h', motive (σ.emit i t cs o f' h'))
    (move : ∀ pc f' h', motive ⟨f', h', σ.ts.set i { t with pc := pc }, σ.cnt⟩) :
    motive (gstepT ops L σ i t) := by
  obtain ⟨todo, pc, outs⟩ := t
  cases todo with
  | nil => exact stutter
  | cons c cs =>
    -- `by_cases` + `if_pos`/`if_neg`: `split` is slow on the nested conditionals of `gstepT`
    cases pc with
    | idle =>
      simp only [gstepT]
      by_cases hb : blocked L.read σ = true
      · rw [if_pos hb]; exact stutter
      rw [if_neg hb]
      cases ops.lookup σ.file c.slot with
      | none =>
        cases c.canCreate
        · exact emit ..
        · exact move ..
      | some v0 =>
        by_cases hv : v0 = c.val
        · simp only [if_pos hv]; exact emit ..
        simp only [if_neg hv]
        cases c.canUpdate
        · exact emit ..
        · exact move ..
    | wantAdd =>
      simp only [gstepT]
      by_cases hb : blocked L.add σ = true
      · rw [if_pos hb]; exact stutter
      · rw [if_neg hb]; exact emit ..
    | wantUpd =>
      simp only [gstepT]
      by_cases hb : blocked L.upd σ = true
      · rw [if_pos hb]; exact stutter
      · rw [if_neg hb]; exact move ..
    | inUpd snap => exact move ..
    | inWrite snap => exact emit ..

theorem gstep_length (ops : FileOps F κ ν) (L : Locks) (σ : State F κ ν) (i : Nat) :
    (gstep ops L σ i).ts.length = σ.ts.length := by
  unfold gstep; split
  · rfl
  · exact gstepT_cases (motive := fun τ => τ.ts.length = σ.ts.length) ops L σ i _ rfl
      (fun _ _ _ _ => List.length_set ..) (fun _ _ _ => List.length_set ..)

theorem grun_length (ops : FileOps F κ ν) (L : Locks) (σ : State F κ ν) (sch : List Nat) :
    (grun ops L σ sch).ts.length = σ.ts.length := by
  induction sch generalizing σ with
  | nil => rfl
  | cons i sch ih => simp only [grun]; rw [ih, gstep_length]

theorem gstep_cnt (ops : FileOps F κ ν) (L : Locks) {σ : State F κ ν} (h : CntInv σ) (i : Nat) :
    CntInv (gstep ops L σ i) := by
  unfold gstep
  cases hti : σ.ts[i]? with
  | none => exact h
  | some t =>
    refine gstepT_cases ops L σ i t h (fun _ o _ _ => h.set hti _ _ fun o' => ?_)
      (fun _ _ _ => h.set hti _ _ fun _ => rfl)
    rw [Counters.get_bump, finish, List.count_append]
    omega

theorem grun_cnt (ops : FileOps F κ ν) (L : Locks) (σ : State F κ ν) (h : CntInv σ)
    (sch : List Nat) : CntInv (grun ops L σ sch) := by
  induction sch generalizing σ with
  | nil => exact h
  | cons i sch ih => exact ih _ (gstep_cnt ops L h i)

end Generic

variable [DecidableEq κ]

theorem lookup_append_other (f : File κ ν) (s s' : κ) (v : ν) (h : s' ≠ s) :
    lookup (f ++ [(s', v)]) s = lookup f s := by
  induction f with
  | nil => exact if_neg h
  | cons e f ih => obtain ⟨a, b⟩ := e; simp only [List.cons_append, lookup, ih]

theorem lookup_append_self_none (f : File κ ν) (s : κ) (v : ν) (h : lookup f s = none) :
    lookup (f ++ [(s, v)]) s = some v := by
  induction f with
  | nil => exact if_pos rfl
  | cons e f ih =>
    obtain ⟨a, b⟩ := e
    simp only [List.cons_append, lookup] at h ⊢
    by_cases ha : a = s
    · rw [if_pos ha] at h; cases h
    · rw [if_neg ha] at h ⊢; exact ih h

theorem lookup_setVal (f : File κ ν) (s s' : κ) (v : ν) :
    lookup (setVal f s' v) s = if s' = s then (lookup f s).map fun _ => v else lookup f s := by
  induction f with
  | nil => exact (ite_self _).symm
  | cons e f ih =>
    obtain ⟨a, b⟩ := e
    simp only [setVal, List.map_cons, lookup] at ih ⊢
    rw [ih]
    by_cases ha : a = s'
    · subst ha; by_cases hs : a = s <;> simp only [hs, ↓reduceIte, Option.map_some]
    · by_cases hs : s' = s
      · subst hs; simp only [if_neg ha, ↓reduceIte]
      · simp only [if_neg ha, if_neg hs]

theorem lookup_eq_none_iff (f : File κ ν) (s : κ) :
    lookup f s = none ↔ s ∉ f.map Prod.fst := by
  induction f with
  | nil => exact ⟨fun _ => List.not_mem_nil, fun _ => rfl⟩
  | cons e f ih =>
    obtain ⟨a, b⟩ := e
    simp only [lookup, List.map_cons, List.mem_cons, not_or]
    by_cases ha : a = s
    · simp only [if_pos ha, reduceCtorEq, false_iff, not_and]
      exact fun h => absurd ha.symm h
    · rw [if_neg ha, ih]
      exact ⟨fun h => ⟨fun e => ha e.symm, h⟩, fun h => h.2⟩

theorem setVal_map_fst (f : File κ ν) (s : κ) (v : ν) :
    (setVal f s v).map Prod.fst = f.map Prod.fst := by
  induction f with
  | nil => rfl
  | cons e f ih =>
    simp only [setVal, List.map_cons] at ih ⊢
    rw [ih]
    by_cases h : e.1 = s
    · rw [if_pos h, h]
    · rw [if_neg h]

variable [DecidableEq ν]

theorem writePhase_lookup (f : File κ ν) (c : Call κ ν) (s : κ) :
    lookup (writePhase f c (lookup f c.slot)).1 s =
      if s = c.slot then after c (lookup f c.slot) else lookup f s := by
  unfold writePhase after
  by_cases hs : s = c.slot
  · subst hs
    rw [if_pos rfl]
    cases hr : lookup f c.slot with
    | none =>
      cases c.canCreate
      · exact hr
      · exact lookup_append_self_none f _ _ hr
    | some v0 =>
      by_cases hv : v0 = c.val
      · simp only [if_pos hv]; exact hr
      · simp only [if_neg hv]
        cases c.canUpdate
        · exact hr
        · exact (lookup_setVal f ..).trans (by rw [if_pos rfl, hr]; rfl)
  · rw [if_neg hs]
    have hs' : c.slot ≠ s := fun e => hs e.symm
    cases lookup f c.slot with
    | none =>
      cases c.canCreate
      · rfl
      · exact lookup_append_other _ _ _ _ hs'
    | some v0 =>
      by_cases hv : v0 = c.val
      · simp only [if_pos hv]
      · simp only [if_neg hv]
        cases c.canUpdate
        · rfl
        · exact (lookup_setVal ..).trans (if_neg hs')
theorem writePhase_outcome_indep (f g : File κ ν) (c : Call κ ν) (r : Option ν) :
    (writePhase f c r).2 = (writePhase g c r).2 := by
  unfold writePhase
  cases r with
  | none => cases c.canCreate <;> rfl
  | some v0 =>
    by_cases hv : v0 = c.val
    · simp only [if_pos hv]
    · simp only [if_neg hv]; cases c.canUpdate <;> rfl
theorem serialOuts_congr (l1 l2 : κ → Option ν) (cs : List (Call κ ν))
    (h : ∀ c ∈ cs, l1 c.slot = l2 c.slot) : serialOuts l1 cs = serialOuts l2 cs := by
  induction cs generalizing l1 l2 with
  | nil => rfl
  | cons c cs ih =>
    simp only [serialOuts]
    have hc := h c (by simp)
    rw [hc]
    congr 1
    apply ih
    intro d hd
    by_cases e : d.slot = c.slot
    · simp [e]
    · simp [e, h d (by simp [hd])]

theorem serialOuts_length (l : κ → Option ν) (cs : List (Call κ ν)) :
    (serialOuts l cs).length = cs.length := by
  induction cs generalizing l with
  | nil => rfl
  | cons c cs ih => simp [serialOuts, ih]

theorem serialFinal_unowned (p : List (Call κ ν)) (s : κ) (r : Option ν)
    (h : ∀ c ∈ p, c.slot ≠ s) : serialFinal p s r = r := by
  induction p generalizing r with
  | nil => rfl
  | cons c cs ih =>
    simp only [serialFinal]
    have hc : c.slot ≠ s := h c (by simp)
    simp only [hc, ↓reduceIte]
    exact ih r (fun d hd => h d (by simp [hd]))

/-! ## The invariant

The invariant is stated on a *logical file* `g`: while `updateSnapshot` holds the lock, the copy
it took before truncating (`PCInv` has `snap = g`); the real file otherwise. -/

/-- what the program counter of thread `i` promises about the logical file and the lock -/
def PCInv (g : File κ ν) (holder : Option Nat) (i : Nat) (t : ATState κ ν) : Prop :=
  match t.pc with
  | .idle => True
  | .wantAdd => ∃ c cs, t.todo = c :: cs ∧ lookup g c.slot = none ∧ c.canCreate = true
  | .wantUpd => ∃ c cs v0, t.todo = c :: cs ∧ lookup g c.slot = some v0 ∧ v0 ≠ c.val ∧
      c.canUpdate = true
  | .inUpd snap => snap = g ∧ holder = some i ∧
      ∃ c cs v0, t.todo = c :: cs ∧ lookup g c.slot = some v0 ∧ v0 ≠ c.val ∧ c.canUpdate = true
  | .inWrite snap => snap = g ∧ holder = some i ∧
      ∃ c cs v0, t.todo = c :: cs ∧ lookup g c.slot = some v0 ∧ v0 ≠ c.val ∧ c.canUpdate = true

/-- per-thread invariant: the decision taken by the last READ is still right for the logical
file; what the thread has output so far plus what the serial run predicts for the rest (from the
*current* content of its slots) is the serial prediction from the initial file; same for the
final content of its slots. -/
structure ThreadInv (f₀ g : File κ ν) (holder : Option Nat) (i : Nat) (t : ATState κ ν)
    (p : List (Call κ ν)) : Prop where
  sub : ∀ c ∈ t.todo, c ∈ p
  pc : PCInv g holder i t
  outs : t.outs ++ serialOuts (lookup g) t.todo = serialOuts (lookup f₀) p
  fin : ∀ s, (∃ c ∈ p, c.slot = s) →
    serialFinal t.todo s (lookup g s) = serialFinal p s (lookup f₀ s)

/-- the `order` field of `FinalOK`, for the logical file -/
def FileShape (f₀ : File κ ν) (progs : List (List (Call κ ν))) (f : File κ ν) : Prop :=
  ∃ added, f.map Prod.fst = f₀.map Prod.fst ++ added ∧ added.Nodup ∧
    ∀ s ∈ added, s ∉ f₀.map Prod.fst ∧ ∃ p ∈ progs, ∃ c ∈ p, c.slot = s ∧ c.canCreate = true

structure InvG (f₀ : File κ ν) (progs : List (List (Call κ ν))) (σ : AState κ ν)
    (g : File κ ν) : Prop where
  threads : ∀ (i : Nat) (t : ATState κ ν), σ.ts[i]? = some t →
    ∃ p, progs[i]? = some p ∧ ThreadInv f₀ g σ.holder i t p
  unowned : ∀ s, (∀ p ∈ progs, ∀ c ∈ p, c.slot ≠ s) → lookup g s = lookup f₀ s
  shape : FileShape f₀ progs g
  holderOK : ∀ (i : Nat), σ.holder = some i →
    ∃ t snap, σ.ts[i]? = some t ∧ (t.pc = .inUpd snap ∨ t.pc = .inWrite snap)
  /-- when the write lock is free the real file IS the logical file -/
  fileOK : σ.holder = none → σ.file = g

def Inv (f₀ : File κ ν) (progs : List (List (Call κ ν))) (σ : AState κ ν) : Prop :=
  ∃ g, InvG f₀ progs σ g

/-- the thread completes its current call by (atomically) doing what `writePhase` does -/
theorem ThreadInv.finish {f₀ f f' : File κ ν} {holder : Option Nat} {i : Nat} {t : ATState κ ν}
    {p : List (Call κ ν)} (h : ThreadInv f₀ f holder i t p) {c : Call κ ν}
    {cs : List (Call κ ν)} (htodo : t.todo = c :: cs) (holder' : Option Nat) {o : Outcome}
    (hw : writePhase f c (lookup f c.slot) = (f', o)) :
    ThreadInv f₀ f' holder' i (finish t cs o) p := by
  obtain ⟨rfl, rfl⟩ : (writePhase f c (lookup f c.slot)).1 = f' ∧
      (writePhase f c (lookup f c.slot)).2 = o := by rw [hw]; exact ⟨rfl, rfl⟩
  refine ⟨fun d hd => h.sub d (by rw [htodo]; exact List.mem_cons_of_mem _ hd), trivial, ?_, ?_⟩
  · simp only [Conc.finish]
    rw [show lookup (writePhase f c (lookup f c.slot)).1 = _ from funext (writePhase_lookup f c),
      ← h.outs, htodo]
    simp only [serialOuts, List.append_assoc, List.singleton_append]
    rw [writePhase_outcome_indep f [] c]
  · intro s hs
    rw [← h.fin s hs, htodo]
    simp only [Conc.finish, serialFinal]
    rw [writePhase_lookup]
    by_cases e : s = c.slot
    · subst e; rw [if_pos rfl]
    · rw [if_neg e, if_neg fun x => e x.symm]

theorem ThreadInv.setPc {f₀ f : File κ ν} {holder holder' : Option Nat} {i : Nat}
    {t : ATState κ ν} {p : List (Call κ ν)} (h : ThreadInv f₀ f holder i t p)
    (pc : PC (File κ ν)) (hpc : PCInv f holder' i { t with pc := pc }) :
    ThreadInv f₀ f holder' i { t with pc := pc } p :=
  ⟨h.sub, hpc, h.outs, h.fin⟩

omit [DecidableEq ν] in
theorem PCInv.frame {g g' : File κ ν} {holder holder' : Option Nat} {k : Nat} {t : ATState κ ν}
    (h : PCInv g holder k t) (hoff : ∀ d ∈ t.todo, lookup g' d.slot = lookup g d.slot)
    (hb : holder = some k → g' = g ∧ holder' = some k) : PCInv g' holder' k t := by
  obtain ⟨todo, pc, outs⟩ := t
  cases pc with
  | idle => trivial
  | wantAdd =>
    obtain ⟨d, ds, hd, hl, hcc⟩ := h
    exact ⟨d, ds, hd, (hoff d (hd ▸ List.mem_cons_self ..)).trans hl, hcc⟩
  | wantUpd =>
    obtain ⟨d, ds, v0, hd, hl, rest⟩ := h
    exact ⟨d, ds, v0, hd, (hoff d (hd ▸ List.mem_cons_self ..)).trans hl, rest⟩
  | inUpd snap | inWrite snap =>
    obtain ⟨hsnap, hh, rest⟩ := h
    obtain ⟨rfl, e2⟩ := hb hh
    exact ⟨hsnap, e2, rest⟩

/-- Frame rule: thread `i` moves, touching only its own slots and respecting a foreign lock
holder; everybody else's invariant survives. -/
theorem InvG.frame {f₀ : File κ ν} {progs : List (List (Call κ ν))} {σ : AState κ ν}
    {g : File κ ν} (hinv : InvG f₀ progs σ g)
    (hdisj : Disj progs) {i : Nat} {t : ATState κ ν} {p : List (Call κ ν)}
    (hti : σ.ts[i]? = some t) (hp : progs[i]? = some p)
    {file' g' : File κ ν} {holder' : Option Nat} {t' : ATState κ ν} {cnt' : Counters}
    (hslots : ∀ s, (∀ c ∈ p, c.slot ≠ s) → lookup g' s = lookup g s)
    (hforeign : ∀ k, k ≠ i → σ.holder = some k → g' = g ∧ holder' = some k)
    (hnoTake : ∀ k, k ≠ i → holder' = some k → σ.holder = some k)
    (hown : ThreadInv f₀ g' holder' i t' p)
    (hshape : FileShape f₀ progs g')
    (hhold : holder' = some i → ∃ snap, t'.pc = .inUpd snap ∨ t'.pc = .inWrite snap)
    (hfile : holder' = none → file' = g') :
    InvG f₀ progs ⟨file', holder', σ.ts.set i t', cnt'⟩ g' := by
  have hilt : i < σ.ts.length := (List.getElem?_eq_some_iff.mp hti).1
  refine ⟨?_, ?_, hshape, ?_, hfile⟩
  · intro k tk hk
    replace hk : (σ.ts.set i t')[k]? = some tk := hk
    by_cases hik : i = k
    · subst hik
      rw [List.getElem?_set_self hilt] at hk
      cases hk
      exact ⟨p, hp, hown⟩
    · rw [List.getElem?_set_ne hik] at hk
      obtain ⟨pk, hpk, hT⟩ := hinv.threads k tk hk
      have hoff : ∀ d ∈ pk, lookup g' d.slot = lookup g d.slot := fun d hd =>
        hslots _ fun c hc e => hdisj.get hik hp hpk c hc d hd e
      refine ⟨pk, hpk, hT.sub, hT.pc.frame (fun d hd => hoff d (hT.sub d hd))
        (hforeign k fun e => hik e.symm), ?_, ?_⟩
      · rw [← hT.outs, serialOuts_congr _ _ _ fun d hd => hoff d (hT.sub d hd)]
      · intro s hs
        rw [← hT.fin s hs]
        obtain ⟨d, hd, rfl⟩ := hs
        rw [hoff d hd]
  · intro s hs
    rw [hslots s (fun c hc => hs p (List.mem_of_getElem? hp) c hc)]
    exact hinv.unowned s hs
  · intro k hk
    replace hk : holder' = some k := hk
    show ∃ t snap, (σ.ts.set i t')[k]? = some t ∧ _
    by_cases hik : i = k
    · subst hik
      obtain ⟨snap, hsn⟩ := hhold hk
      exact ⟨t', snap, List.getElem?_set_self hilt, hsn⟩
    · obtain ⟨tk, snap, h1, h2⟩ := hinv.holderOK k (hnoTake k (fun e => hik e.symm) hk)
      exact ⟨tk, snap, by rw [List.getElem?_set_ne hik]; exact h1, h2⟩

omit [DecidableEq ν] in
theorem FileShape.add {f₀ g : File κ ν} {progs : List (List (Call κ ν))}
    (h : FileShape f₀ progs g) {p : List (Call κ ν)} (hp : p ∈ progs) {c : Call κ ν} (hcp : c ∈ p)
    (hcc : c.canCreate = true) (hl : lookup g c.slot = none) (v : ν) :
    FileShape f₀ progs (g ++ [(c.slot, v)]) := by
  obtain ⟨added, h1, h2, h3⟩ := h
  have hnot : c.slot ∉ g.map Prod.fst := (lookup_eq_none_iff _ _).mp hl
  rw [h1, List.mem_append, not_or] at hnot
  refine ⟨added ++ [c.slot], by rw [List.map_append, h1, List.append_assoc]; rfl, ?_, ?_⟩
  · rw [List.nodup_append]
    refine ⟨h2, List.pairwise_singleton _ _, ?_⟩
    intro a ha b hb e
    rw [List.mem_singleton.mp hb] at e
    exact hnot.2 (e ▸ ha)
  · intro s hs
    rcases List.mem_append.mp hs with hs | hs
    · exact h3 s hs
    · rw [List.mem_singleton.mp hs]
      exact ⟨hnot.1, p, hp, c, hcp, rfl, hcc⟩

omit [DecidableEq ν] in
theorem FileShape.setVal {f₀ g : File κ ν} {progs : List (List (Call κ ν))}
    (h : FileShape f₀ progs g) (s : κ) (v : ν) : FileShape f₀ progs (setVal g s v) := by
  unfold FileShape; rw [setVal_map_fst]; exact h

theorem step_invG {L : Locks} (hadd : L.add = true) (hupd : L.upd = true)
    (hread : L.read = true)
    {f₀ : File κ ν} {progs : List (List (Call κ ν))} {σ : AState κ ν} {g : File κ ν}
    (hdisj : Disj progs) (hinv : InvG f₀ progs σ g) (i : Nat) :
    ∃ g', InvG f₀ progs (step L σ i) g' := by
  unfold step gstep
  cases hti : σ.ts[i]? with
  | none => exact ⟨g, hinv⟩
  | some t =>
    obtain ⟨p, hp, hT⟩ := hinv.threads i t hti
    obtain ⟨todo, pc, outs⟩ := t
    cases todo with
    | nil => exact ⟨g, hinv⟩
    | cons c cs =>
      have hcp : c ∈ p := hT.sub c (List.mem_cons_self ..)
      have hpc := hT.pc
      -- an operation that takes the lock runs only while the lock is free, and then the real
      -- file is the logical one
      have free : ∀ {b}, b = true → ¬ blocked b σ = true → σ.holder = none ∧ σ.file = g := by
        intro b hb hnb
        subst hb
        have := holder_none_of_not_blocked hnb
        exact ⟨this, hinv.fileOK this⟩
      cases pc with
      | idle =>
        simp only [gstepT, absOps]
        by_cases hb : blocked L.read σ = true
        · rw [if_pos hb]; exact ⟨g, hinv⟩
        rw [if_neg hb]
        obtain ⟨hnone, rfl⟩ := free hread hb
        -- a READ leaves real file, logical file and lock as they are
        have same : ∀ t' cnt', ThreadInv f₀ σ.file σ.holder i t' p →
            InvG f₀ progs ⟨σ.file, σ.holder, σ.ts.set i t', cnt'⟩ σ.file := fun t' cnt' h =>
          hinv.frame hdisj hti hp (hslots := fun _ _ => rfl) (hforeign := fun _ _ h => ⟨rfl, h⟩)
            (hnoTake := fun _ _ h => h) (hown := h) (hshape := hinv.shape)
            (hhold := fun h => by rw [hnone] at h; cases h) (hfile := hinv.fileOK)
        refine ⟨σ.file, ?_⟩
        cases hr : lookup σ.file c.slot with
        | none =>
          by_cases hcc : c.canCreate = true
          · simp only [if_pos hcc]
            exact same _ _
              (hT.setPc .wantAdd (by unfold PCInv; exact ⟨c, cs, rfl, hr, hcc⟩))
          · simp only [if_neg hcc]
            exact same _ _
              (hT.finish rfl σ.holder (by simp only [writePhase, hr, if_neg hcc]))
        | some v0 =>
          by_cases hv : v0 = c.val
          · simp only [if_pos hv]
            exact same _ _
              (hT.finish rfl σ.holder (by simp only [writePhase, hr, if_pos hv]))
          · by_cases hcu : c.canUpdate = true
            · simp only [if_neg hv, if_pos hcu]
              exact same _ _
                (hT.setPc .wantUpd (by unfold PCInv; exact ⟨c, cs, v0, rfl, hr, hv, hcu⟩))
            · simp only [if_neg hv, if_neg hcu]
              exact same _ _
                (hT.finish rfl σ.holder (by simp only [writePhase, hr, if_neg hv, if_neg hcu]))
      | wantAdd =>
        obtain ⟨_, _, h, hl, hcc⟩ := hpc
        cases h
        simp only [gstepT, absOps]
        by_cases hb : blocked L.add σ = true
        · rw [if_pos hb]; exact ⟨g, hinv⟩
        rw [if_neg hb]
        obtain ⟨hnone, rfl⟩ := free hadd hb
        exact ⟨_, hinv.frame hdisj hti hp
          (hslots := fun s hs => lookup_append_other _ _ _ _ (hs c hcp))
          (hforeign := fun k _ hk => by rw [hnone] at hk; cases hk) (hnoTake := fun k _ hk => hk)
          (hown := hT.finish rfl σ.holder (by simp only [writePhase, hl, if_pos hcc]))
          (hshape := hinv.shape.add (List.mem_of_getElem? hp) hcp hcc hl _)
          (hhold := fun hh => by rw [hnone] at hh; cases hh) (hfile := fun _ => rfl)⟩
      | wantUpd =>
        simp only [gstepT, hupd, if_true]
        by_cases hb : blocked true σ = true
        · rw [if_pos hb]; exact ⟨g, hinv⟩
        rw [if_neg hb]
        obtain ⟨hnone, rfl⟩ := free rfl hb
        exact ⟨_, hinv.frame hdisj hti hp (file' := σ.file) (holder' := some i) (cnt' := σ.cnt)
          (hslots := fun _ _ => rfl) (hforeign := fun k _ hk => by rw [hnone] at hk; cases hk)
          (hnoTake := fun k hki hk => absurd (Option.some.inj hk).symm hki)
          (hown := hT.setPc (.inUpd σ.file) (by unfold PCInv; exact ⟨rfl, rfl, hpc⟩))
          (hshape := hinv.shape) (hhold := fun _ => ⟨σ.file, Or.inl rfl⟩) (hfile := nofun)⟩
      | inUpd snap =>
        obtain ⟨rfl, hh, rest⟩ := hpc
        exact ⟨snap, hinv.frame hdisj hti hp (file' := []) (holder' := σ.holder) (cnt' := σ.cnt)
          (hslots := fun _ _ => rfl) (hforeign := fun _ _ h => ⟨rfl, h⟩) (hnoTake := fun _ _ h => h)
          (hown := hT.setPc (.inWrite snap) (by unfold PCInv; exact ⟨rfl, hh, rest⟩))
          (hshape := hinv.shape) (hhold := fun _ => ⟨snap, Or.inr rfl⟩)
          (hfile := fun hk => by rw [hh] at hk; cases hk)⟩
      | inWrite snap =>
        obtain ⟨rfl, hh, _, _, v0, h, hl, hne, hcu⟩ := hpc
        cases h
        simp only [gstepT, hupd, if_true, absOps]
        exact ⟨_, hinv.frame hdisj hti hp
          (hslots := fun s hs => by rw [lookup_setVal, if_neg (hs c hcp)])
          (hforeign := fun k hki hk => by rw [hh] at hk; exact absurd (Option.some.inj hk).symm hki)
          (hnoTake := nofun)
          (hown := hT.finish rfl none (by simp only [writePhase, hl, if_neg hne, if_pos hcu]))
          (hshape := hinv.shape.setVal _ _) (hhold := nofun) (hfile := fun _ => rfl)⟩

theorem run_nil (L : Locks) (σ : AState κ ν) : run L σ [] = σ := rfl

theorem run_inv {L : Locks} (hadd : L.add = true) (hupd : L.upd = true)
    (hread : L.read = true)
    {f₀ : File κ ν} {progs : List (List (Call κ ν))} (hdisj : Disj progs) (σ : AState κ ν)
    (hinv : Inv f₀ progs σ) (sch : List Nat) : Inv f₀ progs (run L σ sch) := by
  induction sch generalizing σ with
  | nil => exact hinv
  | cons i sch ih =>
    obtain ⟨g, hg⟩ := hinv
    exact ih _ (step_invG hadd hupd hread hdisj hg i)

theorem init_inv (f₀ : File κ ν) (progs : List (List (Call κ ν))) :
    Inv f₀ progs (init f₀ progs) := by
  refine ⟨f₀, ?_, fun _ _ => rfl, ⟨[], (List.append_nil _).symm, List.nodup_nil, nofun⟩, nofun,
    fun _ => rfl⟩
  intro i t hi
  obtain ⟨p, hp, rfl⟩ := Option.map_eq_some_iff.mp ((List.getElem?_map ..).symm.trans hi)
  exact ⟨p, hp, fun _ h => h, trivial, rfl, fun _ _ => rfl⟩

theorem step_length (L : Locks) (σ : AState κ ν) (i : Nat) :
    (step L σ i).ts.length = σ.ts.length := gstep_length absOps L σ i

theorem step_cnt (L : Locks) {σ : AState κ ν} (h : CntInv σ) (i : Nat) : CntInv (step L σ i) :=
  gstep_cnt absOps L h i

theorem reachable_length (L : Locks) (f₀ : File κ ν) (progs : List (List (Call κ ν)))
    (sch : List Nat) : (run L (init f₀ progs) sch).ts.length = progs.length :=
  (grun_length absOps L _ sch).trans (List.length_map ..)

theorem reachable_inv {L : Locks} (hL : L.add = true ∧ L.upd = true ∧ L.read = true)
    (f₀ : File κ ν) {progs : List (List (Call κ ν))} (hdisj : Disj progs) (sch : List Nat) :
    Inv f₀ progs (run L (init f₀ progs) sch) :=
  run_inv hL.1 hL.2.1 hL.2.2 hdisj _ (init_inv f₀ progs) sch

theorem count_total (l : List Outcome) :
    l.count .passed + l.count .added + l.count .updated + l.count .failed = l.length := by
  induction l with
  | nil => rfl
  | cons o l ih =>
    have h1 : [o].count .passed + [o].count .added + [o].count .updated + [o].count .failed = 1 := by
      cases o <;> rfl
    have e : ∀ a, (o :: l).count a = [o].count a + l.count a := fun a =>
      List.count_append (l₁ := [o])
    rw [e, e, e, e, List.length_cons]
    omega

theorem Inv.outs_of_done {f₀ : File κ ν} {progs : List (List (Call κ ν))} {σ : AState κ ν}
    (hinv : Inv f₀ progs σ) {i : Nat} {t : ATState κ ν} (hti : σ.ts[i]? = some t)
    (hdone : t.todo = []) : ∃ p, progs[i]? = some p ∧ t.outs = serialOuts (lookup f₀) p := by
  obtain ⟨g, hinv⟩ := hinv
  obtain ⟨p, hp, hT⟩ := hinv.threads i t hti
  refine ⟨p, hp, ?_⟩
  have := hT.outs
  rw [hdone] at this
  simpa [serialOuts] using this

theorem Inv.all_outs {f₀ : File κ ν} {progs : List (List (Call κ ν))} {σ : AState κ ν}
    (hinv : Inv f₀ progs σ) (hlen : σ.ts.length = progs.length) (hdone : AllDone σ) :
    σ.ts.map (·.outs) = progs.map (serialOuts (lookup f₀)) := by
  apply List.ext_getElem?
  intro i
  simp only [List.getElem?_map]
  cases hti : σ.ts[i]? with
  | none =>
    have : progs[i]? = none := by
      rw [List.getElem?_eq_none_iff] at hti ⊢; omega
    simp [this]
  | some t =>
    obtain ⟨p, hp, ho⟩ := hinv.outs_of_done hti (hdone t (List.mem_of_getElem? hti))
    simp [hp, ho]

theorem Inv.holder_none {f₀ : File κ ν} {progs : List (List (Call κ ν))} {σ : AState κ ν}
    (hinv : Inv f₀ progs σ) (hdone : AllDone σ) : σ.holder = none := by
  obtain ⟨g, hinv⟩ := hinv
  cases hh : σ.holder with
  | none => rfl
  | some i =>
    obtain ⟨t, snap, hti, hpc⟩ := hinv.holderOK i hh
    obtain ⟨p, _, hT⟩ := hinv.threads i t hti
    have := hT.pc
    unfold PCInv at this
    have hnil := hdone t (List.mem_of_getElem? hti)
    rcases hpc with hpc | hpc <;>
    · rw [hpc] at this
      obtain ⟨_, _, c, cs, _, htodo, _⟩ := this
      rw [hnil] at htodo
      cases htodo

theorem Inv.finalOK {f₀ : File κ ν} {progs : List (List (Call κ ν))} {σ : AState κ ν}
    (hinv : Inv f₀ progs σ) (hlen : σ.ts.length = progs.length) (hdone : AllDone σ) :
    FinalOK f₀ progs σ.file := by
  have hnone := hinv.holder_none hdone
  obtain ⟨g, hinv⟩ := hinv
  rw [hinv.fileOK hnone]
  refine ⟨?_, hinv.unowned, hinv.shape, ?_⟩
  · intro i p s hp hs
    have hi : i < σ.ts.length := by
      rw [hlen]; exact (List.getElem?_eq_some_iff.mp hp).1
    have hti : σ.ts[i]? = some σ.ts[i] := List.getElem?_eq_getElem hi
    obtain ⟨p', hp', hT⟩ := hinv.threads i _ hti
    rw [hp] at hp'; cases hp'
    have := hT.fin s hs
    rw [hdone _ (List.mem_of_getElem? hti)] at this
    simpa [serialFinal] using this
  · intro hnd
    obtain ⟨added, h1, h2, h3⟩ := hinv.shape
    rw [h1, List.nodup_append]
    refine ⟨hnd, h2, ?_⟩
    intro a ha b hb e
    subst e
    exact (h3 a hb).1 ha

theorem sum_count_total (ls : List (List Outcome)) :
    (ls.map (fun l => l.count .passed)).sum + (ls.map (fun l => l.count .added)).sum +
      (ls.map (fun l => l.count .updated)).sum + (ls.map (fun l => l.count .failed)).sum =
    (ls.map List.length).sum := by
  simp only [← List.count_flatten, ← List.length_flatten]
  exact count_total _

theorem counters_of_inv {f₀ : File κ ν} {progs : List (List (Call κ ν))} {σ : AState κ ν}
    (hinv : Inv f₀ progs σ) (hcnt : CntInv σ) (hlen : σ.ts.length = progs.length)
    (hdone : AllDone σ) :
    (∀ o, σ.cnt.get o = ((progs.map (serialOuts (lookup f₀))).map (fun l => l.count o)).sum) ∧
    σ.cnt.total = (progs.map List.length).sum := by
  have h1 : ∀ o, σ.cnt.get o =
      ((progs.map (serialOuts (lookup f₀))).map (fun l => l.count o)).sum := by
    intro o
    rw [hcnt o, countOuts, ← hinv.all_outs hlen hdone, List.map_map]
    rfl
  refine ⟨h1, ?_⟩
  have htot := sum_count_total (progs.map (serialOuts (lookup f₀)))
  have hlen' : (progs.map (serialOuts (lookup f₀))).map List.length = progs.map List.length := by
    rw [List.map_map]
    exact List.map_congr_left fun p _ => serialOuts_length _ p
  rw [← h1, ← h1, ← h1, ← h1, hlen'] at htot
  exact htot

/-! ## Simulation between two representations of the file

`h : F → F'` maps one representation to another (entry list ↦ bytes, entry list ↦ abstract
file).  If it commutes with the four file operations on the files (`P`) and calls (`Q`) that can
occur, it commutes with every step of the protocol, whatever the lock discipline. -/

section Sim
variable {F F' : Type}

def PC.map (h : F → F') : PC F → PC F'
  | .idle => .idle
  | .wantAdd => .wantAdd
  | .wantUpd => .wantUpd
  | .inUpd snap => .inUpd (h snap)
  | .inWrite snap => .inWrite (h snap)

def TState.map (h : F → F') (t : TState F κ ν) : TState F' κ ν :=
  { todo := t.todo, pc := t.pc.map h, outs := t.outs }

def State.map (h : F → F') (σ : State F κ ν) : State F' κ ν :=
  { file := h σ.file, holder := σ.holder, ts := σ.ts.map (TState.map h), cnt := σ.cnt }

/-- `h` commutes with the file operations on files satisfying `P` and calls satisfying `Q`,
and the operations keep files inside `P` -/
structure Hom (ops : FileOps F κ ν) (ops' : FileOps F' κ ν) (h : F → F') (P : F → Prop)
    (Q : Call κ ν → Prop) : Prop where
  lookup : ∀ f c, P f → Q c → ops'.lookup (h f) c.slot = ops.lookup f c.slot
  add : ∀ f c, P f → Q c → ops'.add (h f) c.slot c.val = h (ops.add f c.slot c.val)
  set : ∀ f c, P f → Q c → ops'.set (h f) c.slot c.val = h (ops.set f c.slot c.val)
  empty : ops'.empty = h ops.empty
  pAdd : ∀ f c, P f → Q c → P (ops.add f c.slot c.val)
  pSet : ∀ f c, P f → Q c → P (ops.set f c.slot c.val)
  pEmpty : P ops.empty

/-- the file, every in-memory copy and every pending call are inside `P` / `Q` -/
def PState (P : F → Prop) (Q : Call κ ν → Prop) (σ : State F κ ν) : Prop :=
  P σ.file ∧ ∀ t ∈ σ.ts, (∀ c ∈ t.todo, Q c) ∧
    ∀ snap, (t.pc = .inUpd snap ∨ t.pc = .inWrite snap) → P snap

omit [DecidableEq κ] [DecidableEq ν] in
theorem blocked_map (h : F → F') (b : Bool) (σ : State F κ ν) :
    blocked b (σ.map h) = blocked b σ := rfl

omit [DecidableEq κ] [DecidableEq ν]

theorem PState.set {P : F → Prop} {Q : Call κ ν → Prop} {σ : State F κ ν} (hσ : PState P Q σ)
    {f' : F} {hd' : Option Nat} {i : Nat} {t' : TState F κ ν} {cnt' : Counters}
    (hf : P f') (hq : ∀ c ∈ t'.todo, Q c)
    (hs : ∀ snap, (t'.pc = .inUpd snap ∨ t'.pc = .inWrite snap) → P snap) :
    PState P Q ⟨f', hd', σ.ts.set i t', cnt'⟩ := by
  refine ⟨hf, ?_⟩
  intro t ht
  rcases List.mem_or_eq_of_mem_set ht with h | rfl
  · exact hσ.2 t h
  · exact ⟨hq, hs⟩

theorem State.map_ts_get (h : F → F') (σ : State F κ ν) (i : Nat) :
    (σ.map h).ts[i]? = (σ.ts[i]?).map (TState.map h) :=
  List.getElem?_map ..

/-- every state a step can reach has this shape (`PState.set` is its companion) -/
theorem State.map_set (h : F → F') (σ : State F κ ν) (f' : F) (hd : Option Nat) (i : Nat)
    (t' : TState F κ ν) (cnt' : Counters) :
    (⟨f', hd, σ.ts.set i t', cnt'⟩ : State F κ ν).map h =
      ⟨h f', hd, (σ.map h).ts.set i (t'.map h), cnt'⟩ := by
  simp only [State.map, List.map_set]

theorem init_map (h : F → F') (f₀ : F) (progs : List (List (Call κ ν))) :
    (init f₀ progs : State F κ ν).map h = init (h f₀) progs := by
  simp only [init, State.map, List.map_map]
  congr 1

theorem init_PState {P : F → Prop} {Q : Call κ ν → Prop} (f₀ : F)
    (progs : List (List (Call κ ν))) (hf : P f₀) (hq : ∀ p ∈ progs, ∀ c ∈ p, Q c) :
    PState P Q (init f₀ progs) := by
  refine ⟨hf, ?_⟩
  intro t ht
  simp only [init, List.mem_map] at ht
  obtain ⟨p, hp, rfl⟩ := ht
  exact ⟨hq p hp, by simp [initT]⟩

theorem AllDone_map (h : F → F') (σ : State F κ ν) : AllDone (σ.map h) ↔ AllDone σ := by
  simp only [AllDone, State.map, List.forall_mem_map]
  exact Iff.rfl

variable [DecidableEq ν]

theorem gstep_map {ops : FileOps F κ ν} {ops' : FileOps F' κ ν} {h : F → F'} {P : F → Prop}
    {Q : Call κ ν → Prop} (hom : Hom ops ops' h P Q) (L : Locks) {σ : State F κ ν}
    (hσ : PState P Q σ) (i : Nat) :
    (gstep ops L σ i).map h = gstep ops' L (σ.map h) i ∧ PState P Q (gstep ops L σ i) := by
  unfold gstep
  rw [State.map_ts_get]
  cases hti : σ.ts[i]? with
  | none => exact ⟨rfl, hσ⟩
  | some t =>
    obtain ⟨hQ, hS⟩ := hσ.2 t (List.mem_of_getElem? hti)
    obtain ⟨todo, pc, outs⟩ := t
    cases todo with
    | nil => exact ⟨rfl, hσ⟩
    | cons c cs =>
      have hQc : Q c := hQ c (List.mem_cons_self ..)
      have hQcs : ∀ d ∈ cs, Q d := fun d hd => hQ d (List.mem_cons_of_mem _ hd)
      cases pc <;> simp only [Option.map_some, gstepT, TState.map, PC.map, blocked_map]
      case idle =>
        by_cases hb : blocked L.read σ = true
        · simp only [hb, ↓reduceIte]; exact ⟨trivial, hσ⟩
        simp only [hb, Bool.false_eq_true, ↓reduceIte]
        rw [show (σ.map h).file = h σ.file from rfl, hom.lookup σ.file c hσ.1 hQc]
        cases ops.lookup σ.file c.slot with
        | none =>
          by_cases hcc : c.canCreate = true
          · simp only [hcc, ↓reduceIte]
            exact ⟨State.map_set .., hσ.set hσ.1 hQ nofun⟩
          · simp only [hcc, Bool.false_eq_true, ↓reduceIte]
            exact ⟨State.map_set .., hσ.set hσ.1 hQcs nofun⟩
        | some v0 =>
          by_cases hv : v0 = c.val
          · simp only [hv, ↓reduceIte]
            exact ⟨State.map_set .., hσ.set hσ.1 hQcs nofun⟩
          · by_cases hcu : c.canUpdate = true
            · simp only [hv, hcu, ↓reduceIte]
              exact ⟨State.map_set .., hσ.set hσ.1 hQ nofun⟩
            · simp only [hv, hcu, Bool.false_eq_true, ↓reduceIte]
              exact ⟨State.map_set .., hσ.set hσ.1 hQcs nofun⟩
      case wantAdd =>
        by_cases hb : blocked L.add σ = true
        · simp only [hb, ↓reduceIte]; exact ⟨trivial, hσ⟩
        simp only [hb, Bool.false_eq_true, ↓reduceIte]
        rw [show (σ.map h).file = h σ.file from rfl, hom.add σ.file c hσ.1 hQc]
        exact ⟨State.map_set .., hσ.set (hom.pAdd σ.file c hσ.1 hQc) hQcs nofun⟩
      case wantUpd =>
        by_cases hb : blocked L.upd σ = true
        · simp only [hb, ↓reduceIte]; exact ⟨trivial, hσ⟩
        simp only [hb, Bool.false_eq_true, ↓reduceIte]
        refine ⟨State.map_set .., hσ.set hσ.1 hQ ?_⟩
        rintro _ (⟨⟨⟩⟩ | ⟨⟨⟩⟩)
        exact hσ.1
      case inUpd snap =>
        rw [hom.empty]
        refine ⟨State.map_set .., hσ.set hom.pEmpty hQ ?_⟩
        rintro _ (⟨⟨⟩⟩ | ⟨⟨⟩⟩)
        exact hS snap (Or.inl rfl)
      case inWrite snap =>
        have hPs : P snap := hS snap (Or.inr rfl)
        rw [hom.set snap c hPs hQc]
        exact ⟨State.map_set .., hσ.set (hom.pSet snap c hPs hQc) hQcs nofun⟩

theorem grun_map {ops : FileOps F κ ν} {ops' : FileOps F' κ ν} {h : F → F'} {P : F → Prop}
    {Q : Call κ ν → Prop} (hom : Hom ops ops' h P Q) (L : Locks) (σ : State F κ ν)
    (hσ : PState P Q σ) (sch : List Nat) :
    (grun ops L σ sch).map h = grun ops' L (σ.map h) sch ∧ PState P Q (grun ops L σ sch) := by
  induction sch generalizing σ with
  | nil => exact ⟨rfl, hσ⟩
  | cons i sch ih =>
    obtain ⟨h1, h2⟩ := gstep_map hom L hσ i
    simp only [grun]
    rw [← h1]
    exact ih _ h2

end Sim

end GoSnaps.Conc
