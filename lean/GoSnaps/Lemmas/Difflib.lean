import GoSnaps.Difflib
import GoSnaps.DifflibSpec

/-! Lemmas about the hand port `GoSnaps/Difflib.lean` behind `Props/C13Difflib.lean`; the simulation of
the transliterated package in `Props/Tie/DifflibGen2.lean` uses the invariants of `findLongestMatch` and of the
matching blocks (`BestOK`, `MapOK`, `mbN`) and the equations of the loops as well. -/

namespace GoSnaps.Difflib

variable {α : Type} [DecidableEq α]

/-! ### findLongestMatch returns a real match inside the window -/

theorem mem_indicesFrom {x : α} {l : List α} {s j : Nat} :
    j ∈ indicesFrom x l s ↔ s ≤ j ∧ l[j - s]? = some x := by
  induction l generalizing s with
  | nil => simp [indicesFrom]
  | cons y ys ih =>
    have tail : j ∈ indicesFrom x ys (s + 1) ↔ s < j ∧ (y :: ys)[j - s]? = some x := by
      rw [ih]
      refine and_congr_right fun h => ?_
      rw [show j - s = (j - (s + 1)) + 1 by omega, List.getElem?_cons_succ]
    have head : s ≤ j ∧ (y :: ys)[j - s]? = some x ↔ (j = s ∧ y = x) ∨ (s < j ∧ (y :: ys)[j - s]? = some x) := by
      constructor
      · rintro ⟨h1, h2⟩
        rcases Nat.eq_or_lt_of_le h1 with rfl | h
        · rw [Nat.sub_self] at h2; exact Or.inl ⟨rfl, Option.some.inj h2⟩
        · exact Or.inr ⟨h, h2⟩
      · rintro (⟨rfl, rfl⟩ | ⟨h1, h2⟩)
        · exact ⟨Nat.le_refl _, by rw [Nat.sub_self]; rfl⟩
        · exact ⟨Nat.le_of_lt h1, h2⟩
    rw [indicesFrom, head, ← tail]
    by_cases hy : y = x
    · rw [if_pos hy, List.mem_cons]; simp [hy]
    · rw [if_neg hy]; simp [hy]

theorem b2j_mem {b : List α} {x : α} {j : Nat} (h : j ∈ b2j b x) : b[j]? = some x := by
  unfold b2j at h
  simp only at h
  split at h
  · simp at h
  · simpa using (mem_indicesFrom.mp h).2

/-- `a[i-k+1 .. i] = b[j-k+1 .. j]`, inside the window -/
def EndsAt (a b : List α) (alo blo bhi i j k : Nat) : Prop :=
  k ≤ i + 1 - alo ∧ alo ≤ i ∧ k ≤ j + 1 - blo ∧ blo ≤ j ∧ j < bhi ∧
  ∀ t, t < k → ∃ x, a[i - t]? = some x ∧ b[j - t]? = some x

/-- every entry `(j, k)` of a `j2len` map for row `i` is a run of length `k ≥ 1` ending at `(i, j)` -/
def MapOK (a b : List α) (alo blo bhi i : Nat) (m : List (Nat × Nat)) : Prop :=
  ∀ p ∈ m, 1 ≤ p.2 ∧ EndsAt a b alo blo bhi i p.1 p.2

/-- `best` is a real matching block inside the window -/
def BestOK (a b : List α) (alo ahi blo bhi : Nat) (best : Match) : Prop :=
  alo ≤ best.i ∧ best.i + best.k ≤ ahi ∧ blo ≤ best.j ∧ best.j + best.k ≤ bhi ∧
  ∀ t, t < best.k → ∃ x, a[best.i + t]? = some x ∧ b[best.j + t]? = some x

section
omit [DecidableEq α]

theorem look_ok {a b : List α} {alo blo bhi i : Nat} {m : List (Nat × Nat)}
    (h : MapOK a b alo blo bhi i m) (j : Nat) :
    look m j = 0 ∨ EndsAt a b alo blo bhi i j (look m j) := by
  induction m with
  | nil => simp [look]
  | cons p m ih =>
    obtain ⟨j', k⟩ := p
    simp only [look]
    split
    · rename_i e; subst e; right; exact (h (j', k) (by simp)).2
    · exact ih (fun q hq => h q (by simp [hq]))

end

theorem window_succ {lo i k : Nat} (h : k = 0 ∨ (1 ≤ i ∧ k ≤ i - 1 + 1 - lo ∧ lo ≤ i - 1)) (hlo : lo ≤ i) :
    k + 1 ≤ i + 1 - lo := by
  omega

section
omit [DecidableEq α]

theorem endsAt_succ {a b : List α} {alo blo bhi i j k : Nat} {x : α}
    (hi : alo ≤ i) (hj : blo ≤ j) (hjh : j < bhi)
    (hax : a[i]? = some x) (hbx : b[j]? = some x)
    (hprev : k = 0 ∨ (1 ≤ i ∧ 1 ≤ j ∧ EndsAt a b alo blo bhi (i - 1) (j - 1) k)) :
    EndsAt a b alo blo bhi i j (k + 1) := by
  refine ⟨window_succ (hprev.imp_right fun ⟨hi1, _, h1, h2, _⟩ => ⟨hi1, h1, h2⟩) hi, hi,
    window_succ (hprev.imp_right fun ⟨_, hj1, _, _, h3, h4, _⟩ => ⟨hj1, h3, h4⟩) hj, hj, hjh, fun t ht => ?_⟩
  cases t with
  | zero => exact ⟨x, hax, hbx⟩
  | succ t =>
    rw [Nat.add_comm t 1, Nat.sub_add_eq, Nat.sub_add_eq]
    rcases hprev with rfl | ⟨_, _, _, _, _, _, _, h6⟩
    · exact absurd (Nat.lt_of_succ_lt_succ ht) (Nat.not_lt_zero _)
    · exact h6 t (Nat.lt_of_succ_lt_succ ht)

end

theorem run_index {i k t : Nat} (hk : k ≤ i + 1) (ht : t < k) : i + 1 - k + t = i - (k - 1 - t) := by
  omega

theorem run_bounds {lo i k : Nat} (h : k ≤ i + 1 - lo) (hlo : lo ≤ i) :
    lo ≤ i + 1 - k ∧ i + 1 - k + k = i + 1 := by
  omega

section
omit [DecidableEq α]

theorem bestOK_of_endsAt {a b : List α} {alo ahi blo bhi i j k : Nat}
    (hi : i < ahi) (hk : 1 ≤ k) (h : EndsAt a b alo blo bhi i j k) :
    BestOK a b alo ahi blo bhi ⟨i + 1 - k, j + 1 - k, k⟩ := by
  obtain ⟨h1, h2, h3, h4, h5, h6⟩ := h
  obtain ⟨a1, a2⟩ := run_bounds h1 h2
  obtain ⟨b1, b2⟩ := run_bounds h3 h4
  refine ⟨a1, ?_, b1, ?_, fun t ht => ?_⟩
  · show i + 1 - k + k ≤ ahi
    rw [a2]; exact hi
  · show j + 1 - k + k ≤ bhi
    rw [b2]; exact h5
  · obtain ⟨x, hx1, hx2⟩ := h6 (k - 1 - t) (Nat.lt_of_le_of_lt (Nat.sub_le _ _) (Nat.sub_lt hk Nat.one_pos))
    exact ⟨x, run_index (a2 ▸ Nat.le_add_left _ _) ht ▸ hx1, run_index (b2 ▸ Nat.le_add_left _ _) ht ▸ hx2⟩

end

/-- `newj2len[j]` in the inner loop: one more than the length recorded for the diagonal predecessor -/
abbrev nextLen (j2len : List (Nat × Nat)) (j : Nat) : Nat := (if j = 0 then 0 else look j2len (j - 1)) + 1

theorem inner_cons (blo bhi i : Nat) (j2len : List (Nat × Nat)) (j : Nat) (js : List Nat)
    (nw : List (Nat × Nat)) (best : Match) :
    inner blo bhi i j2len (j :: js) nw best =
      if j < blo then inner blo bhi i j2len js nw best
      else if bhi ≤ j then (nw, best)
      else inner blo bhi i j2len js ((j, nextLen j2len j) :: nw)
        (if best.k < nextLen j2len j then ⟨i + 1 - nextLen j2len j, j + 1 - nextLen j2len j, nextLen j2len j⟩
         else best) := by
  rw [inner]

section
set_option linter.unusedSectionVars false

theorem inner_ok {a b : List α} {alo ahi blo bhi i : Nat} {x : α}
    (hi : alo ≤ i) (hih : i < ahi) (hax : a[i]? = some x)
    (j2len : List (Nat × Nat)) (hprev : i = alo → j2len = [])
    (hm : 1 ≤ i → MapOK a b alo blo bhi (i - 1) j2len)
    (js : List Nat) (hjs : ∀ j ∈ js, b[j]? = some x)
    (nw : List (Nat × Nat)) (hnw : MapOK a b alo blo bhi i nw)
    (best : Match) (hbest : BestOK a b alo ahi blo bhi best) :
    MapOK a b alo blo bhi i (inner blo bhi i j2len js nw best).1 ∧
    BestOK a b alo ahi blo bhi (inner blo bhi i j2len js nw best).2 := by
  induction js generalizing nw best with
  | nil => exact ⟨hnw, hbest⟩
  | cons j js ih =>
    have hjs' : ∀ j ∈ js, b[j]? = some x := fun q hq => hjs q (List.mem_cons_of_mem _ hq)
    by_cases hlo : j < blo
    · rw [inner_cons, if_pos hlo]; exact ih hjs' nw hnw best hbest
    by_cases hhi : bhi ≤ j
    · rw [inner_cons, if_neg hlo, if_pos hhi]; exact ⟨hnw, hbest⟩
    rw [inner_cons, if_neg hlo, if_neg hhi]
    have hends : EndsAt a b alo blo bhi i j (nextLen j2len j) := by
      apply endsAt_succ hi (Nat.le_of_not_lt hlo) (Nat.lt_of_not_le hhi) hax (hjs j List.mem_cons_self)
      by_cases hj0 : j = 0
      · exact Or.inl (if_pos hj0)
      · rw [if_neg hj0]
        by_cases hi0 : i = alo
        · rw [hprev hi0]; exact Or.inl rfl
        · have hi1 : 1 ≤ i := by omega
          exact (look_ok (hm hi1) (j - 1)).imp id fun h1 => ⟨hi1, Nat.pos_of_ne_zero hj0, h1⟩
    have hk1 : 1 ≤ nextLen j2len j := Nat.le_add_left 1 _
    generalize nextLen j2len j = k at hends hk1 ⊢
    apply ih hjs'
    · intro p hp
      rcases List.mem_cons.mp hp with rfl | hp
      · exact ⟨hk1, hends⟩
      · exact hnw p hp
    · by_cases hk : best.k < k
      · rw [if_pos hk]; exact bestOK_of_endsAt hih hk1 hends
      · rw [if_neg hk]; exact hbest

end

theorem outer_ok {a b : List α} {alo ahi blo bhi : Nat} (hahi : ahi ≤ a.length) :
    ∀ (n i : Nat) (j2len : List (Nat × Nat)) (best : Match),
      i + n = ahi → alo ≤ i → (i = alo → j2len = []) →
      (1 ≤ i → MapOK a b alo blo bhi (i - 1) j2len) →
      BestOK a b alo ahi blo bhi best →
      BestOK a b alo ahi blo bhi (outer a b blo bhi n i j2len best) := by
  intro n
  induction n with
  | zero => intro i j2len best _ _ _ _ hb; simpa [outer] using hb
  | succ n ih =>
    intro i j2len best hin hi hprev hm hb
    have hlt : i < a.length := by omega
    obtain ⟨x, hx⟩ : ∃ x, a[i]? = some x := ⟨a[i], by simp [hlt]⟩
    simp only [outer, hx]
    have h := inner_ok (ahi := ahi) hi (by omega) hx j2len hprev hm (b2j b x)
      (fun j hj => b2j_mem hj) [] (by intro p hp; simp at hp) best hb
    exact ih (i + 1) _ _ (by omega) (by omega) (by omega) (fun _ => by simpa using h.1) h.2

theorem eqAt_iff {a b : List α} {i j : Nat} :
    eqAt a b i j = true ↔ ∃ x, a[i]? = some x ∧ b[j]? = some x := by
  unfold eqAt
  split
  · rename_i x y hx hy
    simp [hx, hy, eq_comm]
  · rename_i hno
    simp only [Bool.false_eq_true, false_iff]
    rintro ⟨x, hx, hy⟩
    exact hno x x hx hy

/-- `a[m.i .. m.i+m.k) = b[m.j .. m.j+m.k)` (element-wise, all in range) -/
def ValidBlock (a b : List α) (m : Match) : Prop :=
  ∀ t, t < m.k → ∃ x, a[m.i + t]? = some x ∧ b[m.j + t]? = some x

section
omit [DecidableEq α]

theorem ValidBlock_cons {a b : List α} {i j k : Nat} {x : α} (hx : a[i]? = some x) (hy : b[j]? = some x)
    (h : ValidBlock a b ⟨i + 1, j + 1, k⟩) : ValidBlock a b ⟨i, j, k + 1⟩ := by
  intro t ht
  cases t with
  | zero => exact ⟨x, hx, hy⟩
  | succ t =>
    obtain ⟨y, h1, h2⟩ := h t (Nat.lt_of_succ_lt_succ ht)
    dsimp only at h1 h2
    rw [Nat.add_right_comm] at h1 h2
    exact ⟨y, h1, h2⟩

theorem ValidBlock_append {a b : List α} {i j k k' : Nat} (h1 : ValidBlock a b ⟨i, j, k⟩)
    (h2 : ValidBlock a b ⟨i + k, j + k, k'⟩) : ValidBlock a b ⟨i, j, k + k'⟩ := by
  intro t ht
  by_cases htk : t < k
  · exact h1 t htk
  · obtain ⟨d, rfl⟩ := Nat.exists_eq_add_of_le (Nat.le_of_not_lt htk)
    obtain ⟨x, hx1, hx2⟩ := h2 d (Nat.lt_of_add_lt_add_left ht)
    dsimp only at hx1 hx2 ⊢
    rw [Nat.add_assoc] at hx1 hx2
    exact ⟨x, hx1, hx2⟩

end

theorem extBack_ok {a b : List α} {alo ahi blo bhi : Nat} :
    ∀ (i j k : Nat), BestOK a b alo ahi blo bhi ⟨i, j, k⟩ →
      BestOK a b alo ahi blo bhi (extBack a b alo blo i j k) := by
  intro i
  induction i with
  | zero => intro j k h; exact h
  | succ i ih =>
    intro j k h
    rw [extBack]
    by_cases hc : alo < i + 1 ∧ blo < j ∧ eqAt a b i (j - 1) = true
    · rw [if_pos hc]
      obtain ⟨hc1, hc2, hc3⟩ := hc
      obtain ⟨x, hx1, hx2⟩ := eqAt_iff.mp hc3
      obtain ⟨h1, h2, h3, h4, h5⟩ := h
      dsimp only at h1 h2 h3 h4
      have hj : j - 1 + 1 = j := Nat.sub_add_cancel (Nat.lt_of_le_of_lt (Nat.zero_le _) hc2)
      refine ih _ _ ⟨Nat.le_of_lt_succ hc1, ?_, Nat.le_sub_one_of_lt hc2, ?_,
        ValidBlock_cons hx1 hx2 (hj.symm ▸ h5)⟩
      · show i + (k + 1) ≤ ahi
        rw [← Nat.add_assoc, Nat.add_right_comm]; exact h2
      · show j - 1 + (k + 1) ≤ bhi
        rw [← Nat.add_assoc, Nat.add_right_comm, hj]; exact h4
    · rw [if_neg hc]; exact h

theorem extFwd_ok {a b : List α} {alo ahi blo bhi : Nat} (i j k : Nat)
    (h : BestOK a b alo ahi blo bhi ⟨i, j, k⟩) :
    BestOK a b alo ahi blo bhi ⟨i, j, extFwd a b ahi bhi i j k⟩ := by
  fun_induction extFwd a b ahi bhi i j k with
  | case1 k hc ih =>
    obtain ⟨x, hx1, hx2⟩ := eqAt_iff.mp hc.2.2
    exact ih ⟨h.1, hc.1, h.2.2.1, hc.2.1, ValidBlock_append h.2.2.2.2 fun t ht => by
      obtain rfl := Nat.lt_one_iff.mp ht; exact ⟨x, hx1, hx2⟩⟩
  | case2 k hc => exact h

theorem outer_bestOK {a b : List α} {alo ahi blo bhi : Nat}
    (h1 : alo ≤ ahi) (h2 : ahi ≤ a.length) (h3 : blo ≤ bhi) :
    BestOK a b alo ahi blo bhi (outer a b blo bhi (ahi - alo) alo [] ⟨alo, blo, 0⟩) :=
  outer_ok h2 (ahi - alo) alo [] ⟨alo, blo, 0⟩ (Nat.add_sub_cancel' h1) (Nat.le_refl _) (fun _ => rfl)
    (fun _ _ hp => absurd hp List.not_mem_nil)
    ⟨Nat.le_refl _, h1, Nat.le_refl _, h3, fun _ ht => absurd ht (Nat.not_lt_zero _)⟩

theorem flm_bestOK {a b : List α} {alo ahi blo bhi : Nat}
    (h1 : alo ≤ ahi) (h2 : ahi ≤ a.length) (h3 : blo ≤ bhi) :
    BestOK a b alo ahi blo bhi (findLongestMatch a b alo ahi blo bhi) :=
  extFwd_ok _ _ _ (extBack_ok _ _ _ (outer_bestOK h1 h2 h3))

/-! ### matching blocks: non-accumulating forms, window invariant, fuel -/

/-- The blocks are non-empty real matches, pairwise ordered, all inside the window
`[li,hi) × [lj,hj)`. -/
def InWin (a b : List α) : Nat → Nat → Nat → Nat → List Match → Prop
  | li, lj, hi, hj, [] => li ≤ hi ∧ lj ≤ hj
  | li, lj, hi, hj, m :: ms =>
    li ≤ m.i ∧ lj ≤ m.j ∧ 0 < m.k ∧ ValidBlock a b m ∧
      InWin a b (m.i + m.k) (m.j + m.k) hi hj ms

section
omit [DecidableEq α]

theorem InWin_le {a b : List α} {L : List Match} : ∀ {li lj hi hj : Nat},
    InWin a b li lj hi hj L → li ≤ hi ∧ lj ≤ hj := by
  induction L with
  | nil => intro li lj hi hj h; exact h
  | cons m ms ih =>
    intro li lj hi hj h
    obtain ⟨h1, h2, h3, h4, h5⟩ := h
    have := ih h5
    omega

theorem InWin_lower {a b : List α} {L : List Match} {li lj li' lj' hi hj : Nat}
    (h1 : li' ≤ li) (h2 : lj' ≤ lj) (h : InWin a b li lj hi hj L) :
    InWin a b li' lj' hi hj L := by
  cases L with
  | nil => obtain ⟨h3, h4⟩ := h; exact ⟨by omega, by omega⟩
  | cons m ms =>
    obtain ⟨h3, h4, h5⟩ := h
    exact ⟨by omega, by omega, h5⟩

end

section
set_option linter.unusedSectionVars false

theorem InWin_upper {a b : List α} {L : List Match} : ∀ {li lj hi hj hi' hj' : Nat},
    hi ≤ hi' → hj ≤ hj' → InWin a b li lj hi hj L → InWin a b li lj hi' hj' L := by
  induction L with
  | nil => intro li lj hi hj hi' hj' h1 h2 h; obtain ⟨h3, h4⟩ := h; exact ⟨by omega, by omega⟩
  | cons m ms ih =>
    intro li lj hi hj hi' hj' h1 h2 h
    obtain ⟨h3, h4, h5, h6, h7⟩ := h
    exact ⟨h3, h4, h5, h6, ih h1 h2 h7⟩

end

section
omit [DecidableEq α]

theorem InWin_append {a b : List α} {L1 L2 : List Match} : ∀ {li lj mi mj hi hj : Nat},
    InWin a b li lj mi mj L1 → InWin a b mi mj hi hj L2 →
    InWin a b li lj hi hj (L1 ++ L2) := by
  induction L1 with
  | nil =>
    intro li lj mi mj hi hj h1 h2
    obtain ⟨h3, h4⟩ := h1
    exact InWin_lower h3 h4 h2
  | cons m ms ih =>
    intro li lj mi mj hi hj h1 h2
    obtain ⟨h3, h4, h5, h6, h7⟩ := h1
    exact ⟨h3, h4, h5, h6, ih h7 h2⟩

theorem InWin_mem {a b : List α} {L : List Match} : ∀ {li lj hi hj : Nat},
    InWin a b li lj hi hj L → ∀ m ∈ L,
      li ≤ m.i ∧ lj ≤ m.j ∧ m.i + m.k ≤ hi ∧ m.j + m.k ≤ hj ∧ 0 < m.k ∧ ValidBlock a b m := by
  induction L with
  | nil => intro li lj hi hj _ m hm; simp at hm
  | cons m0 ms ih =>
    intro li lj hi hj h m hm
    obtain ⟨h3, h4, h5, h6, h7⟩ := h
    have hle := InWin_le h7
    simp only [List.mem_cons] at hm
    rcases hm with rfl | hm
    · exact ⟨h3, h4, hle.1, hle.2, h5, h6⟩
    · obtain ⟨g1, g2, g3⟩ := ih h7 m hm
      exact ⟨by omega, by omega, g3⟩

theorem InWin_pairwise {a b : List α} {L : List Match} : ∀ {li lj hi hj : Nat},
    InWin a b li lj hi hj L →
    L.Pairwise (fun m1 m2 =>
      m1.i < m2.i ∧ m1.j < m2.j ∧ m1.i + m1.k ≤ m2.i ∧ m1.j + m1.k ≤ m2.j) := by
  induction L with
  | nil => intro li lj hi hj _; exact List.Pairwise.nil
  | cons m0 ms ih =>
    intro li lj hi hj h
    obtain ⟨h3, h4, h5, h6, h7⟩ := h
    refine List.Pairwise.cons ?_ (ih h7)
    intro m hm
    obtain ⟨g1, g2, _⟩ := InWin_mem h7 m hm
    exact ⟨by omega, by omega, g1, g2⟩

end

/-- non-accumulating version of `matchBlocksF` -/
def mbN (a b : List α) : Nat → Nat → Nat → Nat → Nat → List Match
  | 0, _, _, _, _ => []
  | f + 1, alo, ahi, blo, bhi =>
    let m := findLongestMatch a b alo ahi blo bhi
    if 0 < m.k then
      (if alo < m.i ∧ blo < m.j then mbN a b f alo m.i blo m.j else []) ++
        m :: (if m.i + m.k < ahi ∧ m.j + m.k < bhi then
                mbN a b f (m.i + m.k) ahi (m.j + m.k) bhi else [])
    else []

theorem matchBlocksF_eq (a b : List α) : ∀ (f alo ahi blo bhi : Nat) (acc : List Match),
    matchBlocksF a b f alo ahi blo bhi acc = acc ++ mbN a b f alo ahi blo bhi := by
  intro f
  induction f with
  | zero => intro alo ahi blo bhi acc; simp [matchBlocksF, mbN]
  | succ f ih =>
    intro alo ahi blo bhi acc
    simp only [matchBlocksF, mbN]
    generalize findLongestMatch a b alo ahi blo bhi = m
    by_cases hk : 0 < m.k
    · simp only [hk, ↓reduceIte]
      by_cases c1 : alo < m.i ∧ blo < m.j <;> by_cases c2 : m.i + m.k < ahi ∧ m.j + m.k < bhi <;>
        simp [c1, c2, ih]
    · simp [hk]

theorem mbN_inWin {a b : List α} : ∀ (f alo ahi blo bhi : Nat),
    alo ≤ ahi → ahi ≤ a.length → blo ≤ bhi →
    InWin a b alo blo ahi bhi (mbN a b f alo ahi blo bhi) := by
  intro f
  induction f with
  | zero => intro alo ahi blo bhi h1 _ h3; exact ⟨h1, h3⟩
  | succ f ih =>
    intro alo ahi blo bhi h1 h2 h3
    have hv := flm_bestOK (b := b) h1 h2 h3
    simp only [mbN]
    generalize findLongestMatch a b alo ahi blo bhi = m at hv
    obtain ⟨v1, v2, v3, v4, v5⟩ := hv
    by_cases hk : 0 < m.k
    · rw [if_pos hk]
      refine InWin_append (mi := m.i) (mj := m.j) ?_ ⟨Nat.le_refl _, Nat.le_refl _, hk, v5, ?_⟩
      · split
        · exact ih _ _ _ _ v1 (Nat.le_trans (Nat.le_of_add_right_le v2) h2) v3
        · exact ⟨v1, v3⟩
      · split
        · exact ih _ _ _ _ v2 h2 v4
        · exact ⟨v2, v4⟩
    · rw [if_neg hk]; exact ⟨h1, h3⟩

theorem fuel_split {alo ahi mi mk f : Nat} (v1 : alo ≤ mi) (v2 : mi + mk ≤ ahi) (hk : 0 < mk)
    (hf : ahi - alo ≤ f + 1) : mi - alo ≤ f ∧ ahi - (mi + mk) ≤ f := by
  omega

theorem mbN_of_le {a b : List α} {alo ahi blo bhi : Nat}
    (h1 : alo ≤ ahi) (h2 : ahi ≤ a.length) (h3 : blo ≤ bhi) (h : ahi - alo ≤ 0) :
    ∀ f, mbN a b f alo ahi blo bhi = []
  | 0 => rfl
  | f + 1 => by
    have hv := flm_bestOK (b := b) h1 h2 h3
    simp only [mbN]
    generalize findLongestMatch a b alo ahi blo bhi = m at hv
    have v1 := hv.1
    have v2 := hv.2.1
    rw [if_neg (by omega)]

theorem mbN_fuel {a b : List α} : ∀ (f g alo ahi blo bhi : Nat),
    alo ≤ ahi → ahi ≤ a.length → blo ≤ bhi →
    ahi - alo ≤ f → ahi - alo ≤ g →
    mbN a b f alo ahi blo bhi = mbN a b g alo ahi blo bhi := by
  intro f
  induction f with
  | zero =>
    intro g alo ahi blo bhi h1 h2 h3 hf _
    rw [mbN_of_le h1 h2 h3 hf 0, mbN_of_le h1 h2 h3 hf g]
  | succ f ih =>
    intro g alo ahi blo bhi h1 h2 h3 hf hg
    cases g with
    | zero => rw [mbN_of_le h1 h2 h3 hg (f + 1), mbN_of_le h1 h2 h3 hg 0]
    | succ g =>
      have hv := flm_bestOK (b := b) h1 h2 h3
      simp only [mbN]
      generalize findLongestMatch a b alo ahi blo bhi = m at hv
      obtain ⟨v1, v2, v3, v4, _⟩ := hv
      by_cases hk : 0 < m.k
      · obtain ⟨f1, f2⟩ := fuel_split v1 v2 hk hf
        obtain ⟨g1, g2⟩ := fuel_split v1 v2 hk hg
        rw [if_pos hk, if_pos hk,
          ih g _ _ _ _ v1 (Nat.le_trans (Nat.le_of_add_right_le v2) h2) v3 f1 g1,
          ih g _ _ _ _ v2 h2 v4 f2 g2]
      · rw [if_neg hk, if_neg hk]

/-- non-accumulating version of `collapse` -/
def collapseN : List Match → Nat → Nat → Nat → List Match
  | [], i1, j1, k1 => if 0 < k1 then [⟨i1, j1, k1⟩] else []
  | m :: ms, i1, j1, k1 =>
    if i1 + k1 = m.i ∧ j1 + k1 = m.j then collapseN ms i1 j1 (k1 + m.k)
    else (if 0 < k1 then [⟨i1, j1, k1⟩] else []) ++ collapseN ms m.i m.j m.k

theorem collapse_eq : ∀ (ms : List Match) (i1 j1 k1 : Nat) (out : List Match),
    collapse ms i1 j1 k1 out = out ++ collapseN ms i1 j1 k1 := by
  intro ms
  induction ms with
  | nil => intro i1 j1 k1 out; simp only [collapse, collapseN]; split <;> simp
  | cons m ms ih =>
    intro i1 j1 k1 out
    simp only [collapse, collapseN]
    split
    · exact ih _ _ _ _
    · rw [ih]; split <;> simp

section
omit [DecidableEq α]

theorem collapseN_inWin {a b : List α} : ∀ (ms : List Match) (i1 j1 k1 hi hj : Nat),
    ValidBlock a b ⟨i1, j1, k1⟩ → InWin a b (i1 + k1) (j1 + k1) hi hj ms →
    InWin a b i1 j1 hi hj (collapseN ms i1 j1 k1) := by
  intro ms
  induction ms with
  | nil =>
    intro i1 j1 k1 hi hj hv h
    simp only [collapseN]
    split
    · rename_i hk
      exact ⟨Nat.le_refl _, Nat.le_refl _, hk, hv, h⟩
    · exact ⟨Nat.le_trans (Nat.le_add_right _ _) h.1, Nat.le_trans (Nat.le_add_right _ _) h.2⟩
  | cons m ms ih =>
    intro i1 j1 k1 hi hj hv h
    obtain ⟨mi, mj, mk⟩ := m
    obtain ⟨h1, h2, h3, h4, h5⟩ := h
    simp only [collapseN]
    split
    · rename_i hadj
      obtain ⟨rfl, rfl⟩ := hadj
      refine ih _ _ _ _ _ (ValidBlock_append hv h4) ?_
      rw [← Nat.add_assoc, ← Nat.add_assoc]; exact h5
    · have hrec := ih mi mj mk hi hj h4 h5
      split
      · rename_i hk
        exact ⟨Nat.le_refl _, Nat.le_refl _, hk, hv, InWin_lower h1 h2 hrec⟩
      · exact InWin_lower (Nat.le_trans (Nat.le_add_right _ _) h1)
          (Nat.le_trans (Nat.le_add_right _ _) h2) hrec

end

theorem getMatchingBlocks_eq (a b : List α) :
    getMatchingBlocks a b =
      collapseN (mbN a b a.length 0 a.length 0 b.length) 0 0 0 ++ [⟨a.length, b.length, 0⟩] := by
  simp [getMatchingBlocks, matchBlocks, matchBlocksF_eq, collapse_eq]

theorem matched_inWin (a b : List α) :
    InWin a b 0 0 a.length b.length (mbN a b a.length 0 a.length 0 b.length) :=
  mbN_inWin _ _ _ _ _ (Nat.zero_le _) (Nat.le_refl _) (Nat.zero_le _)

theorem collapsed_inWin (a b : List α) :
    InWin a b 0 0 a.length b.length
      (collapseN (mbN a b a.length 0 a.length 0 b.length) 0 0 0) :=
  collapseN_inWin _ 0 0 0 _ _ (fun _ ht => absurd ht (Nat.not_lt_zero _)) (matched_inWin a b)

/-! ### opcodes tile both texts -/

/-- the opcode `opLoop` emits for the gap between `(i, j)` and the block `m` (none if there is no gap) -/
def gapOps (i j : Nat) (m : Match) : List OpCode :=
  let tag : Nat :=
    if i < m.i ∧ j < m.j then opReplace
    else if i < m.i then opDelete
    else if j < m.j then opInsert
    else 0
  if 0 < tag then [⟨tag, i, m.i, j, m.j⟩] else []

/-- the Equal opcode `opLoop` emits for the block `m` (none for the empty sentinel) -/
def eqOps (m : Match) : List OpCode :=
  if 0 < m.k then [⟨opEqual, m.i, m.i + m.k, m.j, m.j + m.k⟩] else []

/-- non-accumulating version of `opLoop` -/
def opN : List Match → Nat → Nat → List OpCode
  | [], _, _ => []
  | m :: ms, i, j => gapOps i j m ++ (eqOps m ++ opN ms (m.i + m.k) (m.j + m.k))

theorem opLoop_eq : ∀ (ms : List Match) (i j : Nat) (out : List OpCode),
    opLoop ms i j out = out ++ opN ms i j := by
  intro ms
  induction ms with
  | nil => intro i j out; simp [opLoop, opN]
  | cons m ms ih =>
    intro i j out
    simp only [opLoop, opN, gapOps, eqOps]
    rw [ih]
    generalize (if i < m.i ∧ j < m.j then opReplace
      else if i < m.i then opDelete else if j < m.j then opInsert else 0) = tag
    by_cases h1 : 0 < tag <;> by_cases h2 : 0 < m.k <;> simp [h1, h2]

/-- ranges in order and inside the texts; Equal relates identical non-empty ranges of equal length, the other
    tags have the empty sides their meaning requires -/
def OpOK (a b : List α) (c : OpCode) : Prop :=
  c.i1 ≤ c.i2 ∧ c.j1 ≤ c.j2 ∧ c.i2 ≤ a.length ∧ c.j2 ≤ b.length ∧
  ((c.tag = opEqual ∧ c.i1 < c.i2 ∧ c.i2 - c.i1 = c.j2 - c.j1 ∧
      ValidBlock a b ⟨c.i1, c.j1, c.i2 - c.i1⟩) ∨
   (c.tag = opInsert ∧ c.i1 = c.i2 ∧ c.j1 < c.j2) ∨
   (c.tag = opDelete ∧ c.i1 < c.i2 ∧ c.j1 = c.j2) ∨
   (c.tag = opReplace ∧ c.i1 < c.i2 ∧ c.j1 < c.j2))

/-- the opcodes tile `[i, len a) × [j, len b)` consecutively -/
def Tile (a b : List α) : Nat → Nat → List OpCode → Prop
  | i, j, [] => i = a.length ∧ j = b.length
  | i, j, c :: cs => c.i1 = i ∧ c.j1 = j ∧ OpOK a b c ∧ Tile a b c.i2 c.j2 cs

/-- what `gapOps` returns: nothing where the block starts at `(i, j)`, else the one opcode for the gap -/
theorem gapOps_spec (i j : Nat) (m : Match) :
    (gapOps i j m = [] ∧ ¬ i < m.i ∧ ¬ j < m.j) ∨
    ∃ t, t ≠ opEqual ∧ gapOps i j m = [⟨t, i, m.i, j, m.j⟩] ∧
      ((t = opInsert ∧ ¬ i < m.i ∧ j < m.j) ∨ (t = opDelete ∧ i < m.i ∧ ¬ j < m.j) ∨
        (t = opReplace ∧ i < m.i ∧ j < m.j)) := by
  unfold gapOps
  by_cases c1 : i < m.i <;> by_cases c2 : j < m.j <;> simp [c1, c2, opReplace, opDelete, opInsert, opEqual]

section
omit [DecidableEq α]

theorem Tile_gap {a b : List α} {i j mi mj k : Nat} {rest : List OpCode}
    (h1 : i ≤ mi) (h2 : j ≤ mj) (h3 : mi ≤ a.length) (h4 : mj ≤ b.length)
    (h : Tile a b mi mj rest) : Tile a b i j (gapOps i j ⟨mi, mj, k⟩ ++ rest) := by
  rcases gapOps_spec i j ⟨mi, mj, k⟩ with ⟨e, n1, n2⟩ | ⟨t, _, e, ht⟩
  · rw [e, Nat.le_antisymm h1 (Nat.le_of_not_lt n1), Nat.le_antisymm h2 (Nat.le_of_not_lt n2)]
    exact h
  · rw [e]
    refine ⟨rfl, rfl, ⟨h1, h2, h3, h4, Or.inr ?_⟩, h⟩
    rcases ht with ⟨rfl, n1, c2⟩ | ⟨rfl, c1, n2⟩ | ⟨rfl, c1, c2⟩
    · exact Or.inl ⟨rfl, Nat.le_antisymm h1 (Nat.le_of_not_lt n1), c2⟩
    · exact Or.inr (Or.inl ⟨rfl, c1, Nat.le_antisymm h2 (Nat.le_of_not_lt n2)⟩)
    · exact Or.inr (Or.inr ⟨rfl, c1, c2⟩)

theorem opN_tile {a b : List α} : ∀ (L : List Match) (i j : Nat),
    InWin a b i j a.length b.length L →
    Tile a b i j (opN (L ++ [⟨a.length, b.length, 0⟩]) i j) := by
  intro L
  induction L with
  | nil => intro i j h; exact Tile_gap h.1 h.2 (Nat.le_refl _) (Nat.le_refl _) ⟨rfl, rfl⟩
  | cons m ms ih =>
    intro i j h
    obtain ⟨h1, h2, h3, h4, h5⟩ := h
    have hle := InWin_le h5
    rw [List.cons_append, opN, eqOps, if_pos h3]
    refine Tile_gap h1 h2 (Nat.le_trans (Nat.le_add_right _ _) hle.1) (Nat.le_trans (Nat.le_add_right _ _) hle.2)
      ⟨rfl, rfl, ⟨Nat.le_add_right _ _, Nat.le_add_right _ _, hle.1, hle.2,
        Or.inl ⟨rfl, Nat.lt_add_of_pos_right h3, ?_, ?_⟩⟩, ih _ _ h5⟩
    · show m.i + m.k - m.i = m.j + m.k - m.j
      rw [Nat.add_sub_cancel_left, Nat.add_sub_cancel_left]
    · show ValidBlock a b ⟨m.i, m.j, m.i + m.k - m.i⟩
      rw [Nat.add_sub_cancel_left]; exact h4

end

theorem getOpCodes_eq (a b : List α) :
    getOpCodes a b =
      opN (collapseN (mbN a b a.length 0 a.length 0 b.length) 0 0 0 ++
        [⟨a.length, b.length, 0⟩]) 0 0 := by
  simp [getOpCodes, opLoop_eq, getMatchingBlocks_eq]

theorem getOpCodes_tile (a b : List α) : Tile a b 0 0 (getOpCodes a b) := by
  rw [getOpCodes_eq]
  exact opN_tile _ _ _ (collapsed_inWin a b)

section
omit [DecidableEq α]

theorem Tile_mem {a b : List α} : ∀ (ops : List OpCode) (i j : Nat),
    Tile a b i j ops → ∀ c ∈ ops, OpOK a b c := by
  intro ops
  induction ops with
  | nil => intro i j _ c hc; simp at hc
  | cons c0 cs ih =>
    intro i j h c hc
    obtain ⟨_, _, h3, h4⟩ := h
    simp only [List.mem_cons] at hc
    rcases hc with rfl | hc
    · exact h3
    · exact ih _ _ h4 c hc

theorem Tile_head {a b : List α} {ops : List OpCode} {i j : Nat} {c : OpCode}
    (h : Tile a b i j ops) (hc : ops.head? = some c) : c.i1 = i ∧ c.j1 = j := by
  cases ops with
  | nil => simp at hc
  | cons c0 cs =>
    simp only [List.head?_cons, Option.some.injEq] at hc
    subst hc
    exact ⟨h.1, h.2.1⟩

theorem Tile_last {a b : List α} : ∀ (ops : List OpCode) (i j : Nat) (c : OpCode),
    Tile a b i j ops → ops.getLast? = some c → c.i2 = a.length ∧ c.j2 = b.length := by
  intro ops
  induction ops with
  | nil => intro i j c _ hc; simp at hc
  | cons c0 cs ih =>
    intro i j c h hc
    obtain ⟨_, _, _, h4⟩ := h
    cases cs with
    | nil =>
      simp only [List.getLast?_singleton, Option.some.injEq] at hc
      subst hc
      exact ⟨h4.1, h4.2⟩
    | cons c1 cs' =>
      rw [List.getLast?_cons_cons] at hc
      exact ih _ _ c h4 hc

end

/-- `R` between every two neighbours -/
def Adj {β : Type} (R : β → β → Prop) : List β → Prop
  | [] => True
  | [_] => True
  | x :: y :: l => R x y ∧ Adj R (y :: l)

theorem Adj_tail {β : Type} {R : β → β → Prop} {x : β} : ∀ {l : List β}, Adj R (x :: l) → Adj R l
  | [], _ => trivial
  | _ :: _, h => h.2

theorem Adj_index {β : Type} {R : β → β → Prop} : ∀ (L : List β), Adj R L → ∀ n (h : n + 1 < L.length),
    R (L[n]'(Nat.lt_of_succ_lt h)) (L[n + 1]'h)
  | [], _, _, h => absurd h (Nat.not_lt_zero _)
  | [_], _, _, h => absurd (Nat.lt_of_succ_lt_succ h) (Nat.not_lt_zero _)
  | _ :: _ :: _, hL, 0, _ => hL.1
  | _ :: y :: l, hL, n + 1, h => Adj_index (y :: l) hL.2 n (Nat.lt_of_succ_lt_succ h)

section
omit [DecidableEq α]

theorem Tile_adj {a b : List α} : ∀ (ops : List OpCode) (i j : Nat), Tile a b i j ops →
    Adj (fun c c' : OpCode => c'.i1 = c.i2 ∧ c'.j1 = c.j2) ops
  | [], _, _, _ => trivial
  | [_], _, _, _ => trivial
  | _ :: c' :: cs, _, _, ⟨_, _, _, h⟩ => ⟨⟨h.1, h.2.1⟩, Tile_adj (c' :: cs) _ _ h⟩

theorem Tile_nil_iff {a b : List α} {ops : List OpCode} (h : Tile a b 0 0 ops) :
    ops = [] ↔ a = [] ∧ b = [] := by
  constructor
  · intro e
    subst e
    obtain ⟨h1, h2⟩ := h
    exact ⟨List.eq_nil_of_length_eq_zero h1.symm, List.eq_nil_of_length_eq_zero h2.symm⟩
  · rintro ⟨rfl, rfl⟩
    cases ops with
    | nil => rfl
    | cons c cs =>
      obtain ⟨_, _, ⟨h1, h2, h3, h4, h5⟩, _⟩ := h
      simp only [List.length_nil, Nat.le_zero_eq] at h3 h4
      rcases h5 with ⟨_, h, _⟩ | ⟨_, _, h⟩ | ⟨_, h, _⟩ | ⟨_, h, _⟩ <;> omega

end

/-! ### slices and replay -/

section
omit [DecidableEq α]

theorem slice_eq_of_valid {a b : List α} {i j k : Nat} (hv : ValidBlock a b ⟨i, j, k⟩) :
    (a.drop i).take k = (b.drop j).take k := by
  apply List.ext_getElem?
  intro n
  simp only [List.getElem?_take, List.getElem?_drop]
  split
  · rename_i hn
    obtain ⟨x, hx1, hx2⟩ := hv n hn
    simp only at hx1 hx2
    rw [hx1, hx2]
  · rfl

theorem slice_append_drop (l : List α) {j1 j2 : Nat} (h : j1 ≤ j2) :
    slice l j1 j2 ++ l.drop j2 = l.drop j1 := by
  unfold slice
  have : l.drop j2 = (l.drop j1).drop (j2 - j1) := by
    rw [List.drop_drop]; congr 1; omega
  rw [this, List.take_append_drop]

end

section
set_option linter.unusedSectionVars false

theorem slice_self (l : List α) (i : Nat) : slice l i i = [] := by
  simp [slice]

end

section
omit [DecidableEq α]

theorem OpOK_equal_slice {a b : List α} {c : OpCode} (h : OpOK a b c) (ht : c.tag = opEqual) :
    slice a c.i1 c.i2 = slice b c.j1 c.j2 := by
  obtain ⟨_, _, _, _, h5⟩ := h
  rcases h5 with ⟨_, _, he, hv⟩ | ⟨h, _⟩ | ⟨h, _⟩ | ⟨h, _⟩
  · unfold slice
    rw [← he]
    exact slice_eq_of_valid hv
  all_goals (rw [ht] at h; simp [opEqual, opInsert, opDelete, opReplace] at h)

end

/-- on a well-formed opcode replaying yields its `b`-side (for Equal the two sides agree, for Delete it is empty) -/
theorem replayPiece_of_ok {a b : List α} {c : OpCode} (h : OpOK a b c) :
    replayPiece a b c = slice b c.j1 c.j2 := by
  unfold replayPiece
  rcases h.2.2.2.2 with ⟨ht, _⟩ | ⟨ht, _⟩ | ⟨ht, _, hj⟩ | ⟨ht, _⟩
  · rw [if_pos ht]; exact OpOK_equal_slice h ht
  · rw [ht]; rfl
  · rw [ht, hj, slice_self]; rfl
  · rw [ht]; rfl

theorem replay_tile {a b : List α} : ∀ (ops : List OpCode) (i j : Nat),
    Tile a b i j ops → replay a b ops = b.drop j := by
  intro ops
  induction ops with
  | nil => intro i j h; obtain ⟨_, h2⟩ := h; subst h2; simp [replay]
  | cons c cs ih =>
    intro i j h
    rw [replay, replayPiece_of_ok h.2.2.1, ih _ _ h.2.2.2, ← h.2.1]
    exact slice_append_drop b h.2.2.1.2.1

section
omit [DecidableEq α]

theorem aParts_tile {a b : List α} : ∀ (ops : List OpCode) (i j : Nat),
    Tile a b i j ops → aParts a ops = a.drop i := by
  intro ops
  induction ops with
  | nil => intro i j h; obtain ⟨h1, _⟩ := h; subst h1; simp [aParts]
  | cons c cs ih =>
    intro i j h
    obtain ⟨h1, h2, h3, h4⟩ := h
    simp only [aParts]
    rw [ih _ _ h4, ← h1]
    exact slice_append_drop a h3.1

theorem bParts_tile {a b : List α} : ∀ (ops : List OpCode) (i j : Nat),
    Tile a b i j ops → bParts b ops = b.drop j := by
  intro ops
  induction ops with
  | nil => intro i j h; obtain ⟨_, h2⟩ := h; subst h2; simp [bParts]
  | cons c cs ih =>
    intro i j h
    obtain ⟨h1, h2, h3, h4⟩ := h
    simp only [bParts]
    rw [ih _ _ h4, ← h2]
    exact slice_append_drop b h3.2.1

theorem replay_allEqual (a b : List α) : ∀ (ops : List OpCode),
    (∀ c ∈ ops, c.tag = opEqual) → replay a b ops = aParts a ops := by
  intro ops
  induction ops with
  | nil => intro _; rfl
  | cons c cs ih =>
    intro h
    simp only [replay, aParts, replayPiece]
    rw [ih (fun c hc => h c (by simp [hc]))]
    simp [h c (by simp)]

end

/-! ### grouped opcodes: the changes, and where every member comes from -/

theorem changes_append (l1 l2 : List OpCode) : changes (l1 ++ l2) = changes l1 ++ changes l2 := by
  simp [changes]

theorem changes_cons_equal {c : OpCode} (h : c.tag = opEqual) (l : List OpCode) :
    changes (c :: l) = changes l := by
  simp [changes, h]

theorem fixFirst_changes (n : Nat) (l : List OpCode) : changes (fixFirst n l) = changes l := by
  cases l with
  | nil => rfl
  | cons c cs =>
    simp only [fixFirst]
    split
    · rename_i h
      rw [changes_cons_equal (by simpa using h), changes_cons_equal h]
    · rfl

theorem fixLast_changes (n : Nat) (l : List OpCode) : changes (fixLast n l) = changes l := by
  fun_induction fixLast n l with
  | case1 => rfl
  | case2 c h => rw [changes_cons_equal (by simpa using h), changes_cons_equal h]
  | case3 c h => rfl
  | case4 c c' cs ih =>
    have e1 : changes (c :: fixLast n (c' :: cs)) = changes [c] ++ changes (fixLast n (c' :: cs)) :=
      changes_append [c] _
    have e2 : changes (c :: c' :: cs) = changes [c] ++ changes (c' :: cs) :=
      changes_append [c] _
    rw [e1, e2, ih]

theorem groupLoop_changes (n : Nat) : ∀ (cs : List OpCode) (groups : List (List OpCode))
    (group : List OpCode),
    changes (groupLoop n cs groups group).flatten =
      changes groups.flatten ++ changes group ++ changes cs := by
  intro cs
  induction cs with
  | nil =>
    intro groups group
    simp only [groupLoop]
    split
    · simp [changes]
    · rename_i h
      match group with
      | [] => simp [changes]
      | [c] =>
        have : c.tag = opEqual := by simpa using h
        simp [changes, this]
      | _ :: _ :: _ => simp at h
  | cons c cs ih =>
    intro groups group
    simp only [groupLoop]
    split
    · rename_i h
      rw [ih]
      have hc : c.tag = opEqual := h.1
      simp [changes, hc]
    · rw [ih]
      have : changes (c :: cs) = changes [c] ++ changes cs := changes_append [c] cs
      rw [this]
      simp [changes_append]

theorem groupOpCodes_changes (n : Nat) (codes : List OpCode) :
    changes (groupOpCodes n codes).flatten = changes codes := by
  unfold groupOpCodes
  simp only
  rw [groupLoop_changes, fixLast_changes, fixFirst_changes]
  split
  · rename_i h
    have : codes = [] := List.eq_nil_of_length_eq_zero h
    subst this
    simp [changes]
  · simp [changes]

/-- well-formedness of an Equal opcode: same length on both sides -/
def WfEq (c : OpCode) : Prop :=
  c.tag = opEqual → c.i1 ≤ c.i2 ∧ c.j1 ≤ c.j2 ∧ c.i2 - c.i1 = c.j2 - c.j1

/-- `c'` is `c` or a sub-range of the Equal opcode `c` on its diagonal -/
def Rel (c' c : OpCode) : Prop := c' = c ∨ SubEqual c' c

theorem Rel_trans {c'' c' c : OpCode} (h1 : Rel c'' c') (h2 : Rel c' c) : Rel c'' c := by
  rcases h1 with rfl | h1
  · exact h2
  · rcases h2 with rfl | h2
    · exact Or.inr h1
    · right
      obtain ⟨a1, a2, a3, a4, a5, a6, a7⟩ := h1
      obtain ⟨b1, b2, b3, b4, b5, b6, b7⟩ := h2
      exact ⟨a1, b2, Nat.le_trans b3 a3, a4, Nat.le_trans a5 b5, by omega, by omega⟩

theorem Rel_wf {c' c : OpCode} (h : Rel c' c) (hw : WfEq c) : WfEq c' := by
  rcases h with rfl | h
  · exact hw
  · obtain ⟨a1, a2, a3, a4, a5, a6, a7⟩ := h
    intro _
    have := hw a2
    omega

/-- the copy of an Equal opcode that keeps at most its last `n` elements (`fixFirst`, `groupLoop`) -/
abbrev trimHead (n : Nat) (c : OpCode) : OpCode :=
  ⟨c.tag, max c.i1 (c.i2 - n), c.i2, max c.j1 (c.j2 - n), c.j2⟩

/-- the copy of an Equal opcode that keeps at most its first `n` elements (`fixLast`, `groupLoop`) -/
abbrev trimTail (n : Nat) (c : OpCode) : OpCode :=
  ⟨c.tag, c.i1, min c.i2 (c.i1 + n), c.j1, min c.j2 (c.j1 + n)⟩

theorem max_add_sub (x d n : Nat) : max x (x + d - n) = x + (d - n) := by omega

theorem Rel_trimHead (n : Nat) {c : OpCode} (ht : c.tag = opEqual) (hw : WfEq c) :
    Rel (trimHead n c) c := by
  obtain ⟨tag, i1, i2, j1, j2⟩ := c
  obtain ⟨w1, w2, w3⟩ := hw ht
  dsimp only at w1 w2 w3
  obtain ⟨d, rfl⟩ := Nat.exists_eq_add_of_le w1
  obtain rfl : j2 = j1 + d := by omega
  refine Or.inr ⟨ht, ht, ?_, ?_, ?_, ?_, ?_⟩ <;> simp only [max_add_sub] <;> omega

theorem Rel_trimTail (n : Nat) {c : OpCode} (ht : c.tag = opEqual) (hw : WfEq c) :
    Rel (trimTail n c) c := by
  obtain ⟨tag, i1, i2, j1, j2⟩ := c
  obtain ⟨w1, w2, w3⟩ := hw ht
  dsimp only at w1 w2 w3
  obtain ⟨d, rfl⟩ := Nat.exists_eq_add_of_le w1
  obtain rfl : j2 = j1 + d := by omega
  refine Or.inr ⟨ht, ht, ?_, ?_, ?_, ?_, ?_⟩ <;> simp only [Nat.add_min_add_left] <;> omega

theorem fixFirst_rel (n : Nat) (l : List OpCode) (hw : ∀ c ∈ l, WfEq c) :
    ∀ c' ∈ fixFirst n l, ∃ c ∈ l, Rel c' c := by
  cases l with
  | nil => intro c' h; exact absurd h List.not_mem_nil
  | cons c cs =>
    intro c' h
    simp only [fixFirst] at h
    split at h
    · rename_i ht
      rcases List.mem_cons.mp h with rfl | h
      · exact ⟨c, List.mem_cons_self, Rel_trimHead n ht (hw c List.mem_cons_self)⟩
      · exact ⟨c', List.mem_cons_of_mem _ h, Or.inl rfl⟩
    · exact ⟨c', h, Or.inl rfl⟩

theorem fixLast_rel (n : Nat) (l : List OpCode) (hw : ∀ c ∈ l, WfEq c) :
    ∀ c' ∈ fixLast n l, ∃ c ∈ l, Rel c' c := by
  fun_induction fixLast n l with
  | case1 => intro c' h; exact absurd h List.not_mem_nil
  | case2 c ht =>
    intro c' h
    rw [List.mem_singleton.mp h]
    exact ⟨c, List.mem_cons_self, Rel_trimTail n ht (hw c List.mem_cons_self)⟩
  | case3 c ht => intro c' h; exact ⟨c', h, Or.inl rfl⟩
  | case4 c c1 cs ih =>
    intro c' h
    rcases List.mem_cons.mp h with rfl | h
    · exact ⟨c', List.mem_cons_self, Or.inl rfl⟩
    · obtain ⟨c0, hc0, hr⟩ := ih (fun c hc => hw c (List.mem_cons_of_mem _ hc)) c' h
      exact ⟨c0, List.mem_cons_of_mem _ hc0, hr⟩

theorem groupLoop_forall (n : Nat) (Q : OpCode → Prop) : ∀ (cs : List OpCode)
    (groups : List (List OpCode)) (group : List OpCode),
    (∀ g ∈ groups, ∀ c ∈ g, Q c) → (∀ c ∈ group, Q c) →
    (∀ c ∈ cs, Q c ∧ (c.tag = opEqual → Q (trimTail n c) ∧ Q (trimHead n c))) →
    ∀ g ∈ groupLoop n cs groups group, ∀ c ∈ g, Q c := by
  intro cs
  induction cs with
  | nil =>
    intro groups group hgs hg _
    simp only [groupLoop]
    split
    · exact List.forall_mem_append.mpr ⟨hgs, List.forall_mem_singleton.mpr hg⟩
    · exact hgs
  | cons c cs ih =>
    intro groups group hgs hg hcs
    have hc := hcs c List.mem_cons_self
    have hcs' := fun c h => hcs c (List.mem_cons_of_mem _ h)
    simp only [groupLoop]
    split
    · rename_i hsplit
      obtain ⟨hT, hH⟩ := hc.2 hsplit.1
      exact ih _ _ (List.forall_mem_append.mpr ⟨hgs, List.forall_mem_singleton.mpr (List.forall_mem_append.mpr ⟨hg, List.forall_mem_singleton.mpr hT⟩)⟩)
        (fun c' hc' => List.mem_singleton.mp hc' ▸ hH) hcs'
    · exact ih _ _ hgs (List.forall_mem_append.mpr ⟨hg, List.forall_mem_singleton.mpr hc.1⟩) hcs'

theorem groupOpCodes_single_equal (n L : Nat) :
    groupOpCodes n [⟨opEqual, 0, L, 0, L⟩] = [] := by
  simp only [groupOpCodes, List.length_singleton, Nat.succ_ne_self, ↓reduceIte, fixFirst, fixLast,
    groupLoop]
  -- trimmed at both ends the opcode is at most `n` long: the loop does not split it, and drops the group
  split
  · omega
  · simp

/-- no opcodes, no groups -/
theorem groupOpCodes_nil (n : Nat) : groupOpCodes n [] = [] :=
  groupOpCodes_single_equal n 1

theorem groupOpCodes_rel (n : Nat) (codes : List OpCode) (hw : ∀ c ∈ codes, WfEq c) :
    ∀ g ∈ groupOpCodes n codes, ∀ c' ∈ g, ∃ c ∈ codes, Rel c' c := by
  cases codes with
  | nil => intro g hg; rw [groupOpCodes_nil] at hg; exact absurd hg List.not_mem_nil
  | cons c0 cs =>
    have r1 := fixFirst_rel n (c0 :: cs) hw
    have r2 := fixLast_rel n _ fun c hc => (r1 c hc).elim fun c1 h => Rel_wf h.2 (hw c1 h.1)
    refine groupLoop_forall n (fun c' => ∃ c ∈ c0 :: cs, Rel c' c) _ [] []
      (fun g hg => absurd hg List.not_mem_nil) (fun c hc => absurd hc List.not_mem_nil) ?_
    intro c2 hc2
    obtain ⟨c1, hc1, hr2⟩ := r2 c2 hc2
    obtain ⟨c, hc, hr1⟩ := r1 c1 hc1
    have hr := Rel_trans hr2 hr1
    have hwf := Rel_wf hr (hw c hc)
    exact ⟨⟨c, hc, hr⟩, fun ht =>
      ⟨⟨c, hc, Rel_trans (Rel_trimTail n ht hwf) hr⟩, ⟨c, hc, Rel_trans (Rel_trimHead n ht hwf) hr⟩⟩⟩

section
omit [DecidableEq α]

theorem OpOK_wf {a b : List α} {c : OpCode} (h : OpOK a b c) : WfEq c := by
  intro ht
  obtain ⟨g1, g2, _, _, g5⟩ := h
  rcases g5 with ⟨_, _, he, _⟩ | ⟨h, _⟩ | ⟨h, _⟩ | ⟨h, _⟩
  · exact ⟨g1, g2, he⟩
  all_goals (rw [ht] at h; simp [opEqual, opInsert, opDelete, opReplace] at h)

end

/-! ### identical inputs give a single Equal opcode

For `a = b = s` the main loop of
`findLongestMatch s s 0 n 0 n` keeps its best block on the diagonal (`best.i = best.j`). -/

theorem indicesFrom_sorted {x : α} {l : List α} : ∀ {s : Nat},
    (indicesFrom x l s).Pairwise (· < ·) := by
  induction l with
  | nil => intro s; simp [indicesFrom]
  | cons y ys ih =>
    intro s
    simp only [indicesFrom]
    split
    · rw [List.pairwise_cons]
      refine ⟨?_, ih⟩
      intro j hj
      have := (mem_indicesFrom.mp hj).1
      omega
    · exact ih

theorem b2j_sorted (b : List α) (x : α) : (b2j b x).Pairwise (· < ·) := by
  unfold b2j
  simp only
  split
  · exact List.Pairwise.nil
  · exact indicesFrom_sorted

theorem b2j_complete {b : List α} {x : α} {j i : Nat} (hj : j ∈ b2j b x)
    (hi : b[i]? = some x) : i ∈ b2j b x := by
  unfold b2j at hj ⊢
  simp only at hj ⊢
  split
  · rename_i h; simp [h] at hj
  · exact mem_indicesFrom.mpr ⟨Nat.zero_le _, by simpa using hi⟩

def npAt (s : List α) (i : Nat) : Bool :=
  match s[i]? with
  | some x => decide (i ∈ b2j s x)
  | none => false

/-- ghost function: the length of the run of non-popular elements of `s` that ends just before position `k` -/
def diagRun (s : List α) : Nat → Nat
  | 0 => 0
  | k + 1 => if npAt s k = true then diagRun s k + 1 else 0

theorem npAt_of_mem {s : List α} {x : α} {j : Nat} (h : j ∈ b2j s x) : npAt s j = true := by
  have := b2j_mem h
  simp [npAt, this, h]

theorem diagRun_succ {s : List α} {k : Nat} (h : npAt s k = true) : diagRun s (k + 1) = diagRun s k + 1 := by
  rw [diagRun, if_pos h]

theorem upd_k (best c : Match) (k : Nat) (hc : c.k = k) : (if best.k < k then c else best).k = max best.k k := by
  by_cases h : best.k < k
  · rw [if_pos h, hc, Nat.max_eq_right (Nat.le_of_lt h)]
  · rw [if_neg h, Nat.max_eq_left (Nat.le_of_not_lt h)]

/-- one row of the main loop on `a = b = s`: lengths stay below the diagonal runs (`hrow` and the like bound on `nw`), the entry on
    the diagonal is exact (`hexact`), and `best`, at least as long as every diagonal run met, stays on the diagonal -/
theorem inner_diag {s : List α} {i : Nat} {x : α} (hx : s[i]? = some x)
    (j2len : List (Nat × Nat))
    (hrow : ∀ j, look j2len j ≤ diagRun s (min (j + 1) i))
    (hexact : ∀ j, j + 1 = i → look j2len j = diagRun s i) :
    ∀ (js : List Nat), (∀ j ∈ js, j ∈ b2j s x) → js.Pairwise (· < ·) →
    ∀ (nw : List (Nat × Nat)) (best : Match),
      (∀ j, look nw j ≤ diagRun s (min (j + 1) (i + 1))) →
      best.i = best.j → (∀ i', i' ≤ i → diagRun s i' ≤ best.k) →
      (i ∈ js ∨ (look nw i = diagRun s (i + 1) ∧ diagRun s (i + 1) ≤ best.k)) →
      let r := inner 0 s.length i j2len js nw best
      (∀ j, look r.1 j ≤ diagRun s (min (j + 1) (i + 1))) ∧ r.2.i = r.2.j ∧
      (∀ i', i' ≤ i + 1 → diagRun s i' ≤ r.2.k) ∧ look r.1 i = diagRun s (i + 1) := by
  intro js
  induction js with
  | nil =>
    intro _ _ nw best hnw hd hh h3
    obtain ⟨h3, h4⟩ := h3.resolve_left List.not_mem_nil
    refine ⟨hnw, hd, fun i' hi' => ?_, h3⟩
    rcases Nat.lt_or_eq_of_le hi' with h | rfl
    · exact hh i' (Nat.le_of_lt_succ h)
    · exact h4
  | cons j js ih =>
    intro hjs hsorted nw best hnw hd hh h3
    have hjmem : j ∈ b2j s x := hjs j List.mem_cons_self
    obtain ⟨hlt, hsorted'⟩ := List.pairwise_cons.mp hsorted
    have hjn : j < s.length := by
      rcases Nat.lt_or_ge j s.length with h | h
      · exact h
      · have := b2j_mem hjmem; rw [List.getElem?_eq_none h] at this; exact absurd this (by simp)
    have hnpi : npAt s i = true := npAt_of_mem (b2j_complete hjmem hx)
    rw [inner_cons, if_neg (Nat.not_lt_zero _), if_neg (Nat.not_le.mpr hjn)]
    -- the new length stays below the diagonal run, and is that run on the diagonal
    have hA : nextLen j2len j ≤ diagRun s (min (j + 1) (i + 1)) := by
      have hnpm : npAt s (min j i) = true := by
        rcases Nat.le_total j i with h | h
        · rw [Nat.min_eq_left h]; exact npAt_of_mem hjmem
        · rw [Nat.min_eq_right h]; exact hnpi
      rw [Nat.succ_min_succ, diagRun_succ hnpm]
      refine Nat.succ_le_succ ?_
      by_cases hj0 : j = 0
      · rw [if_pos hj0]; exact Nat.zero_le _
      · have := hrow (j - 1)
        rw [Nat.sub_add_cancel (Nat.pos_of_ne_zero hj0)] at this
        rw [if_neg hj0]; exact this
    have hB : j = i → nextLen j2len j = diagRun s (i + 1) := by
      rintro rfl
      rw [diagRun_succ hnpi]
      by_cases hj0 : j = 0
      · subst hj0; rfl
      · rw [nextLen, if_neg hj0, hexact (j - 1) (Nat.sub_add_cancel (Nat.pos_of_ne_zero hj0))]
    generalize nextLen j2len j = k at hA hB ⊢
    have hC : best.k < k → j = i := by
      intro hk
      rcases Nat.lt_trichotomy j i with h | h | h
      · rw [Nat.min_eq_left (Nat.add_le_add_right (Nat.le_of_lt h) 1)] at hA
        exact absurd (Nat.le_trans hA (hh (j + 1) h)) (Nat.not_le.mpr hk)
      · exact h
      · rw [Nat.min_eq_right (Nat.add_le_add_right (Nat.le_of_lt h) 1)] at hA
        rcases h3 with h3 | h3
        · rcases List.mem_cons.mp h3 with h3 | h3
          · exact absurd h3 (Nat.ne_of_lt h)
          · exact absurd (hlt i h3) (Nat.lt_asymm h)
        · exact absurd (Nat.le_trans hA h3.2) (Nat.not_le.mpr hk)
    have hk' := upd_k best ⟨i + 1 - k, j + 1 - k, k⟩ k rfl
    refine ih (fun q hq => hjs q (List.mem_cons_of_mem _ hq)) hsorted' _ _ ?_ ?_ ?_ ?_
    · intro j'
      rw [look]
      by_cases e : j = j'
      · rw [if_pos e, ← e]; exact hA
      · rw [if_neg e]; exact hnw j'
    · by_cases hk : best.k < k
      · rw [if_pos hk, hC hk]
      · rw [if_neg hk]; exact hd
    · intro i' hi'
      rw [hk']; exact Nat.le_trans (hh i' hi') (Nat.le_max_left _ _)
    · rw [hk', look]
      by_cases hji : j = i
      · rw [if_pos hji, hB hji]; exact Or.inr ⟨rfl, Nat.le_max_right _ _⟩
      · rw [if_neg hji]
        rcases h3 with h3 | h3
        · exact Or.inl ((List.mem_cons.mp h3).resolve_left (Ne.symm hji))
        · exact Or.inr ⟨h3.1, Nat.le_trans h3.2 (Nat.le_max_left _ _)⟩

theorem outer_diag {s : List α} :
    ∀ (n i : Nat) (j2len : List (Nat × Nat)) (best : Match),
      i + n = s.length →
      (∀ j, look j2len j ≤ diagRun s (min (j + 1) i)) →
      (∀ j, j + 1 = i → look j2len j = diagRun s i) →
      best.i = best.j → (∀ i', i' ≤ i → diagRun s i' ≤ best.k) →
      (outer s s 0 s.length n i j2len best).i = (outer s s 0 s.length n i j2len best).j := by
  intro n
  induction n with
  | zero => intro i j2len best _ _ _ hd _; exact hd
  | succ n ih =>
    intro i j2len best hin hrow hexact hd hh
    obtain ⟨x, hx⟩ : ∃ x, s[i]? = some x := ⟨s[i]'(by omega), List.getElem?_eq_getElem _⟩
    simp only [outer, hx]
    have h3 : i ∈ b2j s x ∨ (look [] i = diagRun s (i + 1) ∧ diagRun s (i + 1) ≤ best.k) := by
      cases hnp : npAt s i with
      | true => exact Or.inl (by simpa [npAt, hx] using hnp)
      | false => rw [diagRun, hnp]; exact Or.inr ⟨rfl, Nat.zero_le _⟩
    obtain ⟨r1, r2, r3, r4⟩ := inner_diag hx j2len hrow hexact (b2j s x) (fun j hj => hj)
      (b2j_sorted s x) [] best (fun j => Nat.zero_le _) hd hh h3
    exact ih (i + 1) _ _ (by omega) r1 (fun j hj => Nat.succ.inj hj ▸ r4) r2 r3

theorem eqAt_self {s : List α} {i : Nat} (h : i < s.length) : eqAt s s i i = true :=
  eqAt_iff.mpr ⟨s[i], by simp [h], by simp [h]⟩

theorem extBack_self {s : List α} : ∀ (i k : Nat), i ≤ s.length →
    extBack s s 0 0 i i k = ⟨0, 0, k + i⟩ := by
  intro i
  induction i with
  | zero => intro k _; simp [extBack]
  | succ i ih =>
    intro k hi
    have h1 : eqAt s s i i = true := eqAt_self (by omega)
    have h2 : (0 < i + 1 ∧ 0 < i + 1 ∧ eqAt s s i (i + 1 - 1) = true) :=
      ⟨by omega, by omega, by simpa using h1⟩
    rw [extBack, if_pos h2]
    have : i + 1 - 1 = i := by omega
    rw [this, ih (k + 1) (by omega)]
    congr 1; omega

theorem extFwd_self {s : List α} (k : Nat) (hk : k ≤ s.length) :
    extFwd s s s.length s.length 0 0 k = s.length := by
  fun_induction extFwd s s s.length s.length 0 0 k with
  | case1 k hc ih => exact ih (by omega)
  | case2 k hc =>
    rcases Nat.lt_or_ge k s.length with h | h
    · exfalso
      apply hc
      refine ⟨by omega, by omega, ?_⟩
      simpa using eqAt_self (s := s) (i := k) h
    · omega

theorem flm_self (s : List α) :
    findLongestMatch s s 0 s.length 0 s.length = ⟨0, 0, s.length⟩ := by
  have hok := outer_bestOK (a := s) (b := s) (Nat.zero_le _) (Nat.le_refl _) (Nat.zero_le s.length)
  have hdiag := outer_diag (s := s) (s.length - 0) 0 [] ⟨0, 0, 0⟩ (Nat.zero_add _)
    (fun _ => Nat.zero_le _) (fun _ h => absurd h (Nat.succ_ne_zero _)) rfl
    (fun i' h => by rw [Nat.le_zero.mp h]; exact Nat.le_refl _)
  unfold findLongestMatch
  generalize outer s s 0 s.length (s.length - 0) 0 [] ⟨0, 0, 0⟩ = best at hok hdiag
  obtain ⟨bi, bj, bk⟩ := best
  simp only at hdiag
  subst hdiag
  obtain ⟨_, h2, _, _, _⟩ := hok
  simp only at h2
  simp only
  rw [extBack_self bi bk (by omega)]
  simp only
  rw [extFwd_self _ (by omega)]

theorem getOpCodes_self (s : List α) :
    getOpCodes s s = if s.length = 0 then [] else [⟨opEqual, 0, s.length, 0, s.length⟩] := by
  rw [getOpCodes_eq]
  cases hn : s.length with
  | zero => simp [mbN, collapseN, opN, gapOps, eqOps]
  | succ n =>
    have hf := flm_self s
    rw [hn] at hf
    -- by `flm_self` the first match is the whole diagonal, so neither recursive call is made
    simp [mbN, hf, collapseN, opN, gapOps, eqOps]

/-! ### non-adjacent blocks, alternating opcodes, a change in every group -/

/-- consecutive blocks are never adjacent (Go doc comment of `getMatchingBlocks`) -/
abbrev NA : List Match → Prop := Adj fun m1 m2 => ¬ (m1.i + m1.k = m2.i ∧ m1.j + m1.k = m2.j)

theorem collapseN_head : ∀ (ms : List Match) (i j k : Nat), 0 < k →
    ∃ k' R, collapseN ms i j k = ⟨i, j, k'⟩ :: R := by
  intro ms
  induction ms with
  | nil => intro i j k hk; exact ⟨k, [], by simp [collapseN, hk]⟩
  | cons m ms ih =>
    intro i j k hk
    simp only [collapseN]
    split
    · exact ih i j (k + m.k) (by omega)
    · exact ⟨k, collapseN ms m.i m.j m.k, by simp⟩

theorem collapseN_NA : ∀ (ms : List Match), (∀ m ∈ ms, 0 < m.k) → ∀ (i1 j1 k1 : Nat),
    NA (collapseN ms i1 j1 k1) := by
  intro ms
  induction ms with
  | nil => intro _ i1 j1 k1; simp only [collapseN]; split <;> simp [Adj]
  | cons m ms ih =>
    intro hpos i1 j1 k1
    have hpos' : ∀ m ∈ ms, 0 < m.k := fun q hq => hpos q (by simp [hq])
    have hmk : 0 < m.k := hpos m (by simp)
    simp only [collapseN]
    split
    · exact ih hpos' _ _ _
    · rename_i hna
      have hrec := ih hpos' m.i m.j m.k
      split
      · obtain ⟨k', R, e⟩ := collapseN_head ms m.i m.j m.k hmk
        rw [e] at hrec ⊢
        exact ⟨hna, hrec⟩
      · simpa using hrec

/-- no two consecutive tags are both Equal -/
abbrev AltT : List Nat → Prop := Adj fun t1 t2 => ¬ (t1 = opEqual ∧ t2 = opEqual)

def HeadNonEq (ops : List OpCode) : Prop := ∀ c, ops.head? = some c → c.tag ≠ opEqual

theorem gapOps_cases (i j : Nat) (m : Match) :
    gapOps i j m = [] ∨ ∃ c, gapOps i j m = [c] ∧ c.tag ≠ opEqual :=
  (gapOps_spec i j m).imp (·.1) fun ⟨_, ht, e, _⟩ => ⟨_, e, ht⟩

theorem gapOps_ne_nil {i j : Nat} {m : Match} (h1 : i ≤ m.i) (h2 : j ≤ m.j)
    (h : ¬ (i = m.i ∧ j = m.j)) : ∃ c, gapOps i j m = [c] ∧ c.tag ≠ opEqual := by
  rcases gapOps_spec i j m with ⟨_, n1, n2⟩ | ⟨_, ht, e, _⟩
  · exact absurd ⟨Nat.le_antisymm h1 (Nat.le_of_not_lt n1), Nat.le_antisymm h2 (Nat.le_of_not_lt n2)⟩ h
  · exact ⟨_, e, ht⟩

theorem AltT_gap_eq {i j : Nat} {m : Match} {e : OpCode} {rest : List OpCode}
    (h1 : AltT (rest.map (·.tag))) (h2 : HeadNonEq rest) :
    AltT ((gapOps i j m ++ e :: rest).map (·.tag)) := by
  have hE : AltT ((e :: rest).map (·.tag)) := by
    cases rest with
    | nil => trivial
    | cons r rs => exact ⟨fun hh => h2 r rfl hh.2, h1⟩
  rcases gapOps_cases i j m with h | ⟨c, h, hc⟩
  · rw [h]; exact hE
  · rw [h]; exact ⟨fun hh => hc hh.1, hE⟩

theorem HeadNonEq_cons {c : OpCode} (h : c.tag ≠ opEqual) (l : List OpCode) : HeadNonEq (c :: l) :=
  fun _ hc' => Option.some.inj hc' ▸ h

section
omit [DecidableEq α]

/-- the opcodes alternate, and they begin with a change unless the first block begins at `(i, j)` -/
theorem opN_alt {a b : List α} : ∀ (L : List Match) (i j : Nat),
    InWin a b i j a.length b.length L → NA L →
    AltT ((opN (L ++ [⟨a.length, b.length, 0⟩]) i j).map (·.tag)) ∧
    ((∀ m, L.head? = some m → ¬ (i = m.i ∧ j = m.j)) →
      HeadNonEq (opN (L ++ [⟨a.length, b.length, 0⟩]) i j)) := by
  intro L
  induction L with
  | nil =>
    intro i j _ _
    simp only [List.nil_append, opN, eqOps, Nat.lt_irrefl, ↓reduceIte, List.append_nil]
    rcases gapOps_cases i j ⟨a.length, b.length, 0⟩ with h | ⟨c, h, hc⟩
    · rw [h]; exact ⟨trivial, fun _ _ hc => absurd hc (by simp)⟩
    · rw [h]; exact ⟨trivial, fun _ => HeadNonEq_cons hc _⟩
  | cons m ms ih =>
    intro i j hw hna
    obtain ⟨h1, h2, h3, h4, h5⟩ := hw
    obtain ⟨r1, r2⟩ := ih _ _ h5 (Adj_tail hna)
    have r2' := r2 fun m' hm' => by
      cases ms with
      | nil => exact absurd hm' (by simp)
      | cons _ _ => exact Option.some.inj hm' ▸ hna.1
    simp only [List.cons_append, opN, eqOps, h3, ↓reduceIte, List.cons_append, List.nil_append]
    refine ⟨AltT_gap_eq r1 r2', fun hc => ?_⟩
    obtain ⟨c, hg, hct⟩ := gapOps_ne_nil h1 h2 (hc m rfl)
    rw [hg]; exact HeadNonEq_cons hct _

end

theorem collapsed_NA (a b : List α) :
    NA (collapseN (mbN a b a.length 0 a.length 0 b.length) 0 0 0) :=
  collapseN_NA _ (fun m hm => let ⟨_, _, _, _, hk, _⟩ := InWin_mem (matched_inWin a b) m hm; hk) 0 0 0

theorem getOpCodes_alt (a b : List α) : AltT ((getOpCodes a b).map (·.tag)) := by
  rw [getOpCodes_eq]
  exact (opN_alt _ 0 0 (collapsed_inWin a b) (collapsed_NA a b)).1

theorem fixFirst_tags (n : Nat) (l : List OpCode) :
    (fixFirst n l).map (·.tag) = l.map (·.tag) := by
  cases l with
  | nil => rfl
  | cons c cs => simp only [fixFirst]; split <;> simp

theorem fixLast_tags (n : Nat) (l : List OpCode) :
    (fixLast n l).map (·.tag) = l.map (·.tag) := by
  fun_induction fixLast n l with
  | case1 => rfl
  | case2 c h => simp
  | case3 c h => rfl
  | case4 c c' cs ih => simp only [List.map_cons] at ih ⊢; rw [ih]

/-- a leading Equal opcode spans at most `2n` elements (so the grouping loop does not split it) -/
def HeadShort (n : Nat) (ops : List OpCode) : Prop :=
  ∀ c, ops.head? = some c → c.tag = opEqual → c.i2 - c.i1 ≤ n + n

theorem fixFirst_headShort (n : Nat) (l : List OpCode) : HeadShort n (fixFirst n l) := by
  cases l with
  | nil => intro c hc; simp [fixFirst] at hc
  | cons c0 cs =>
    intro c hc ht
    simp only [fixFirst] at hc
    split at hc
    · simp only [List.head?_cons, Option.some.injEq] at hc
      subst hc; simp only; omega
    · rename_i hne
      simp only [List.head?_cons, Option.some.injEq] at hc
      subst hc; exact absurd ht hne

theorem fixLast_headShort (n : Nat) (l : List OpCode) (h : HeadShort n l) :
    HeadShort n (fixLast n l) := by
  fun_induction fixLast n l with
  | case1 => exact h
  | case2 c ht =>
    intro c' hc' _
    simp only [List.head?_cons, Option.some.injEq] at hc'
    subst hc'
    have := h c (by simp) ht
    simp only; omega
  | case3 c ht => exact h
  | case4 c c1 cs ih =>
    intro c' hc' ht
    simp only [List.head?_cons, Option.some.injEq] at hc'
    subst hc'
    exact h c (by simp) ht

def HasChange (g : List OpCode) : Prop := ∃ c ∈ g, c.tag ≠ opEqual

/-- the current group is in one of three states: it holds a change; it is empty and a leading Equal is short
    (only at the start); or it is a single Equal opcode and the next opcode is a change (by alternation) — in
    each, a group that is pushed, or kept at the end, holds a change -/
theorem groupLoop_hasChange (n : Nat) : ∀ (cs : List OpCode) (groups : List (List OpCode))
    (group : List OpCode),
    AltT (cs.map (·.tag)) → (∀ g ∈ groups, HasChange g) →
    (HasChange group ∨ (group = [] ∧ HeadShort n cs) ∨
      (∃ e, group = [e] ∧ e.tag = opEqual ∧ HeadNonEq cs)) →
    ∀ g ∈ groupLoop n cs groups group, HasChange g := by
  intro cs
  induction cs with
  | nil =>
    intro groups group _ hg hst g hmem
    simp only [groupLoop] at hmem
    split at hmem
    · rename_i hkeep
      simp only [List.mem_append, List.mem_singleton] at hmem
      rcases hmem with hmem | rfl
      · exact hg g hmem
      · rcases hst with h | ⟨h, _⟩ | ⟨e, h, he, _⟩
        · exact h
        · subst h; simp at hkeep
        · subst h; simp [he] at hkeep
    · exact hg g hmem
  | cons c cs ih =>
    intro groups group halt hg hst g hmem
    have halt' : AltT (cs.map (·.tag)) := Adj_tail halt
    have hnext : c.tag = opEqual → HeadNonEq cs := by
      intro ht c' hc' h2
      cases cs with
      | nil => exact absurd hc' (by simp)
      | cons c1 cs' => exact halt.1 ⟨ht, Option.some.inj hc' ▸ h2⟩
    have happ : ∀ y, HasChange group → HasChange (group ++ [y]) :=
      fun _ ⟨x, hx, hxt⟩ => ⟨x, List.mem_append_left _ hx, hxt⟩
    simp only [groupLoop] at hmem
    split at hmem
    · rename_i hsplit
      obtain ⟨ht, hlong⟩ := hsplit
      have hgroup : HasChange group := by
        rcases hst with h | ⟨_, h⟩ | ⟨e, _, _, h⟩
        · exact h
        · exact absurd (h c rfl ht) (Nat.not_le.mpr hlong)
        · exact absurd ht (h c rfl)
      exact ih _ _ halt' (List.forall_mem_append.mpr ⟨hg, List.forall_mem_singleton.mpr (happ _ hgroup)⟩) (Or.inr (Or.inr ⟨trimHead n c, rfl, ht, hnext ht⟩)) g hmem
    · refine ih _ _ halt' hg ?_ g hmem
      by_cases ht : c.tag = opEqual
      · rcases hst with h | ⟨rfl, _⟩ | ⟨e, _, _, h⟩
        · exact Or.inl (happ c h)
        · exact Or.inr (Or.inr ⟨c, rfl, ht, hnext ht⟩)
        · exact absurd ht (h c rfl)
      · exact Or.inl ⟨c, List.mem_append_right _ List.mem_cons_self, ht⟩

theorem groupOpCodes_hasChange (n : Nat) (codes : List OpCode)
    (halt : AltT (codes.map (·.tag))) :
    ∀ g ∈ groupOpCodes n codes, HasChange g := by
  cases codes with
  | nil => intro g hg; rw [groupOpCodes_nil] at hg; simp at hg
  | cons c0 cs =>
    intro g hg
    simp only [groupOpCodes, List.length_cons, Nat.add_one_ne_zero, ↓reduceIte] at hg
    refine groupLoop_hasChange n _ [] [] ?_ (by intro g hg; simp at hg) ?_ g hg
    · rw [fixLast_tags, fixFirst_tags]; exact halt
    · right; left
      exact ⟨rfl, fixLast_headShort n _ (fixFirst_headShort n _)⟩

end GoSnaps.Difflib
