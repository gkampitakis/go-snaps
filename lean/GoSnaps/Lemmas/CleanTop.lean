/-
Helper lemmas about the top-level `clean` (Clean.lean): a case analysis exposing the three
stages (`occurrences`, `examineFiles`, `examineSnaps`) and the record it returns, and the fact
that `examineFiles` only ever lists registered paths as `used`.
-/
import GoSnaps.Lemmas.Clean
import GoSnaps.Props.C05
namespace GoSnaps

open Generated

/-- the paths `Clean` hands to `examineFiles` as registered snapshot files -/
def cleanRegPaths (w : World) : List Text := dedup (w.cleanup.map (·.1.1))

/-- `len(testEvents.items) > 0` as the model computes it -/
def cleanAnyEvent (w : World) : Bool :=
  decide (w.events.erred + w.events.added + w.events.updated + w.events.passed > 0)

/-- what `Clean` prints, given the two lists its stages returned -/
def cleanStdout (w : World) (sortOpt : Bool) (obsFiles obsTests : List Text) : Text :=
  let s := summary obsFiles obsTests w.skipped.length w.events (cleanAnyEvent w)
    (summaryUpdate w.env sortOpt)
  if s = [] then [] else s ++ [nl]

/-- a supported run of `Clean`: the three stages succeeded with these intermediate results -/
structure CleanRun (o : Oracles) (w : World) (sortOpt : Bool) (runOnly : Text) (count : Nat)
    (standalone : List Text) (fr : FilesResult) (obsTests : List Text) (fs : FS)
    (written : List Text) : Prop where
  count_ne : count ≠ 0
  occ : occurrences w.scleanup count standaloneOccFmt = some standalone
  files : examineFiles o w.fs (cleanRegPaths w) standalone runOnly (cleanFilesUpdate w.env sortOpt)
    = some fr
  snaps : examineSnaps o fr.fs w.cleanup w.skipped fr.used runOnly count
    (cleanSnapsUpdate w.env sortOpt) (cleanSnapsSort w.env sortOpt) = .ok obsTests fs written
  result : clean o w sortOpt runOnly count =
    ({ w with fs := fs },
     { writes := written, removed := fr.removed, stdout := cleanStdout w sortOpt fr.obsolete obsTests })

theorem CleanRun.of_stages {o : Oracles} {w : World} {sortOpt : Bool} {runOnly : Text} {count : Nat}
    {standalone : List Text} {fr : FilesResult} {obsTests : List Text} {fs : FS} {written : List Text}
    (hc : count ≠ 0) (hocc : occurrences w.scleanup count standaloneOccFmt = some standalone)
    (hfiles : examineFiles o w.fs (cleanRegPaths w) standalone runOnly (cleanFilesUpdate w.env sortOpt)
      = some fr)
    (hsn : examineSnaps o fr.fs w.cleanup w.skipped fr.used runOnly count
      (cleanSnapsUpdate w.env sortOpt) (cleanSnapsSort w.env sortOpt) = .ok obsTests fs written) :
    CleanRun o w sortOpt runOnly count standalone fr obsTests fs written := by
  refine ⟨hc, hocc, hfiles, hsn, ?_⟩
  unfold cleanRegPaths at hfiles
  unfold clean
  simp only [hc, ↓reduceIte, hocc, hfiles, hsn]
  rfl

/-- **case analysis of `clean`**: either the model does not cover the input (`unsup`: the world is
    returned unchanged, nothing written / removed / printed), or all three stages succeeded -/
theorem clean_cases (o : Oracles) (w : World) (sortOpt : Bool) (runOnly : Text) (count : Nat) :
    (∃ why, clean o w sortOpt runOnly count = unsup w why) ∨
    ∃ standalone fr obsTests fs written,
      CleanRun o w sortOpt runOnly count standalone fr obsTests fs written := by
  by_cases hc : count = 0
  · left; exact ⟨_, by unfold clean; simp only [hc, ↓reduceIte]; rfl⟩
  · cases hocc : occurrences w.scleanup count standaloneOccFmt with
    | none => left; exact ⟨_, by unfold clean; simp only [hc, ↓reduceIte, hocc]; rfl⟩
    | some standalone =>
      cases hfiles : examineFiles o w.fs (cleanRegPaths w) standalone runOnly
          (cleanFilesUpdate w.env sortOpt) with
      | none =>
        left; exact ⟨_, by unfold clean; unfold cleanRegPaths at hfiles; simp only [hc, ↓reduceIte, hocc, hfiles]; rfl⟩
      | some fr =>
        have hfiles' := hfiles
        unfold cleanRegPaths at hfiles'
        cases hsn : examineSnaps o fr.fs w.cleanup w.skipped fr.used runOnly count
            (cleanSnapsUpdate w.env sortOpt) (cleanSnapsSort w.env sortOpt) with
        | ok obsTests fs written =>
          exact Or.inr ⟨standalone, fr, obsTests, fs, written, CleanRun.of_stages hc hocc hfiles hsn⟩
        | _ => exact Or.inl ⟨_, by unfold clean; simp only [hc, ↓reduceIte, hocc, hfiles', hsn]; rfl⟩

theorem clean_supported (o : Oracles) (w : World) (sortOpt : Bool) (runOnly : Text) (count : Nat)
    (hs : (clean o w sortOpt runOnly count).2.unsupported = none) :
    ∃ standalone fr obsTests fs written,
      CleanRun o w sortOpt runOnly count standalone fr obsTests fs written := by
  rcases clean_cases o w sortOpt runOnly count with ⟨why, h⟩ | h
  · rw [h] at hs; simp [unsup] at hs
  · exact h

theorem CleanRun.supported {o : Oracles} {w : World} {sortOpt : Bool} {runOnly : Text} {count : Nat}
    {standalone : List Text} {fr : FilesResult} {obsTests : List Text} {fs : FS} {written : List Text}
    (h : CleanRun o w sortOpt runOnly count standalone fr obsTests fs written) :
    (clean o w sortOpt runOnly count).2.unsupported = none := by
  rw [h.result]

/-- `examineFiles` lists as `used` only registered paths -/
theorem examineFiles_used_sub (o : Oracles) (fs : FS) (regPaths standalone : List Text)
    (runOnly : Text) (update : Bool) (r : FilesResult)
    (h : examineFiles o fs regPaths standalone runOnly update = some r) :
    ∀ p ∈ r.used, p ∈ regPaths := by
  rw [examineFiles_eq] at h
  refine foldl_opt_inv (filesOuter o regPaths standalone runOnly update) (fun _ => rfl)
    (fun r => ∀ p ∈ r.used, p ∈ regPaths) _ ?_ { fs := fs } r (by simp) h
  intro a dir a' _ ha hstep
  unfold filesOuter at hstep
  simp only at hstep
  refine foldl_opt_inv (filesInner o regPaths standalone runOnly update dir) (fun _ => rfl)
    (fun r => ∀ p ∈ r.used, p ∈ regPaths) _ ?_ a a' ha hstep
  intro b x b' _ hb hs
  rcases filesInner_cases o regPaths standalone runOnly update dir b b' x hs with rfl | ⟨hreg, rfl⟩ | ⟨_, _, _, rfl⟩
  · exact hb
  · intro p hp
    rcases List.mem_append.mp hp with h' | h'
    · exact hb p h'
    · rw [List.mem_singleton.mp h']; exact hreg
  · cases update <;> exact hb

/-- a successful file loop read every used path: each of them existed when the loop started -/
theorem examineSnaps_go_reads (o : Oracles) (cleanup : List (RegKey × Nat)) (skipped : List Text)
    (runOnly : Text) (count : Nat) (update sort : Bool) (used : List Text) (fs : FS)
    (obs written : List Text) (obs' : List Text) (fs' : FS) (w' : List Text)
    (h : examineSnaps.go o cleanup skipped runOnly count update sort used fs obs written =
      .ok obs' fs' w') :
    ∀ p ∈ used, ∃ c, fsRead fs p = some c :=
  (examineSnaps_go_ok o cleanup skipped runOnly count update sort used fs obs written obs' fs' w' h).1

end GoSnaps
