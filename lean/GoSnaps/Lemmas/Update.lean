/-
Lemmas about the pieces the properties are built from: `updateL` over `fileLines`, monotonicity of
`getPrevL` under appending, decimal rendering, splitting at a space, association-list registries,
and what `endTest` and the Match* calls do to the registries.
-/
import GoSnaps.Lemmas.Format
import GoSnaps.Props.C01
import GoSnaps.Props.C19
import GoSnaps.Model
namespace GoSnaps

/-! ### `fileLines` / `render` algebra -/

theorem fileLines_append (a b : List Entry) : fileLines (a ++ b) = fileLines a ++ fileLines b := by
  simp [fileLines]

theorem fileLines_cons (e : Entry) (es : List Entry) :
    fileLines (e :: es) = entryLines e ++ fileLines es := by
  simp [fileLines]

theorem fileLines_split (pre : List Entry) (e : Entry) (post : List Entry) :
    fileLines (pre ++ e :: post) = fileLines pre ++ (entryLines e ++ fileLines post) := by
  simp [fileLines]

theorem render_append (a b : List Entry) : render (a ++ b) = render a ++ render b := by
  simp [render]

theorem render_cons (e : Entry) (es : List Entry) : render (e :: es) = frame e ++ render es := by
  simp [render]

theorem flatMap_entryLines (e : Entry) : (entryLines e).flatMap (· ++ [nl]) = frame e := by
  simp [entryLines, frame, List.flatMap_append, flatMap_lines]

theorem flatMap_fileLines (es : List Entry) : (fileLines es).flatMap (· ++ [nl]) = render es := by
  induction es with
  | nil => simp [fileLines, render]
  | cons e es ih =>
    rw [fileLines_cons, List.flatMap_append, ih, flatMap_entryLines, render_cons]

theorem length_entryLines (e : Entry) : (entryLines e).length = (lines e.body).length + 3 := by
  simp [entryLines]

theorem mem_entryLines_iff (l : Line) (e : Entry) :
    l ∈ entryLines e ↔ l = [] ∨ l = e.id ∨ l ∈ lines e.body ∨ l = endSeq := by
  simp only [entryLines, List.mem_append, List.mem_cons, List.not_mem_nil, or_false, or_assoc]

theorem length_fileLines_split (pre : List Entry) (e : Entry) (post : List Entry) :
    (fileLines (pre ++ e :: post)).length =
      (fileLines pre).length + ((lines e.body).length + 3) + (fileLines post).length := by
  rw [fileLines_split, List.length_append, List.length_append, length_entryLines, ← Nat.add_assoc]

theorem not_mem_fileLines_split {l : Line} {pre : List Entry} {e : Entry} {post : List Entry}
    (hpre : l ∉ fileLines pre) (hnil : l ≠ []) (hid : l ≠ e.id) (hbody : l ∉ lines e.body)
    (hend : l ≠ endSeq) (hpost : l ∉ fileLines post) : l ∉ fileLines (pre ++ e :: post) := by
  simp only [fileLines_split, List.mem_append, mem_entryLines_iff, not_or]
  exact ⟨hpre, ⟨hnil, hid, hbody, hend⟩, hpost⟩

theorem updateL_copy (id : Line) (b : Text) (ls rest : List Line) (h : id ∉ ls) :
    updateL id b false (ls ++ rest) = ls.flatMap (· ++ [nl]) ++ updateL id b false rest := by
  induction ls with
  | nil => simp
  | cons l ls ih =>
    simp [updateL, Ne.symm (List.ne_of_not_mem_cons h), ih (List.not_mem_of_not_mem_cons h)]

/-- skipping mode (`removeSnapshot`): everything up to and including the first terminator is dropped -/
theorem updateL_skip (id : Line) (b : Text) (ls rest : List Line) (h : endSeq ∉ ls) :
    updateL id b true (ls ++ endSeq :: rest) = updateL id b false rest := by
  induction ls with
  | nil => simp [updateL]
  | cons l ls ih =>
    simp [updateL, Ne.symm (List.ne_of_not_mem_cons h), ih (List.not_mem_of_not_mem_cons h)]

theorem updateL_entry (e : Entry) (b' : Text) (rest : List Line) (hne : e.id ≠ [])
    (hesc : Escaped e.body) :
    updateL e.id b' false (entryLines e ++ rest) =
      frame ⟨e.id, b'⟩ ++ updateL e.id b' false rest := by
  have : entryLines e ++ rest = [] :: e.id :: (lines e.body ++ endSeq :: rest) := by
    simp [entryLines]
  rw [this]
  simp only [updateL, hne.symm, ↓reduceIte]
  rw [updateL_skip _ _ _ _ hesc]
  simp [frame]

theorem updateL_fileLines (pre : List Entry) (e : Entry) (post : List Entry) (b' : Text)
    (hne : e.id ≠ []) (hesc : Escaped e.body)
    (hpre : e.id ∉ fileLines pre) (hpost : e.id ∉ fileLines post) :
    updateL e.id b' false (fileLines (pre ++ e :: post)) = render (pre ++ ⟨e.id, b'⟩ :: post) := by
  rw [fileLines_split, updateL_copy _ _ _ _ hpre, updateL_entry e b' _ hne hesc,
    ← List.append_nil (fileLines post), updateL_copy _ _ _ _ hpost, flatMap_fileLines, flatMap_fileLines,
    render_append, render_cons]
  simp only [updateL, List.append_nil]

/-! ### `collect` / `getPrevL` are monotone under appending lines -/

theorem collect_append_some (ls more : List Line) (acc r : Text) (h : collect ls acc = some r) :
    collect (ls ++ more) acc = some r := by
  induction ls generalizing acc with
  | nil => simp [collect] at h
  | cons l ls ih =>
    simp only [collect, List.cons_append] at h ⊢
    split
    · rename_i hl; simpa [hl] using h
    · rename_i hl; simp only [hl, ↓reduceIte] at h; exact ih _ h

theorem getPrevL_append_some (id : Line) (ls more : List Line) (n : Nat) (r : Text × Nat)
    (h : getPrevL id ls n = some r) : getPrevL id (ls ++ more) n = some r := by
  induction ls generalizing n with
  | nil => simp [getPrevL] at h
  | cons l ls ih =>
    simp only [getPrevL, List.cons_append] at h ⊢
    split
    · rename_i hl
      simp only [hl, ↓reduceIte, Option.map_eq_some_iff] at h
      obtain ⟨b, hb, rfl⟩ := h
      simp [collect_append_some ls more [] b hb]
    · rename_i hl; simp only [hl, ↓reduceIte] at h; exact ih _ h

theorem collect_isSome (ls : List Line) (acc : Text) (h : endSeq ∈ ls) :
    (collect ls acc).isSome := by
  induction ls generalizing acc with
  | nil => simp at h
  | cons l ls ih =>
    simp only [collect]
    split
    · simp
    · rename_i hl
      exact ih _ ((List.mem_cons.mp h).resolve_left (Ne.symm hl))

theorem getPrevL_isSome (id : Line) (a b c : List Line) (n : Nat) :
    (getPrevL id (a ++ id :: (b ++ endSeq :: c)) n).isSome := by
  induction a generalizing n with
  | nil =>
    simp only [List.nil_append, getPrevL, ↓reduceIte, Option.isSome_map]
    exact collect_isSome _ _ (by simp)
  | cons l ls ih =>
    simp only [List.cons_append, getPrevL]
    split
    · simp only [Option.isSome_map]
      exact collect_isSome _ _ (by simp)
    · exact ih _

/-- every entry of a file is found by a lookup of its header (maybe shadowed, but found) -/
theorem getPrevL_fileLines_isSome (es : List Entry) (o : Entry) (ho : o ∈ es) (n : Nat) :
    (getPrevL o.id (fileLines es) n).isSome := by
  obtain ⟨pre, post, rfl⟩ := List.append_of_mem ho
  have : fileLines (pre ++ o :: post) =
      (fileLines pre ++ [[]]) ++ o.id :: (lines o.body ++ endSeq :: fileLines post) := by
    simp [fileLines, entryLines]
  rw [this]
  exact getPrevL_isSome _ _ _ _ _

/-! ### well-formedness (`C01.WF`) is stable under splitting and under replacing a body -/

/-- no line of the body ends in a carriage return (`bufio.ScanLines` would strip it) -/
def NoCRBody (b : Text) : Prop := ∀ l ∈ lines b, NoCRLine l

instance (b : Text) : Decidable (NoCRBody b) := by unfold NoCRBody; infer_instance

theorem WF_append_left {a b : List Entry} (h : C01.WF (a ++ b)) : C01.WF a :=
  ⟨fun e he => h.idNoNL e (by simp [he]),
   fun l hl => h.noCR l (by rw [fileLines_append]; simp [hl])⟩

theorem WF_append_right {a b : List Entry} (h : C01.WF (a ++ b)) : C01.WF b :=
  ⟨fun e he => h.idNoNL e (by simp [he]),
   fun l hl => h.noCR l (by rw [fileLines_append]; simp [hl])⟩

theorem WF_replace {pre post : List Entry} {e : Entry} (b' : Text)
    (h : C01.WF (pre ++ e :: post)) (hcr : NoCRBody b') :
    C01.WF (pre ++ ⟨e.id, b'⟩ :: post) := by
  obtain ⟨h1, h2⟩ := h
  constructor
  · simpa only [List.forall_mem_append, List.forall_mem_cons] using h1
  · -- both files line by line: only the body lines differ
    simp only [fileLines_split, entryLines, List.forall_mem_append, List.forall_mem_cons] at h2 ⊢
    obtain ⟨hpre, ⟨⟨hhead, _⟩, hend⟩, hpost⟩ := h2
    exact ⟨hpre, ⟨⟨hhead, hcr⟩, hend⟩, hpost⟩

/-! ### decimal rendering -/

/-- value of a big-endian decimal digit string -/
def decodeNat (t : Text) : Nat := t.foldl (fun a c => 10 * a + (c.toNat - 48)) 0

def IsDigit (c : Byte) : Prop := 48 ≤ c ∧ c ≤ 57

theorem digit_toNat (n : Nat) : (UInt8.ofNat (48 + n % 10)).toNat = 48 + n % 10 := by
  have : n % 10 < 10 := Nat.mod_lt _ (by omega)
  simp [UInt8.toNat_ofNat']
  omega

theorem digit_isDigit (n : Nat) : IsDigit (UInt8.ofNat (48 + n % 10)) := by
  unfold IsDigit
  rw [UInt8.le_iff_toNat_le, UInt8.le_iff_toNat_le, digit_toNat]
  exact ⟨Nat.le_add_right 48 _, by have : (57 : UInt8).toNat = 57 := rfl; omega⟩

theorem decodeNat_snoc (ds : Text) (c : Byte) :
    decodeNat (ds ++ [c]) = 10 * decodeNat ds + (c.toNat - 48) := by
  simp only [decodeNat, List.foldl_append, List.foldl_cons, List.foldl_nil]

theorem natToTextAux_spec (fuel n : Nat) (acc : Text) (h : n < fuel) :
    ∃ ds : Text, natToTextAux fuel n acc = ds ++ acc ∧ ds ≠ [] ∧ (∀ c ∈ ds, IsDigit c) ∧
      decodeNat ds = n := by
  induction fuel generalizing n acc with
  | zero => exact absurd h (Nat.not_lt_zero n)
  | succ f ih =>
    -- all that matters of the digit `d` pushed in this round: it is a digit, of value `n % 10`
    have hd : (UInt8.ofNat (48 + n % 10)).toNat - 48 = n % 10 := by
      rw [digit_toNat, Nat.add_sub_cancel_left]
    have hD := digit_isDigit n
    unfold natToTextAux
    dsimp only
    generalize UInt8.ofNat (48 + n % 10) = d at hd hD ⊢
    split
    · rename_i hn
      exact ⟨[d], rfl, List.cons_ne_nil _ _, fun c hc => List.mem_singleton.mp hc ▸ hD,
        (Nat.zero_add _).trans (hd.trans (Nat.mod_eq_of_lt hn))⟩
    · rename_i hn
      have hlt : n / 10 < f :=
        Nat.lt_of_lt_of_le (Nat.div_lt_self (by omega) (by decide)) (Nat.le_of_lt_succ h)
      obtain ⟨ds, h1, _, h3, h4⟩ := ih (n / 10) (d :: acc) hlt
      refine ⟨ds ++ [d], by rw [h1, List.append_assoc]; rfl,
        List.append_ne_nil_of_right_ne_nil _ (List.cons_ne_nil _ _),
        fun c hc => (List.mem_append.mp hc).elim (h3 c) fun hc => List.mem_singleton.mp hc ▸ hD, ?_⟩
      rw [decodeNat_snoc, h4, hd]; exact Nat.div_add_mod n 10

theorem natToText_spec (n : Nat) :
    natToText n ≠ [] ∧ (∀ c ∈ natToText n, IsDigit c) ∧ decodeNat (natToText n) = n := by
  obtain ⟨ds, h1, h2, h3, h4⟩ := natToTextAux_spec (n + 1) n [] (by omega)
  have : natToText n = ds := by simpa [natToText] using h1
  rw [this]; exact ⟨h2, h3, h4⟩

/-! ### splitting at a space (for header injectivity, Props/C03) -/

theorem split_at_first_space (A A' R R' : Text) (hA : (32 : Byte) ∉ A) (hA' : (32 : Byte) ∉ A')
    (h : A ++ 32 :: R = A' ++ 32 :: R') : A = A' ∧ R = R' := by
  -- `A` is the longest space-free prefix of `A ++ ' ' :: R`
  have key : ∀ A R : Text, (32 : Byte) ∉ A → (A ++ 32 :: R).takeWhile (· != 32) = A := by
    intro A R hA
    rw [List.takeWhile_append_of_pos fun a ha => bne_iff_ne.mpr fun (e : a = 32) => hA (e ▸ ha),
      List.takeWhile_cons_of_neg (by decide), List.append_nil]
  have hAA : A = A' := by rw [← key A R hA, h, key A' R' hA']
  subst hAA
  exact ⟨rfl, (List.cons.inj (List.append_cancel_left h)).2⟩

/-- the same read from the end: the LAST space is the separator -/
theorem split_at_last_space (X X' D D' : Text) (hD : (32 : Byte) ∉ D) (hD' : (32 : Byte) ∉ D')
    (h : X ++ 32 :: D = X' ++ 32 :: D') : X = X' ∧ D = D' := by
  have hr : ∀ X D : Text, (X ++ 32 :: D).reverse = D.reverse ++ 32 :: X.reverse := by
    intro X D; simp
  have h' := congrArg List.reverse h
  rw [hr, hr] at h'
  have := split_at_first_space D.reverse D'.reverse X.reverse X'.reverse
    (by simpa using hD) (by simpa using hD') h'
  exact ⟨List.reverse_inj.mp this.2, List.reverse_inj.mp this.1⟩

theorem isDigit_ne_space (c : Byte) (h : IsDigit c) : c ≠ 32 := by
  intro e; subst e; unfold IsDigit at h; exact absurd h (by decide)

/-! ### association lists (Go `map[K]int`) -/

section AL
variable {κ : Type} [DecidableEq κ]

theorem alGet_alSet (m : List (κ × Nat)) (k k' : κ) (v : Nat) :
    alGet (alSet m k v) k' = if k' = k then v else alGet m k' := by
  induction m with
  | nil => simp [alSet, alGet, eq_comm]
  | cons p m ih =>
    obtain ⟨k₀, v₀⟩ := p
    by_cases h : k₀ = k
    · -- the head is overwritten
      subst h
      simp only [alSet, alGet, ↓reduceIte]
      by_cases h' : k₀ = k'
      · rw [if_pos h', if_pos h'.symm]
      · rw [if_neg h', if_neg (Ne.symm h'), if_neg h']
    · -- the head is kept; if it answers the lookup, `k' = k₀ ≠ k`
      simp only [alSet, alGet, if_neg h, ih]
      by_cases h' : k₀ = k'
      · rw [if_pos h', if_neg (h' ▸ h), if_pos h']
      · rw [if_neg h', if_neg h']

theorem alGet_alSet_same (m : List (κ × Nat)) (k : κ) (v : Nat) : alGet (alSet m k v) k = v := by
  rw [alGet_alSet, if_pos rfl]

theorem alGet_alSet_other (m : List (κ × Nat)) (k k' : κ) (v : Nat) (h : k' ≠ k) :
    alGet (alSet m k v) k' = alGet m k' := by
  rw [alGet_alSet, if_neg h]

end AL

/-! ### registries: `regBump`, `endTest`, and the Match* steps -/

theorem regBump_snd (w : World) (k : RegKey) : (regBump w k).2 = alGet w.running k + 1 := rfl

theorem regBump_running_same (w : World) (k : RegKey) :
    alGet (regBump w k).1.running k = alGet w.running k + 1 := by
  simp [regBump, alGet_alSet_same]

theorem regBump_running_other (w : World) (k k' : RegKey) (h : k' ≠ k) :
    alGet (regBump w k).1.running k' = alGet w.running k' := by
  simp [regBump, alGet_alSet_other _ _ _ _ h]

theorem regBump_cleanup_same (w : World) (k : RegKey) :
    alGet (regBump w k).1.cleanup k = alGet w.cleanup k + 1 := by
  simp [regBump, alGet_alSet_same]

theorem regBump_cleanup_other (w : World) (k k' : RegKey) (h : k' ≠ k) :
    alGet (regBump w k).1.cleanup k' = alGet w.cleanup k' := by
  simp [regBump, alGet_alSet_other _ _ _ _ h]

/-- the body of the `endTest` fold -/
def resetStep (w : World) (p : Nat × Pending) : World :=
  match p.2 with
  | .reg k => { w with running := alSet w.running k 0 }
  | .sreg g => { w with srunning := alSet w.srunning g 0 }

theorem endTest_eq (w : World) (texec : Nat) :
    endTest w texec =
      { (w.pending.filter (·.1 = texec)).foldl resetStep w with
        pending := ((w.pending.filter (·.1 = texec)).foldl resetStep w).pending.filter
          (·.1 ≠ texec) } := by
  unfold endTest resetStep; rfl

theorem resetFold_frame (ps : List (Nat × Pending)) (w : World) :
    ∃ r sr, ps.foldl resetStep w = { w with running := r, srunning := sr } := by
  induction ps generalizing w with
  | nil => exact ⟨_, _, rfl⟩
  | cons p ps ih =>
    obtain ⟨r, sr, h⟩ := ih (resetStep w p)
    rw [List.foldl_cons, h]
    unfold resetStep
    split <;> exact ⟨_, _, rfl⟩

theorem endTest_frame (w : World) (texec : Nat) :
    ∃ r sr, endTest w texec =
      { w with running := r, srunning := sr, pending := w.pending.filter (·.1 ≠ texec) } := by
  obtain ⟨r, sr, h⟩ := resetFold_frame (w.pending.filter (·.1 = texec)) w
  rw [endTest_eq, h]
  exact ⟨r, sr, rfl⟩

theorem resetFold_pending (ps : List (Nat × Pending)) (w : World) :
    (ps.foldl resetStep w).pending = w.pending := by
  obtain ⟨_, _, h⟩ := resetFold_frame ps w
  rw [h]

theorem endTest_pending (w : World) (texec : Nat) :
    (endTest w texec).pending = w.pending.filter (·.1 ≠ texec) := by
  obtain ⟨_, _, h⟩ := endTest_frame w texec
  rw [h]

theorem endTest_cleanup (w : World) (texec : Nat) : (endTest w texec).cleanup = w.cleanup := by
  obtain ⟨_, _, h⟩ := endTest_frame w texec
  rw [h]

/-- a fold whose step zeroes an observation on the elements satisfying `P` and keeps it otherwise -/
theorem foldl_zero_or_keep {α β : Type} (step : β → α → β) (f : β → Nat) (P : α → Prop) [DecidablePred P]
    (h : ∀ b a, f (step b a) = if P a then 0 else f b) (l : List α) (b : β) :
    f (l.foldl step b) = if ∃ a ∈ l, P a then 0 else f b := by
  induction l generalizing b with
  | nil => simp
  | cons a l ih =>
    rw [List.foldl_cons, ih, h]
    simp only [List.mem_cons, exists_eq_or_imp]
    by_cases ha : P a <;> by_cases hl : ∃ x ∈ l, P x <;> simp [ha, hl]

theorem resetStep_running (w : World) (p : Nat × Pending) (k : RegKey) :
    alGet (resetStep w p).running k = if p.2 = .reg k then 0 else alGet w.running k := by
  unfold resetStep
  split
  · rename_i k' hk'
    simp only [hk', alGet_alSet, Pending.reg.injEq, @eq_comm _ k k']
  · rename_i g hg
    rw [hg, if_neg Pending.noConfusion]

theorem resetStep_srunning (w : World) (p : Nat × Pending) (g : Text) :
    alGet (resetStep w p).srunning g = if p.2 = .sreg g then 0 else alGet w.srunning g := by
  unfold resetStep
  split
  · rename_i k hk
    rw [hk, if_neg Pending.noConfusion]
  · rename_i g' hg'
    simp only [hg', alGet_alSet, Pending.sreg.injEq, @eq_comm _ g g']

theorem exists_mem_filter_fst (l : List (Nat × Pending)) (x : Nat) (q : Pending) :
    (∃ p ∈ l.filter (·.1 = x), p.2 = q) ↔ (x, q) ∈ l := by
  constructor
  · rintro ⟨⟨t, q⟩, hp, rfl⟩
    obtain ⟨hp, ht⟩ := List.mem_filter.mp hp
    exact of_decide_eq_true ht ▸ hp
  · intro h; exact ⟨_, List.mem_filter.mpr ⟨h, decide_eq_true rfl⟩, rfl⟩

theorem endTest_running (w : World) (texec : Nat) (k : RegKey) :
    alGet (endTest w texec).running k =
      if (texec, Pending.reg k) ∈ w.pending then 0 else alGet w.running k := by
  rw [endTest_eq]
  show alGet (List.foldl resetStep w _).running k = _
  rw [foldl_zero_or_keep resetStep (alGet ·.running k) (·.2 = .reg k) (resetStep_running · · k)]
  simp only [exists_mem_filter_fst]

theorem endTest_srunning (w : World) (texec : Nat) (g : Text) :
    alGet (endTest w texec).srunning g =
      if (texec, Pending.sreg g) ∈ w.pending then 0 else alGet w.srunning g := by
  rw [endTest_eq]
  show alGet (List.foldl resetStep w _).srunning g = _
  rw [foldl_zero_or_keep resetStep (alGet ·.srunning g) (·.2 = .sreg g) (resetStep_srunning · · g)]
  simp only [exists_mem_filter_fst]

/-- the step left every registry and the pending-cleanup list as they were -/
structure SameRegs (w w' : World) : Prop where
  running : w'.running = w.running
  cleanup : w'.cleanup = w.cleanup
  srunning : w'.srunning = w.srunning
  scleanup : w'.scleanup = w.scleanup
  pending : w'.pending = w.pending

theorem handleError_regs (w : World) (msg : Text) : SameRegs w (handleError w msg).1 :=
  ⟨rfl, rfl, rfl, rfl, rfl⟩

theorem Touches.regs {a : Option Text} {w w' : World} {ws : List Text} (h : Touches a w w' ws) :
    SameRegs w w' := by
  cases h <;> exact ⟨rfl, rfl, rfl, rfl, rfl⟩

theorem entryTail_regs (w : World) (c : Cfg) (snapPath rel testID snapshot : Text) (cmp : Cmp) :
    SameRegs w (entryTail w c snapPath rel testID snapshot cmp).1 :=
  (entryTail_touches ..).regs

/-- a multi-entry call is `getTestID`, the registration of the cleanup, and then a step of that
shape at the file the call addresses -/
theorem matchEntry_touches (w : World) (c : Cfg) (caller tName : Text) (texec : Nat) (cmp : Cmp)
    (pre : Except Text Text) :
    let k : RegKey := ((snapshotPath c caller tName false).1, tName)
    Touches (some k.1)
      { (regBump w k).1 with pending := (texec, .reg k) :: w.pending }
      (matchEntry w c caller tName texec cmp pre).1 (matchEntry w c caller tName texec cmp pre).2.writes := by
  unfold matchEntry
  generalize snapshotPath c caller tName false = sp
  obtain ⟨snapPath, rel?⟩ := sp
  dsimp only
  split
  · cases pre with
    | error msg => exact .events _
    | ok s => exact entryTail_touches _ _ _ _ _ _ _
  · exact .events _

/-- the same for a standalone call, whose address (the generic path with the ordinal filled in)
exists when both `sprintf` succeed -/
theorem matchStandalone_touches (w : World) (c : Cfg) (caller tName : Text) (texec : Nat)
    (pre : Except Text Text) :
    let g := (snapshotPath c caller tName true).1
    Touches (sprintf g [.d (alGet w.srunning g + 1)])
      { (sregBump w g).1 with pending := (texec, .sreg g) :: w.pending }
      (matchStandalone w c caller tName texec pre).1 (matchStandalone w c caller tName texec pre).2.writes := by
  unfold matchStandalone
  generalize snapshotPath c caller tName true = sp
  obtain ⟨generic, grel?⟩ := sp
  dsimp only [sregBump]
  split
  · exact .events _
  · split
    · rename_i snapPath rel hsp hrel
      cases pre with
      | error msg => exact .events _
      | ok s => rw [hsp]; exact standaloneTail_touches _ _ _ _ _
    · exact .events _

/-- whatever `pre` is, `matchEntry` leaves the registries exactly as `getTestID` left them,
    and has registered the cleanup for mock T number `texec` -/
theorem matchEntry_regs (w : World) (c : Cfg) (caller tName : Text) (texec : Nat) (cmp : Cmp)
    (pre : Except Text Text) :
    let k : RegKey := ((snapshotPath c caller tName false).1, tName)
    (matchEntry w c caller tName texec cmp pre).1.running = (regBump w k).1.running ∧
    (matchEntry w c caller tName texec cmp pre).1.cleanup = (regBump w k).1.cleanup ∧
    (matchEntry w c caller tName texec cmp pre).1.pending = (texec, Pending.reg k) :: w.pending :=
  have h := (matchEntry_touches w c caller tName texec cmp pre).regs
  ⟨h.running, h.cleanup, h.pending⟩

theorem matchStandalone_regs (w : World) (c : Cfg) (caller tName : Text) (texec : Nat)
    (pre : Except Text Text) :
    let g : Text := (snapshotPath c caller tName true).1
    (matchStandalone w c caller tName texec pre).1.srunning = (sregBump w g).1.srunning ∧
    (matchStandalone w c caller tName texec pre).1.scleanup = (sregBump w g).1.scleanup ∧
    (matchStandalone w c caller tName texec pre).1.pending = (texec, Pending.sreg g) :: w.pending :=
  have h := (matchStandalone_touches w c caller tName texec pre).regs
  ⟨h.srunning, h.scleanup, h.pending⟩

end GoSnaps
