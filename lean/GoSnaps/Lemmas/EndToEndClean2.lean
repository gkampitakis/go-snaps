/-
Model-level helper lemmas for `Props/Tie/EndToEndClean2.lean` (completeness of `Clean`'s report, idempotence
of `Clean` in every mode, `-count > 1`):

Directory listings entry by entry (`mem_readDir_iff`: an entry is listed iff it is the FIRST entry of its name that a
path of the file system contributes; `readDir_lists_file`; `mem_readDir_fsRemove_iff`: `Tie.readDir_fsRemove` for
removed paths INSIDE the directory); the model's `examineFiles` for one registered path without a `-run` filter in
closed form (`examineFiles_one`), what it lists under `JoinFaithful`, and a second one after the obsolete files are
gone (`examineFiles_one_again`); one file step with the entries that remain (`cleanOutcome_holds`); what is
registered after a run (`registered_iff_slot`); histories of closed rounds (`ClosedRound`): every round ends idle,
so the ordinal of a call is its number in its round (`ordinal_le_round`, `ordinal_eq_round`).
-/
import GoSnaps.Lemmas.EndToEndClean
import GoSnaps.Props.Tie.CleanTopIO2
import GoSnaps.Props.C12

namespace GoSnaps.CleanWorld

open GoSnaps GoSnaps.C06Refine GoSnaps.Wld GoSnaps.C01World
open GoSnaps.C03 (testID)
open GoSnaps.Tie (dirPrefix SimpleName JoinFaithful)

/-- the entry a path contributes to the listing of the directory whose prefix is `pre`: the first
    component below the directory, and whether the path goes on after it -/
def dirEnt (pre q : Text) : Option (Text × Bool) :=
  if hasPrefix q pre then
    if (q.drop pre.length).takeWhile (· ≠ slash) = [] then none
    else some ((q.drop pre.length).takeWhile (· ≠ slash),
      decide (((q.drop pre.length).takeWhile (· ≠ slash)).length ≠ (q.drop pre.length).length))
  else none

/-- the entries the paths of a file system contribute, in file-system order, with repetitions -/
def dirEnts (fs : FS) (dir : Text) : List (Text × Bool) := fs.filterMap (fun x => dirEnt (dirPrefix dir) x.1)

theorem readDir_eq_dirEnts (fs : FS) (dir : Text) :
    readDir fs dir = ((dirEnts fs dir).foldl (fun acc e => if acc.any (·.1 = e.1) then acc else acc ++ [e])
      []).foldr (fun x acc => readDir.ins x acc) [] := by
  unfold readDir dirEnts
  simp only
  congr 2

theorem mem_uniq_iff (ents acc : List (Text × Bool)) (e : Text × Bool) :
    e ∈ ents.foldl (fun acc e => if acc.any (·.1 = e.1) then acc else acc ++ [e]) acc ↔
      e ∈ acc ∨ ((∀ a ∈ acc, a.1 ≠ e.1) ∧ ents.find? (fun x => decide (x.1 = e.1)) = some e) := by
  induction ents generalizing acc with
  | nil => simp
  | cons x xs ih =>
    rw [List.foldl_cons, ih]
    by_cases hany : acc.any (·.1 = x.1) = true
    · simp only [hany, ↓reduceIte]
      obtain ⟨a, ha, hax⟩ := List.any_eq_true.mp hany
      simp only [decide_eq_true_eq] at hax
      by_cases hx : x.1 = e.1
      · constructor
        · rintro (h | ⟨h, _⟩)
          · exact Or.inl h
          · exact absurd (hax.trans hx) (h a ha)
        · rintro (h | ⟨h, _⟩)
          · exact Or.inl h
          · exact absurd (hax.trans hx) (h a ha)
      · simp only [List.find?_cons, hx, decide_false]
    · have hno : ∀ a ∈ acc, a.1 ≠ x.1 := by
        intro a ha hax
        exact hany (List.any_eq_true.mpr ⟨a, ha, by simp [hax]⟩)
      simp only [hany, Bool.false_eq_true, ↓reduceIte, List.mem_append, List.mem_singleton]
      by_cases hx : x.1 = e.1
      · simp only [List.find?_cons, hx, decide_true, Option.some.injEq]
        constructor
        · rintro ((h | h) | ⟨h, _⟩)
          · exact Or.inl h
          · subst h; exact Or.inr ⟨hno, rfl⟩
          · exact absurd hx (h x (Or.inr rfl))
        · rintro (h | ⟨_, h⟩)
          · exact Or.inl (Or.inl h)
          · exact Or.inl (Or.inr h.symm)
      · simp only [List.find?_cons, hx, decide_false]
        constructor
        · rintro ((h | h) | ⟨h, h'⟩)
          · exact Or.inl h
          · subst h; exact absurd rfl hx
          · exact Or.inr ⟨fun a ha => h a (Or.inl ha), h'⟩
        · rintro (h | ⟨h, h'⟩)
          · exact Or.inl (Or.inl h)
          · refine Or.inr ⟨?_, h'⟩
            rintro a (ha | ha)
            · exact h a ha
            · subst ha; exact hx

/-- **the listing, entry by entry**: `e` is listed iff it is the first entry of its name among those the
    paths of the file system contribute -/
theorem mem_readDir_iff (fs : FS) (dir : Text) (e : Text × Bool) :
    e ∈ readDir fs dir ↔ (dirEnts fs dir).find? (fun x => decide (x.1 = e.1)) = some e := by
  rw [readDir_eq_dirEnts, (Tie.readDir_sort_perm _).mem_iff, mem_uniq_iff]
  simp

theorem hasPrefix_append (pre r : Text) : hasPrefix (pre ++ r) pre = true := by
  unfold hasPrefix
  exact List.isPrefixOf_iff_prefix.mpr (List.prefix_append _ _)

theorem dirEnt_file (pre n : Text) (hne : n ≠ []) (hns : slash ∉ n) : dirEnt pre (pre ++ n) = some (n, false) := by
  unfold dirEnt
  have hd : (pre ++ n).drop pre.length = n := by simp
  have ht : n.takeWhile (· ≠ slash) = n := by
    have := List.takeWhile_append_of_pos (p := (· ≠ slash)) (l₂ := []) (l₁ := n) (fun a ha => by
      simp only [ne_eq, decide_not, Bool.not_eq_eq_eq_not, Bool.not_true, decide_eq_false_iff_not]
      intro e; exact hns (e ▸ ha))
    simpa using this
  simp only [hasPrefix_append, ↓reduceIte, hd, ht, hne]
  simp

theorem not_slash_mem_takeWhile (t : Text) : slash ∉ t.takeWhile (· ≠ slash) :=
  fun h => by simpa using mem_takeWhile_imp _ _ _ h

theorem takeWhile_slash_cases (t : Text) :
    t.takeWhile (· ≠ slash) = t ∨ ∃ r, t = t.takeWhile (· ≠ slash) ++ slash :: r := by
  induction t with
  | nil => exact Or.inl rfl
  | cons a t ih =>
    by_cases ha : a = slash
    · right; exact ⟨t, by simp [ha]⟩
    · have e : (a :: t).takeWhile (· ≠ slash) = a :: t.takeWhile (· ≠ slash) := by
        simp [ha]
      rw [e]
      rcases ih with h | ⟨r, h⟩
      · left; rw [h]
      · right; exact ⟨r, by rw [List.cons_append, ← h]⟩

theorem dirEnt_some (pre q n : Text) (b : Bool) (h : dirEnt pre q = some (n, b)) :
    n ≠ [] ∧ slash ∉ n ∧ hasPrefix q pre = true ∧ (b = false → q = pre ++ n) ∧
      (b = true → hasPrefix q (pre ++ n ++ [slash]) = true) := by
  unfold dirEnt at h
  cases hp : hasPrefix q pre with
  | false => rw [hp] at h; simp at h
  | true =>
    rw [hp] at h
    simp only [↓reduceIte] at h
    obtain ⟨t, ht⟩ := List.isPrefixOf_iff_prefix.mp hp
    have hd : q.drop pre.length = t := by rw [← ht]; simp
    rw [hd] at h
    generalize hn' : t.takeWhile (· ≠ slash) = n' at h
    split at h
    · cases h
    · rename_i hne
      simp only [Option.some.injEq, Prod.mk.injEq] at h
      obtain ⟨hn, hb⟩ := h
      subst hn
      have hsl : slash ∉ n' := hn' ▸ not_slash_mem_takeWhile t
      refine ⟨hne, hsl, rfl, ?_, ?_⟩
      · intro hb0
        subst hb0
        have hlen : n'.length = t.length := by
          by_cases hl : n'.length = t.length
          · exact hl
          · simp [hl] at hb
        rw [← hn'] at hlen
        have := Tie.takeWhile_eq_self_of_length _ _ hlen
        rw [← ht, ← hn', this]
      · intro hb1
        subst hb1
        have hlen : n'.length ≠ t.length := by
          intro hl
          simp [hl] at hb
        rcases takeWhile_slash_cases t with h1 | ⟨r, h1⟩
        · rw [hn'] at h1
          exact absurd (by rw [h1]) hlen
        · rw [hn'] at h1
          unfold hasPrefix
          apply List.isPrefixOf_iff_prefix.mpr
          refine ⟨r, ?_⟩
          rw [← ht, h1]
          simp

theorem mem_dirEnts (fs : FS) (dir : Text) (e : Text × Bool) :
    e ∈ dirEnts fs dir ↔ ∃ q c, (q, c) ∈ fs ∧ dirEnt (dirPrefix dir) q = some e := by
  unfold dirEnts
  rw [List.mem_filterMap]
  constructor
  · rintro ⟨⟨q, c⟩, hm, he⟩; exact ⟨q, c, hm, he⟩
  · rintro ⟨q, c, hm, he⟩; exact ⟨(q, c), hm, he⟩

theorem mem_of_fsRead_ne_none (fs : FS) (p : Text) (h : fsRead fs p ≠ none) : ∃ c, (p, c) ∈ fs := by
  induction fs with
  | nil => exact absurd rfl h
  | cons kv fs ih =>
    obtain ⟨p', c'⟩ := kv
    by_cases hp : p' = p
    · subst hp; exact ⟨c', by simp⟩
    · simp only [fsRead, hp, ↓reduceIte] at h
      obtain ⟨c, hc⟩ := ih h
      exact ⟨c, List.mem_cons_of_mem _ hc⟩

/-- `p` is not a directory of the file system: no path lies under `p/` -/
def NotDir (fs : FS) (p : Text) : Prop := ∀ q, hasPrefix q (p ++ [slash]) = true → fsRead fs q = none

theorem notDir_of_paths (fs : FS) (p : Text)
    (h : ∀ q ∈ fs.map (·.1), hasPrefix q (p ++ [slash]) = false) : NotDir fs p := by
  intro q hq
  cases hr : fsRead fs q with
  | none => rfl
  | some c =>
    obtain ⟨c', hc⟩ := mem_of_fsRead_ne_none fs q (by rw [hr]; simp)
    have := h q (List.mem_map.mpr ⟨(q, c'), hc, rfl⟩)
    rw [hq] at this
    cases this

/-- **the listing names an existing regular file.**  If `dir/name` exists and is not at the same time a
    directory (no path of the file system lies under `dir/name/`), the listing of `dir` has the entry
    `(name, regular file)`. -/
theorem readDir_lists_file (fs : FS) (dir name : Text) (hne : name ≠ []) (hns : slash ∉ name)
    (hex : fsRead fs (dirPrefix dir ++ name) ≠ none) (hnd : NotDir fs (dirPrefix dir ++ name)) :
    (name, false) ∈ readDir fs dir := by
  rw [mem_readDir_iff]
  obtain ⟨c, hc⟩ := mem_of_fsRead_ne_none fs _ hex
  have hmem : (name, false) ∈ dirEnts fs dir :=
    (mem_dirEnts fs dir _).mpr ⟨_, c, hc, dirEnt_file _ _ hne hns⟩
  cases hf : (dirEnts fs dir).find? (fun x => decide (x.1 = (name, false).1)) with
  | none =>
    have := List.find?_eq_none.mp hf (name, false) hmem
    simp at this
  | some x =>
    have hx := List.find?_some hf
    simp only [decide_eq_true_eq] at hx
    have hxm := List.mem_of_find?_eq_some hf
    obtain ⟨n, b⟩ := x
    simp only at hx
    subst hx
    cases b with
    | false => rfl
    | true =>
      obtain ⟨q, c', hq, hd⟩ := (mem_dirEnts fs dir _).mp hxm
      have := (dirEnt_some _ _ _ _ hd).2.2.2.2 rfl
      exact absurd (hnd q this) (Tie.fsRead_of_mem fs q c' hq)

/-- the first entry of a name is not affected by the removal of a path that contributes no entry of
    that name -/
theorem find_dirEnts_fsRemove (fs : FS) (q dir n : Text)
    (h : ∀ b, dirEnt (dirPrefix dir) q ≠ some (n, b)) :
    (dirEnts (fsRemove fs q) dir).find? (fun x => decide (x.1 = n)) =
      (dirEnts fs dir).find? (fun x => decide (x.1 = n)) := by
  unfold dirEnts fsRemove
  induction fs with
  | nil => rfl
  | cons kv fs ih =>
    obtain ⟨q', c⟩ := kv
    by_cases hq : q' = q
    · subst hq
      simp only [ne_eq, not_true_eq_false, decide_false, Bool.false_eq_true, not_false_eq_true,
        List.filter_cons_of_neg, List.filterMap_cons]
      rw [ih]
      cases hd : dirEnt (dirPrefix dir) q' with
      | none => rfl
      | some e =>
        obtain ⟨n', b⟩ := e
        have hne : ¬ n' = n := fun e' => h b (by rw [hd, e'])
        simp only [List.find?_cons, hne, decide_false]
    · simp only [ne_eq, hq, not_false_eq_true, decide_true, List.filter_cons_of_pos, List.filterMap_cons]
      cases hd : dirEnt (dirPrefix dir) q' with
      | none => exact ih
      | some e =>
        simp only [List.find?_cons]
        split
        · rfl
        · exact ih

/-- **`readDir` after `fsRemove`, generalised** (`Tie.readDir_fsRemove` covers paths outside the directory):
    whatever path `q` is removed — outside `dir`, directly inside it, or deeper — an entry whose name is not
    the component of `q` below `dir` is listed afterwards iff it was listed before -/
theorem mem_readDir_fsRemove_iff (fs : FS) (q dir : Text) (e : Text × Bool)
    (h : ∀ b, dirEnt (dirPrefix dir) q ≠ some (e.1, b)) :
    e ∈ readDir (fsRemove fs q) dir ↔ e ∈ readDir fs dir := by
  rw [mem_readDir_iff, mem_readDir_iff, find_dirEnts_fsRemove fs q dir e.1 h]

theorem mem_readDir_fsRemove_outside (fs : FS) (q dir : Text) (e : Text × Bool)
    (h : hasPrefix q (dirPrefix dir) = false) :
    e ∈ readDir (fsRemove fs q) dir ↔ e ∈ readDir fs dir :=
  mem_readDir_fsRemove_iff fs q dir e (fun b hd => by unfold dirEnt at hd; rw [h] at hd; simp at hd)

/-- a regular file `dir/n` directly inside the directory is removed — every entry
    of another name is listed afterwards iff it was listed before -/
theorem mem_readDir_fsRemove_inside (fs : FS) (dir n : Text) (e : Text × Bool) (hne : n ≠ []) (hns : slash ∉ n)
    (he : e.1 ≠ n) :
    e ∈ readDir (fsRemove fs (dirPrefix dir ++ n)) dir ↔ e ∈ readDir fs dir :=
  mem_readDir_fsRemove_iff fs _ dir e (fun b hd => by
    rw [dirEnt_file _ _ hne hns] at hd
    simp only [Option.some.injEq, Prod.mk.injEq] at hd
    exact he hd.1.symm)

theorem mem_readDir_foldl_fsRemove_iff (qs : List Text) (dir : Text) (e : Text × Bool)
    (h : ∀ q ∈ qs, ∀ b, dirEnt (dirPrefix dir) q ≠ some (e.1, b)) (fs : FS) :
    e ∈ readDir (qs.foldl fsRemove fs) dir ↔ e ∈ readDir fs dir := by
  induction qs generalizing fs with
  | nil => rfl
  | cons q qs ih =>
    rw [List.foldl_cons, ih (fun q' hq' => h q' (by simp [hq'])),
      mem_readDir_fsRemove_iff _ _ _ _ (h q (by simp))]

theorem not_mem_readDir_removed (fs : FS) (qs : List Text) (dir name : Text)
    (h : dirPrefix dir ++ name ∈ qs) : (name, false) ∉ readDir (qs.foldl fsRemove fs) dir := by
  intro hm
  have := Tie.readDir_file_exists _ _ _ hm
  rw [Tie.fsRead_foldl_fsRemove_iff, if_pos h] at this
  exact this rfl

theorem readDir_congr (fs fs' : FS) (dir : Text) (h : fs'.map (·.1) = fs.map (·.1)) :
    readDir fs' dir = readDir fs dir := by
  have hd : ∀ f : FS, dirEnts f dir = (f.map (·.1)).filterMap (dirEnt (dirPrefix dir)) := by
    intro f; unfold dirEnts; rw [List.filterMap_map]; rfl
  rw [readDir_eq_dirEnts, readDir_eq_dirEnts, hd, hd, h]

theorem paths_fsWrite_of_exists (fs : FS) (p c : Text) (h : fsRead fs p ≠ none) :
    (fsWrite fs p c).map (·.1) = fs.map (·.1) := by
  induction fs with
  | nil => exact absurd rfl h
  | cons kv fs ih =>
    obtain ⟨p', c'⟩ := kv
    by_cases hp : p' = p
    · subst hp; simp [fsWrite]
    · simp only [fsRead, hp, ↓reduceIte] at h
      simp only [fsWrite, hp, ↓reduceIte, List.map_cons, ih h]

/-- **the listing after a write**: rewriting an existing file changes no listing -/
theorem readDir_fsWrite_of_exists (fs : FS) (p c dir : Text) (h : fsRead fs p ≠ none) :
    readDir (fsWrite fs p c) dir = readDir fs dir :=
  readDir_congr _ _ _ (paths_fsWrite_of_exists fs p c h)

/-- **the listing after the run's write names the snapshot file**: after `fsWrite` of `dir/name` (existing or
    not) the listing of `dir` has the entry `(name, regular file)`, provided nothing lay under `dir/name/` -/
theorem readDir_fsWrite_lists (fs : FS) (dir name c : Text) (hne : name ≠ []) (hns : slash ∉ name)
    (hnd : NotDir fs (dirPrefix dir ++ name)) :
    (name, false) ∈ readDir (fsWrite fs (dirPrefix dir ++ name) c) dir := by
  apply readDir_lists_file _ _ _ hne hns
  · rw [C19.fsRead_fsWrite_same]; simp
  · intro q hq
    have hqp : q ≠ dirPrefix dir ++ name := by
      intro e
      subst e
      unfold hasPrefix at hq
      have := (List.isPrefixOf_iff_prefix.mp hq).length_le
      simp at this
      omega
    rw [C19.fsRead_fsWrite_other _ _ _ _ hqp]
    exact hnd q hq

def candM (x : Text × Bool) : Bool := !(x.2 || !(containsSub x.1 Generated.snapsExt))

/-- the obsolete files of one listing: candidates whose path is not the registered one -/
def filesObs (p dir : Text) (L : List (Text × Bool)) : List Text :=
  (L.filter (fun x => candM x && !(fpJoin [dir, x.1] == p))).map (fun x => fpJoin [dir, x.1])

/-- the used files of one listing: candidates whose path is the registered one -/
def filesUsed (p dir : Text) (L : List (Text × Bool)) : List Text :=
  (L.filter (fun x => candM x && (fpJoin [dir, x.1] == p))).map (fun x => fpJoin [dir, x.1])

theorem filesInner_fold_one (o : Oracles) (p dir : Text) (update : Bool) (L : List (Text × Bool)) :
    ∀ r : FilesResult, L.foldl (filesInner o [p] [] [] update dir) (some r) =
      some { obsolete := r.obsolete ++ filesObs p dir L, used := r.used ++ filesUsed p dir L,
             fs := if update then (filesObs p dir L).foldl fsRemove r.fs else r.fs,
             removed := r.removed ++ if update then filesObs p dir L else [] } := by
  induction L with
  | nil => intro r; cases update <;> simp [filesObs, filesUsed]
  | cons x L ih =>
    intro r
    rw [List.foldl_cons]
    have hstep : filesInner o [p] [] [] update dir (some r) x =
        some (if candM x then
          if fpJoin [dir, x.1] == p then { r with used := r.used ++ [fpJoin [dir, x.1]] }
          else if update then { r with obsolete := r.obsolete ++ [fpJoin [dir, x.1]],
                                       fs := fsRemove r.fs (fpJoin [dir, x.1]),
                                       removed := r.removed ++ [fpJoin [dir, x.1]] }
          else { r with obsolete := r.obsolete ++ [fpJoin [dir, x.1]] }
        else r) := by
      unfold filesInner candM
      simp only [C08.isFileSkipped_runOnly_empty, List.contains_cons, List.contains_nil, Bool.or_false]
      cases h1 : (x.2 || !containsSub x.1 Generated.snapsExt) <;>
        cases h2 : (fpJoin [dir, x.1] == p) <;> cases update <;> simp
    rw [hstep]
    cases h1 : candM x <;> cases h2 : (fpJoin [dir, x.1] == p) <;> cases update <;>
      simp [ih, filesObs, filesUsed, h1, h2]

theorem dedup_single (x : Text) : dedup [x] = [x] := by simp [dedup]

theorem sortBytes_single (x : Text) : sortBytes [x] = [x] := by simp [sortBytes, sortBytes.ins]

/-- **`examineFiles`, one registered path, no `-run` filter, closed form**: the directory of `p` is listed
    once; the candidates (regular files with `.snap` in their name) whose path is `p` are `used`, the others
    are obsolete and, when `update`, removed -/
theorem examineFiles_one (o : Oracles) (fs : FS) (p : Text) (update : Bool) :
    examineFiles o fs [p] [] [] update =
      some { obsolete := filesObs p (fpDir p) (readDir fs (fpDir p)),
             used := filesUsed p (fpDir p) (readDir fs (fpDir p)),
             fs := if update then (filesObs p (fpDir p) (readDir fs (fpDir p))).foldl fsRemove fs else fs,
             removed := if update then filesObs p (fpDir p) (readDir fs (fpDir p)) else [] } := by
  rw [examineFiles_eq]
  simp only [List.append_nil, List.map_cons, List.map_nil, dedup_single, sortBytes_single, List.foldl_cons,
    List.foldl_nil]
  unfold filesOuter
  simp only
  rw [filesInner_fold_one]
  simp

theorem examineFiles_none (o : Oracles) (fs : FS) (update : Bool) :
    examineFiles o fs [] [] [] update = some { fs := fs } := by
  rw [examineFiles_eq]
  rfl

theorem cleanRegPaths_single (w : World) (p : Text) (hne : w.cleanup ≠ [])
    (hkeys : ∀ kv ∈ w.cleanup, kv.1.1 = p) : cleanRegPaths w = [p] := by
  unfold cleanRegPaths
  obtain ⟨hnd, hmem⟩ := Tie.dedup_spec (w.cleanup.map (·.1.1))
  have hall : ∀ x ∈ dedup (w.cleanup.map (·.1.1)), x = p := by
    intro x hx
    obtain ⟨kv, hkv, rfl⟩ := List.mem_map.mp ((hmem x).mp hx)
    exact hkeys kv hkv
  rcases Tie.nodup_all_eq _ p hnd hall with h | h
  · exfalso
    obtain ⟨kv, hkv⟩ := List.exists_mem_of_ne_nil _ hne
    have : kv.1.1 ∈ dedup (w.cleanup.map (·.1.1)) := (hmem _).mpr (List.mem_map.mpr ⟨kv, hkv, rfl⟩)
    rw [h] at this
    cases this
  · exact h

theorem cleanRegPaths_nil (w : World) (h : w.cleanup = []) : cleanRegPaths w = [] := by
  unfold cleanRegPaths; rw [h]; rfl

theorem cand_simple (fs : FS) (dir : Text) (x : Text × Bool) (hx : x ∈ readDir fs dir) (hc : candM x = true) :
    x.2 = false ∧ SimpleName x.1 := by
  unfold candM at hc
  simp only [Bool.not_eq_true', Bool.or_eq_false_iff, Bool.not_eq_false'] at hc
  obtain ⟨h1, h2⟩ := readDir_name fs dir x hx
  exact ⟨hc.1, h1, h2, Tie.snapsExt_eq ▸ hc.2⟩

theorem candM_of_simple (name : Text) (h : SimpleName name) : candM (name, false) = true := by
  unfold candM
  simp [Tie.snapsExt_eq, h.2.2]

/-- **the obsolete files of a listing**: exactly the regular files `dir/name` of the listing with a simple
    name (`.snap` in it) other than the registered path -/
theorem mem_filesObs_iff (fs : FS) (p : Text) (hj : JoinFaithful (fpDir p)) (q : Text) :
    q ∈ filesObs p (fpDir p) (readDir fs (fpDir p)) ↔
      ∃ name, SimpleName name ∧ (name, false) ∈ readDir fs (fpDir p) ∧
        q = dirPrefix (fpDir p) ++ name ∧ q ≠ p := by
  unfold filesObs
  rw [List.mem_map]
  constructor
  · rintro ⟨x, hx, rfl⟩
    obtain ⟨hxm, hxc⟩ := List.mem_filter.mp hx
    simp only [Bool.and_eq_true, Bool.not_eq_true', beq_eq_false_iff_ne, ne_eq] at hxc
    obtain ⟨hd, hs⟩ := cand_simple fs _ x hxm hxc.1
    refine ⟨x.1, hs, ?_, hj _ hs, hxc.2⟩
    have : x = (x.1, false) := by rw [← hd]
    rw [← this]; exact hxm
  · rintro ⟨name, hs, hm, rfl, hne⟩
    refine ⟨(name, false), List.mem_filter.mpr ⟨hm, ?_⟩, hj _ hs⟩
    simp only [Bool.and_eq_true, Bool.not_eq_true', beq_eq_false_iff_ne, ne_eq]
    exact ⟨candM_of_simple name hs, by rw [hj _ hs]; exact hne⟩

/-- **the used files of a listing**: `p` is used iff it is `dir/name` for a listed regular file of simple name -/
theorem mem_filesUsed_iff (fs : FS) (p : Text) (hj : JoinFaithful (fpDir p)) (q : Text) :
    q ∈ filesUsed p (fpDir p) (readDir fs (fpDir p)) ↔
      q = p ∧ ∃ name, SimpleName name ∧ (name, false) ∈ readDir fs (fpDir p) ∧
        p = dirPrefix (fpDir p) ++ name := by
  unfold filesUsed
  rw [List.mem_map]
  constructor
  · rintro ⟨x, hx, rfl⟩
    obtain ⟨hxm, hxc⟩ := List.mem_filter.mp hx
    simp only [Bool.and_eq_true, beq_iff_eq] at hxc
    obtain ⟨hd, hs⟩ := cand_simple fs _ x hxm hxc.1
    refine ⟨hxc.2, x.1, hs, ?_, by rw [← hj _ hs]; exact hxc.2.symm⟩
    have : x = (x.1, false) := by rw [← hd]
    rw [← this]; exact hxm
  · rintro ⟨rfl, name, hs, hm, hp⟩
    refine ⟨(name, false), List.mem_filter.mpr ⟨hm, ?_⟩, by rw [hj _ hs]; exact hp.symm⟩
    simp only [Bool.and_eq_true, beq_iff_eq]
    exact ⟨candM_of_simple name hs, by rw [hj _ hs]; exact hp.symm⟩

theorem filesUsed_nil_or_single (fs : FS) (p : Text) (hj : JoinFaithful (fpDir p)) :
    filesUsed p (fpDir p) (readDir fs (fpDir p)) = [] ∨ filesUsed p (fpDir p) (readDir fs (fpDir p)) = [p] := by
  apply Tie.nodup_all_eq
  · unfold filesUsed
    apply Tie.nodup_map_of_inj_on (fun x : Text × Bool => fpJoin [fpDir p, x.1]) (fun x : Text × Bool => x.1)
    · exact (List.filter_sublist.map _).nodup (Tie.readDir_names_nodup fs (fpDir p))
    · intro a ha b hb hab
      obtain ⟨ham, hac⟩ := List.mem_filter.mp ha
      obtain ⟨hbm, hbc⟩ := List.mem_filter.mp hb
      simp only [Bool.and_eq_true, beq_iff_eq] at hac hbc
      rw [hj _ (cand_simple fs _ a ham hac.1).2, hj _ (cand_simple fs _ b hbm hbc.1).2] at hab
      exact List.append_cancel_left hab
  · intro q hq
    exact ((mem_filesUsed_iff fs p hj q).mp hq).1

/-- **the snapshot file is examined**: when `p` is `dir/name` with a simple name and the listing names it as a
    regular file, `examineFiles` hands on exactly `[p]` -/
theorem filesUsed_eq_single (fs : FS) (p name : Text) (hj : JoinFaithful (fpDir p)) (hs : SimpleName name)
    (hp : p = dirPrefix (fpDir p) ++ name) (hm : (name, false) ∈ readDir fs (fpDir p)) :
    filesUsed p (fpDir p) (readDir fs (fpDir p)) = [p] := by
  rcases filesUsed_nil_or_single fs p hj with h | h
  · have : p ∈ filesUsed p (fpDir p) (readDir fs (fpDir p)) :=
      (mem_filesUsed_iff fs p hj p).mpr ⟨rfl, name, hs, hm, hp⟩
    rw [h] at this
    cases this
  · exact h

/-- after the obsolete files `R` of the first listing have been removed, an entry whose path is not one of
    them is listed iff it was listed before -/
theorem mem_readDir_after_obs (fs : FS) (p : Text) (hj : JoinFaithful (fpDir p)) (x : Text × Bool)
    (hnot : dirPrefix (fpDir p) ++ x.1 ∉ filesObs p (fpDir p) (readDir fs (fpDir p))) :
    x ∈ readDir ((filesObs p (fpDir p) (readDir fs (fpDir p))).foldl fsRemove fs) (fpDir p) ↔
      x ∈ readDir fs (fpDir p) := by
  apply mem_readDir_foldl_fsRemove_iff
  intro q hq b hd
  obtain ⟨name, hs, _, rfl, _⟩ := (mem_filesObs_iff fs p hj q).mp hq
  rw [dirEnt_file _ _ hs.1 hs.2.1] at hd
  simp only [Option.some.injEq, Prod.mk.injEq] at hd
  exact hnot (hd.1 ▸ hq)

theorem nil_or_single_eq {l l' : List Text} {p : Text} (h : l = [] ∨ l = [p]) (h' : l' = [] ∨ l' = [p])
    (hiff : p ∈ l ↔ p ∈ l') : l = l' := by
  rcases h with h | h <;> rcases h' with h' | h' <;> rw [h, h'] at hiff ⊢ <;> simp at hiff

/-- **the second `examineFiles`.**  Let the first one (one registered path `p`, no `-run` filter) have
    returned `fr`, and let `fs'` have the paths of `fr.fs` (the file system after the removals, the snapshot
    file possibly rewritten in place).  Then the listing of the directory names no obsolete file that the
    first call removed and names `p` iff it did: the second `examineFiles` hands on the same `used` list,
    removes nothing, and reports — in clean mode nothing, otherwise the same files again. -/
theorem examineFiles_one_again (o : Oracles) (fs fs' : FS) (p : Text) (update : Bool)
    (hj : JoinFaithful (fpDir p)) (fr : FilesResult)
    (h : examineFiles o fs [p] [] [] update = some fr) (hpaths : fs'.map (·.1) = fr.fs.map (·.1)) :
    examineFiles o fs' [p] [] [] update =
      some { obsolete := if update then [] else fr.obsolete, used := fr.used, fs := fs', removed := [] } := by
  rw [examineFiles_one] at h ⊢
  simp only [Option.some.injEq] at h
  subst h
  simp only at hpaths ⊢
  rw [readDir_congr _ _ _ hpaths]
  cases update with
  | false => simp
  | true =>
    simp only [↓reduceIte]
    generalize hR : filesObs p (fpDir p) (readDir fs (fpDir p)) = R
    have hRp : p ∉ R := by
      intro hm
      rw [← hR] at hm
      obtain ⟨_, _, _, _, hne⟩ := (mem_filesObs_iff fs p hj p).mp hm
      exact hne rfl
    have hobs : filesObs p (fpDir p) (readDir (R.foldl fsRemove fs) (fpDir p)) = [] := by
      apply List.eq_nil_iff_forall_not_mem.mpr
      intro q hq
      obtain ⟨name, hs, hm, rfl, hne⟩ := (mem_filesObs_iff _ p hj q).mp hq
      by_cases hin : dirPrefix (fpDir p) ++ name ∈ R
      · exact not_mem_readDir_removed fs R (fpDir p) name hin hm
      · have hm' := hm
        rw [← hR] at hm' hin
        rw [mem_readDir_after_obs fs p hj (name, false) hin] at hm'
        exact hin ((mem_filesObs_iff fs p hj _).mpr ⟨name, hs, hm', rfl, hne⟩)
    have hused : filesUsed p (fpDir p) (readDir (R.foldl fsRemove fs) (fpDir p)) =
        filesUsed p (fpDir p) (readDir fs (fpDir p)) := by
      apply nil_or_single_eq (filesUsed_nil_or_single _ p hj) (filesUsed_nil_or_single _ p hj)
      rw [mem_filesUsed_iff _ p hj, mem_filesUsed_iff _ p hj]
      constructor
      · rintro ⟨_, name, hs, hm, hp⟩
        refine ⟨rfl, name, hs, ?_, hp⟩
        rw [← hR] at hm hRp
        exact (mem_readDir_after_obs fs p hj (name, false) (hp ▸ hRp)).mp hm
      · rintro ⟨_, name, hs, hm, hp⟩
        refine ⟨rfl, name, hs, ?_, hp⟩
        rw [← hR] at hRp ⊢
        exact (mem_readDir_after_obs fs p hj (name, false) (hp ▸ hRp)).mpr hm
    rw [hobs, hused]
    simp

/-- **a successful file step, with the entries that remain**: the ids reported are those of the entries the
    step does not keep; afterwards the file holds a `CleanFile` that is a PERMUTATION of the entries kept
    (`K`) — plus the others when `update` is off —, written only when something had to change -/
theorem cleanOutcome_holds (K : Text → Bool) (es : List Entry) (hf : CleanFile es) (p : Text) (fs : FS)
    (update sort : Bool) (obs : List Text) (fs' : FS) (w : List Text)
    (h : cleanOutcome K es p fs update sort = .ok obs fs' w) :
    obs = (es.filter (fun e => !K (tidOf e))).map tidOf ∧
    ∃ es', es'.Perm (es.filter (fun e => K (tidOf e) || !update)) ∧ CleanFile es' ∧
      ((fs' = fs ∧ w = [] ∧ es' = es) ∨ (fs' = fsWrite fs p (render es') ∧ w = [p])) := by
  unfold cleanOutcome at h
  simp only at h
  generalize hids : (if (sort && !(isSortedNat (es.map tidOf))) = true then sortNat (es.map tidOf)
    else es.map tidOf) = ids' at h
  have hperm : ids'.Perm (es.map tidOf) := by
    rw [← hids]
    split
    · exact sortNat_perm _
    · exact List.Perm.refl _
  split at h
  · rename_i hc
    simp only [SnapsOutcome.ok.injEq] at h
    refine ⟨h.1.symm, es, ?_, hf, Or.inl ⟨h.2.1.symm, h.2.2.symm, rfl⟩⟩
    have hall : es.filter (fun e => K (tidOf e) || !update) = es := by
      apply List.filter_eq_self.mpr
      intro e he
      cases hu : update with
      | false => simp
      | true =>
        rw [hu] at hc
        simp only [Bool.true_and, Bool.and_eq_true, Bool.not_eq_true'] at hc
        have := List.any_eq_false.mp hc.1 e he
        simpa using this
    rw [hall]
  · split at h
    · cases h
    · simp only [SnapsOutcome.ok.injEq] at h
      obtain ⟨hf2, _⟩ := cleanFile_reorder es hf (fun e => K (tidOf e) || !update) ids' hperm
      exact ⟨h.1.symm, _, reorder_perm es _ ids' hf.distinct hperm, hf2, Or.inr ⟨h.2.1.symm, h.2.2.symm⟩⟩

/-- **the `examineSnaps` stage of `clean` when exactly the snapshot file `p` is examined**: the ids reported are those of
    the entries the scan does not keep; afterwards `p` holds a well-formed permutation of the kept ones (of all,
    unless updating); every other path reads as after `examineFiles` -/
theorem snaps_single_holds {o : Oracles} {w : World} {sortOpt : Bool} {r : Text} {cnt : Nat} {sa : List Text}
    {fr : FilesResult} {obsT : List Text} {fs2 : FS} {wr : List Text}
    (crun : CleanRun o w sortOpt r cnt sa fr obsT fs2 wr) (p : Text) (es : List Entry) (registered : List Text)
    (hreg : registeredFor w.cleanup p cnt = some registered) (hf : CleanFile es)
    (hcls : ∀ e ∈ es, Classified o registered w.skipped r (tidOf e))
    (hused : fr.used = [p]) (hread : fsRead fr.fs p = some (render es)) :
    obsT = (es.filter (fun e => !keptId o registered w.skipped r (tidOf e))).map tidOf ∧
    ∃ es', fsRead fs2 p = some (render es') ∧ CleanFile es' ∧
      es'.Perm (es.filter (fun e =>
        keptId o registered w.skipped r (tidOf e) || !Generated.cleanSnapsUpdate w.env sortOpt)) ∧
      ∀ q, q ≠ p → fsRead fs2 q = fsRead fr.fs q := by
  have hsn := crun.snaps
  rw [hused, examineSnaps_single o registered w.skipped r fr.fs w.cleanup p cnt _ _ es hf hread hreg hcls] at hsn
  obtain ⟨hobs, es', hperm, hf', hcase⟩ := cleanOutcome_holds _ es hf p fr.fs _ _ obsT fs2 wr hsn
  refine ⟨hobs, es', ?_, hf', hperm, fun q hq => ?_⟩
  · rcases hcase with ⟨h1, _, h3⟩ | ⟨h1, _⟩
    · rw [h1, h3]; exact hread
    · rw [h1]; exact C19.fsRead_fsWrite_same _ _ _
  · rcases hcase with ⟨h1, _, _⟩ | ⟨h1, _⟩
    · rw [h1]
    · rw [h1]; exact C19.fsRead_fsWrite_other _ _ _ _ hq

/-- the ids `occurrences` protects for the calls `seen` of a process run with `-count = cnt`: for a called
    test `t` with quotient `c = (calls of t) / cnt`, the ordinals `1 … c` — and `c` itself, even when it
    is 0 (a test that makes fewer calls than `cnt` registers `t - 0`: what the code does) -/
def SlotId (seen : List Text) (cnt : Nat) (tid : Text) : Prop :=
  ∃ t ∈ seen, ∃ k, tid = t ++ [32, 45, 32] ++ natToText k ∧
    (k = seen.count t / cnt ∨ (1 ≤ k ∧ k ≤ seen.count t / cnt))

/-- the keys of the cleanup registry are pairwise different and are names that were called -/
structure RegExact (w : World) (seen : List Text) : Prop where
  nodup : (w.cleanup.map (·.1)).Nodup
  called : ∀ kv ∈ w.cleanup, kv.1.2 ∈ seen

theorem run_regExact (c : Cfg) (caller : Text) (h : List Step) :
    ∀ (w : World) (seen : List Text), RegExact w seen →
      RegExact (run c caller w h).1 ((calledNames h).reverse ++ seen) := by
  induction h with
  | nil => intro w seen hi; simpa [run, calledNames] using hi
  | cons st h ih =>
    intro w seen hi
    cases st with
    | call t s cmp x =>
      have hstep : RegExact (matchEntry w c caller t x cmp (.ok s)).1 (t :: seen) := by
        obtain ⟨_, h2, _⟩ := matchEntry_regs w c caller t x cmp (.ok s)
        constructor
        · rw [h2]; exact nodup_keys_alSet _ _ _ hi.nodup
        · intro kv hkv
          rw [h2] at hkv
          rcases mem_alSet_imp _ _ _ _ hkv with e | hm
          · rw [e]; simp
          · exact List.mem_cons_of_mem _ (hi.called kv hm)
      have := ih _ _ hstep
      simpa [run, C01World.step, calledNames] using this
    | done x =>
      have hstep : RegExact (endTest w x) seen :=
        ⟨by rw [endTest_cleanup]; exact hi.nodup, fun kv hkv => hi.called kv (by rw [endTest_cleanup] at hkv; exact hkv)⟩
      have := ih _ _ hstep
      simpa [run, C01World.step, calledNames] using this

theorem registered_iff_slot (w : World) (p : Text) (seen : List Text) (cnt : Nat) (registered : List Text)
    (hi : RegInv p w seen) (hx : RegExact w seen)
    (hreg : registeredFor w.cleanup p cnt = some registered) (tid : Text) :
    tid ∈ registered ↔ SlotId seen cnt tid := by
  unfold registeredFor at hreg
  rw [occurrences_eq] at hreg
  obtain ⟨tail, rfl, hs, hc⟩ := occFold_spec _ cnt snapshotOccFmt [] registered hreg
  have hmine : ∀ (t : Text) (n : Nat),
      (t, n) ∈ (w.cleanup.filter (·.1.1 = p)).map (fun (k, n) => (k.2, n)) ↔ ((p, t), n) ∈ w.cleanup := by
    intro t n
    constructor
    · intro hm
      obtain ⟨⟨⟨p', t'⟩, n'⟩, hm2, heq⟩ := List.mem_map.mp hm
      obtain ⟨hm3, hp⟩ := List.mem_filter.mp hm2
      simp only [decide_eq_true_eq] at hp
      simp only [Prod.mk.injEq] at heq
      obtain ⟨rfl, rfl⟩ := heq
      subst hp
      exact hm3
    · intro hm
      exact List.mem_map.mpr ⟨((p, t), n), List.mem_filter.mpr ⟨hm, by simp⟩, rfl⟩
  constructor
  · intro ht
    obtain ⟨⟨t, n⟩, hxm, k, hk, hfmt⟩ := hs tid ht
    have hm := (hmine t n).mp hxm
    have hn : n = seen.count t := by
      rw [← hi.get t]; exact (alGet_of_mem_nodup _ hx.nodup _ _ hm).symm
    subst hn
    rw [snapshotOccFmt_eq] at hfmt
    exact ⟨t, hx.called _ hm, k, (Option.some.inj hfmt).symm, (mem_occKs _ _).mp hk⟩
  · rintro ⟨t, ht, k, rfl, hk⟩
    obtain ⟨tid', hfmt, hm⟩ := hc (t, seen.count t) ((hmine _ _).mpr (hi.mem t ht)) k ((mem_occKs _ _).mpr hk)
    rw [snapshotOccFmt_eq] at hfmt
    exact (Option.some.inj hfmt) ▸ hm

theorem id_eq_testID_of_tid {e : Entry} (hr : Recognised e) {t : Text} {k : Nat}
    (h : tidOf e = t ++ [32, 45, 32] ++ natToText k) : e.id = testID t k := by
  rw [hr.id_eq, h]
  simp [testID]

/-- **every flow leaves every other file alone** (any history, any mode) -/
theorem run_frame (c : Cfg) (caller p rel : Text)
    (hsp : ∀ t, snapshotPath c caller t false = (p, some rel)) (h : List Step) :
    ∀ (w : World) (q : Text), q ≠ p → fsRead (run c caller w h).1.fs q = fsRead w.fs q := by
  induction h with
  | nil => intro w q _; rfl
  | cons st h ih =>
    intro w q hq
    cases st with
    | call t s cmp x =>
      rw [run_call, matchEntry_eq w c caller t x cmp s p rel (hsp t), ih _ q hq, (C12.entryTail_frame _ c p rel _ s cmp).2 q hq, bumped_fs]
    | done x =>
      rw [run_done, ih _ q hq, endTest_fs]

/-- the snapshot file does not become a directory during the run -/
theorem run_notDir (c : Cfg) (caller p rel : Text)
    (hsp : ∀ t, snapshotPath c caller t false = (p, some rel)) (h : List Step) (w : World)
    (hnd : NotDir w.fs p) : NotDir (run c caller w h).1.fs p := by
  intro q hq
  have hqp : q ≠ p := by
    intro e
    subst e
    unfold hasPrefix at hq
    have := (List.isPrefixOf_iff_prefix.mp hq).length_le
    simp at this
    omega
  rw [run_frame c caller p rel hsp h w q hqp]
  exact hnd q hq

/-- a round (one execution of the test functions): every call is followed, in the round, by the end of the
    test execution that made it (`t.Cleanup`) -/
def ClosedRound : List Step → Prop
  | [] => True
  | .call _ _ _ x :: r => Step.done x ∈ r ∧ ClosedRound r
  | .done _ :: r => ClosedRound r

instance decClosedRound : ∀ r : List Step, Decidable (ClosedRound r)
  | [] => isTrue trivial
  | .call _ _ _ x :: r =>
    have := decClosedRound r
    inferInstanceAs (Decidable (Step.done x ∈ r ∧ ClosedRound r))
  | .done _ :: r => decClosedRound r

/-- what is still open in the middle of a round: every running counter that is not 0, and every pending
    cleanup, belongs to a test execution whose end is still to come -/
structure OpenInv (w : World) (r : List Step) : Prop where
  running : ∀ k, alGet w.running k ≠ 0 → ∃ x, (x, Pending.reg k) ∈ w.pending ∧ Step.done x ∈ r
  pending : ∀ e ∈ w.pending, Step.done e.1 ∈ r

/-- a world between two rounds: every running counter is 0, nothing is pending -/
structure Idle (w : World) : Prop where
  running : ∀ k, alGet w.running k = 0
  pending : w.pending = []

theorem Idle.open {w : World} (h : Idle w) (r : List Step) : OpenInv w r :=
  ⟨fun k hk => absurd (h.running k) hk, fun e he => by rw [h.pending] at he; cases he⟩

/-- **a closed round ends idle**: `t.Cleanup` has reset every counter the round bumped -/
theorem run_round_idle (c : Cfg) (caller : Text) (r : List Step) :
    ∀ w : World, ClosedRound r → OpenInv w r → Idle (run c caller w r).1 := by
  induction r with
  | nil =>
    intro w _ hi
    refine ⟨fun k => ?_, ?_⟩
    · by_cases hk : alGet w.running k = 0
      · exact hk
      · obtain ⟨_, _, hm⟩ := hi.running k hk
        cases hm
    · cases hp : w.pending with
      | nil => exact hp
      | cons e es => have := hi.pending e (by rw [hp]; simp); cases this
  | cons st r ih =>
    intro w hcl hi
    cases st with
    | call t s cmp x =>
      rw [run_call]
      apply ih _ hcl.2
      obtain ⟨m1, _, m3⟩ := matchEntry_regs w c caller t x cmp (.ok s)
      constructor
      · intro k hk
        rw [m1] at hk
        rw [m3]
        by_cases hkk : k = ((snapshotPath c caller t false).1, t)
        · subst hkk
          exact ⟨x, by simp, hcl.1⟩
        · rw [regBump_running_other _ _ _ hkk] at hk
          obtain ⟨x', hp, hd⟩ := hi.running k hk
          refine ⟨x', List.mem_cons_of_mem _ hp, ?_⟩
          rcases List.mem_cons.mp hd with e | hd
          · cases e
          · exact hd
      · intro e he
        rw [m3] at he
        rcases List.mem_cons.mp he with rfl | he
        · exact hcl.1
        · rcases List.mem_cons.mp (hi.pending e he) with e' | hd
          · cases e'
          · exact hd
    | done x =>
      rw [run_done]
      apply ih _ hcl
      constructor
      · intro k hk
        rw [endTest_running] at hk
        split at hk
        · exact absurd rfl hk
        · rename_i hnp
          obtain ⟨x', hp, hd⟩ := hi.running k hk
          have hne : x' ≠ x := fun e => hnp (e ▸ hp)
          refine ⟨x', ?_, ?_⟩
          · rw [endTest_pending]
            exact List.mem_filter.mpr ⟨hp, by simpa using hne⟩
          · rcases List.mem_cons.mp hd with e | hd
            · exact absurd (Step.done.inj e) hne
            · exact hd
      · intro e he
        rw [endTest_pending] at he
        obtain ⟨he1, he2⟩ := List.mem_filter.mp he
        simp only [ne_eq, decide_not, Bool.not_eq_eq_eq_not, Bool.not_true, decide_eq_false_iff_not] at he2
        rcases List.mem_cons.mp (hi.pending e he1) with e' | hd
        · exact absurd (Step.done.inj e') he2
        · exact hd

theorem run_rounds_idle (c : Cfg) (caller : Text) (rounds : List (List Step))
    (hcl : ∀ r ∈ rounds, ClosedRound r) : ∀ w : World, Idle w → Idle (run c caller w rounds.flatten).1 := by
  induction rounds with
  | nil => intro w hw; exact hw
  | cons r rs ih =>
    intro w hw
    rw [List.flatten_cons, run_append]
    exact ih (fun r' hr' => hcl r' (by simp [hr'])) _ (run_round_idle c caller r w (hcl r (by simp)) (hw.open r))

/-- a call bumps the running counter of its test by one, the end of a test execution never raises one -/
theorem run_running_le_count (c : Cfg) (caller p : Text)
    (hsp : ∀ t, (snapshotPath c caller t false).1 = p) (h : List Step) (t : Text) :
    ∀ w : World, alGet (run c caller w h).1.running (p, t) ≤
      alGet w.running (p, t) + (calledNames h).count t := by
  induction h with
  | nil => intro w; simp [run, calledNames]
  | cons st h ih =>
    intro w
    cases st with
    | call t' s cmp x =>
      rw [run_call]
      refine Nat.le_trans (ih _) ?_
      obtain ⟨m1, _, _⟩ := matchEntry_regs w c caller t' x cmp (.ok s)
      simp only [hsp] at m1
      rw [m1]
      by_cases ht : t' = t
      · subst ht
        rw [regBump_running_same]
        simp [calledNames]
        omega
      · have hk : (p, t) ≠ (p, t') := fun e => ht (Prod.mk.inj e).2.symm
        rw [regBump_running_other _ _ _ hk]
        simp [calledNames, ht]
    | done x =>
      rw [run_done]
      refine Nat.le_trans (ih _) ?_
      rw [endTest_running]
      simp only [calledNames]
      split <;> omega

/-- **the ordinal of a call in a later round** (`-count > 1`): after any number of closed rounds `R1`, the
    call of `t` that follows `h1` in the current round obtains an ordinal (`running + 1`) that is at most the
    number of calls of `t` in the CURRENT round up to and including itself -/
theorem ordinal_le_round (c : Cfg) (caller p : Text) (hsp : ∀ t, (snapshotPath c caller t false).1 = p)
    (w : World) (hw : Idle w) (R1 : List (List Step)) (hcl : ∀ r ∈ R1, ClosedRound r)
    (h1 : List Step) (t : Text) :
    alGet (run c caller w (R1.flatten ++ h1)).1.running (p, t) + 1 ≤ (calledNames h1).count t + 1 := by
  rw [run_append]
  have hidle := run_rounds_idle c caller R1 hcl w hw
  have := run_running_le_count c caller p hsp h1 t (run c caller w R1.flatten).1
  rw [hidle.running] at this
  omega

theorem run_inv_scoped (c : Cfg) (caller p : Text)
    (hsp : ∀ t, ∃ rel?, snapshotPath c caller t false = (p, rel?)) (h1 h2 : List Step) :
    ∀ (w : World) (past : List (Text × Nat)), Inv p w past (h1 ++ h2) → Scoped past (h1 ++ h2) →
      Inv p (run c caller w h1).1 (pastAfter past h1) h2 := by
  induction h1 with
  | nil => intro w past hi _; exact hi
  | cons st h1 ih =>
    intro w past hi hs
    cases st with
    | call t s cmp x =>
      obtain ⟨rel?, hr⟩ := hsp t
      exact ih _ _ (hi.call c caller rel? hr) hs
    | done x =>
      exact ih _ _ (hi.done hs.1) hs.2

/-- **the ordinal of a call in a later round, exactly**: if the current round is `Scoped` (a test is not
    called again once its execution has ended), the call of `t` that follows `h1` in it obtains EXACTLY the
    ordinal `(calls of t in h1) + 1`: the `k`-th call of `t` in every execution addresses `[t - k]` -/
theorem ordinal_eq_round (c : Cfg) (caller p : Text)
    (hsp : ∀ t, ∃ rel?, snapshotPath c caller t false = (p, rel?))
    (w : World) (hw : Idle w) (R1 : List (List Step)) (hcl : ∀ r ∈ R1, ClosedRound r)
    (h1 h2 : List Step) (t s : Text) (cmp : Cmp) (x : Nat) (hsc : Scoped [] (h1 ++ .call t s cmp x :: h2)) :
    alGet (run c caller w (R1.flatten ++ h1)).1.running (p, t) + 1 = (calledNames h1).count t + 1 := by
  rw [run_append]
  have hidle := run_rounds_idle c caller R1 hcl w hw
  have hinv : Inv p (run c caller w R1.flatten).1 [] (h1 ++ .call t s cmp x :: h2) :=
    ⟨fun t' _ => by rw [hidle.running]; rfl, fun x' k hm => by rw [hidle.pending] at hm; cases hm⟩
  have := (run_inv_scoped c caller p hsp h1 _ _ [] hinv hsc).ord t (by simp [calledNames])
  rw [this, pastAfter_names]
  simp

theorem count_rounds (rounds : List (List Step)) (t : Text) (m : Nat)
    (h : ∀ r ∈ rounds, (calledNames r).count t = m) :
    (calledNames rounds.flatten).count t = rounds.length * m := by
  induction rounds with
  | nil => simp [calledNames]
  | cons r rs ih =>
    rw [List.flatten_cons, calledNames_append, List.count_append, h r (by simp),
      ih (fun r' hr' => h r' (by simp [hr'])), List.length_cons, Nat.succ_mul]
    omega

end GoSnaps.CleanWorld
