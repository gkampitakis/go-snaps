/- Helper lemmas about `Clean` (used by Props/C07 to C10, Lemmas/CleanTop and the ties): `getTestID`, the scan and the
   rewrite of a rendered file, the natural sort, `occurrences`, `examineFiles`, and the file loop of
   `examineSnaps` file by file (`fileRes`, `examineSnaps_go_ok`). -/
import GoSnaps.Clean
import GoSnaps.Lemmas.Format
import GoSnaps.Props.C19
namespace GoSnaps

deriving instance DecidableEq for SnapsOutcome
deriving instance DecidableEq for ScanState
deriving instance DecidableEq for FilesResult

/-- the id `getTestID` extracts from a header line (when it extracts one) -/
def tidOf (e : Entry) : Text := (e.id.drop 1).take (e.id.length - 2)

def Recognised (e : Entry) : Prop := getTestID e.id = some (tidOf e)

instance (e : Entry) : Decidable (Recognised e) := by unfold Recognised; infer_instance

theorem indexOf_go_spec (sep s : Text) (n k : Nat) (h : indexOf.go sep s n = some k) :
    n ≤ k ∧ sep.isPrefixOf (s.drop (k - n)) = true := by
  induction s generalizing n with
  | nil =>
    simp only [indexOf.go] at h
    split at h
    · rename_i hs; cases h; subst hs; simp
    · cases h
  | cons c cs ih =>
    simp only [indexOf.go] at h
    split at h
    · rename_i hp; cases h; simpa using hp
    · obtain ⟨h1, h2⟩ := ih (n + 1) h
      refine ⟨by omega, ?_⟩
      have : k - n = (k - (n + 1)) + 1 := by omega
      rw [this, List.drop_succ_cons]; exact h2

/-- **`getTestID` never panics**: the separator `" - "` ends with a space and the line ends with
    `]`, so `separator + 3 ≤ len(b) - 1` whenever the slice expression is reached -/
theorem getTestIDPanics_false (b : Text) : getTestIDPanics b = false := by
  unfold getTestIDPanics
  cases hi : indexOf b Generated.idSep with
  | none => simp
  | some sep =>
    simp only [Bool.and_eq_false_imp, Bool.and_eq_true, decide_eq_true_eq, decide_eq_false_iff_not,
      and_imp]
    intro _ _ hlast
    have hsep : Generated.idSep = [32, 45, 32] := rfl
    obtain ⟨_, hp⟩ := indexOf_go_spec _ _ _ _ hi
    rw [hsep, Nat.sub_zero] at hp
    obtain ⟨rest, hrest⟩ := List.isPrefixOf_iff_prefix.mp hp
    have hb : b = b.take sep ++ (32 :: 45 :: 32 :: rest) := by
      rw [show (32 : Byte) :: 45 :: 32 :: rest = [32, 45, 32] ++ rest from rfl, hrest,
        List.take_append_drop]
    have hlen : sep + 3 + rest.length ≤ b.length := by
      have := congrArg List.length hrest
      simp only [List.length_append, List.length_cons, List.length_nil, List.length_drop] at this
      omega
    have hne : rest ≠ [] := by
      intro e
      subst e
      rw [hb] at hlast
      simp at hlast
    have : 0 < rest.length := List.length_pos_iff.mpr hne
    rw [hsep]; simp only [List.length_cons, List.length_nil]; omega

theorem any_getTestIDPanics (ls : List Line) : ls.any getTestIDPanics = false := by
  rw [List.any_eq_false]
  intro l _
  simp [getTestIDPanics_false]

theorem getTestID_some {b t : Text} (h : getTestID b = some t) : b = 91 :: t ++ [93] := by
  unfold getTestID at h
  split at h
  · cases h
  · split at h
    · cases h
    · rename_i hne hc
      simp only [Bool.or_eq_true, Bool.not_eq_true', decide_eq_true_eq, not_or,
        Bool.not_eq_false, Decidable.not_not] at hc
      obtain ⟨hpre, hlast⟩ := hc
      split at h
      · cases h
      · rename_i sep hsep
        simp only at h
        split at h
        · cases h
        · rename_i hlo
          split at h
          · cases h
          · simp only [Option.some.injEq] at h
            -- only the first byte of the prefix matters here (`[`), whatever follows it
            obtain ⟨r, hp⟩ : ∃ r, Generated.headerPrefix = 91 :: r := ⟨_, rfl⟩
            obtain ⟨ys, hys⟩ := List.getLast?_eq_some_iff.mp hlast
            subst hys
            cases ys with
            | nil =>
              cases r <;> simp [hasPrefix, hp] at hpre
            | cons y ys' =>
              simp only [hasPrefix, hp, List.cons_append, List.isPrefixOf_cons_cons,
                Bool.and_eq_true, beq_iff_eq] at hpre
              subst h
              simp [← hpre.1]

theorem Recognised.id_eq {e : Entry} (h : Recognised e) : e.id = 91 :: tidOf e ++ [93] :=
  getTestID_some h

theorem Recognised.noPanic {e : Entry} (h : Recognised e) : getTestIDPanics e.id = false :=
  getTestIDPanics_false e.id

theorem recognised_iff (e : Entry) :
    Recognised e ↔ ∃ tid, e.id = 91 :: tid ++ [93] ∧ getTestID e.id = some tid := by
  constructor
  · intro h; exact ⟨tidOf e, h.id_eq, h⟩
  · rintro ⟨tid, hid, h⟩
    unfold Recognised
    rw [h]; congr 1
    simp [tidOf, hid]

section Scan
variable (o : Oracles) (registered skipped : List Text) (runOnly : Text) (update : Bool)

theorem exScan_collect (ls rest : List Line) (id data : Text) (st : ScanState)
    (h : endSeq ∉ ls) :
    exScan o registered skipped runOnly update (ls ++ endSeq :: rest) (.collecting id data) st =
      exScan o registered skipped runOnly update rest .outer
        { st with tests := testsSet st.tests id (data ++ ls.flatMap (· ++ [nl])) } := by
  induction ls generalizing data with
  | nil => simp [exScan]
  | cons l ls ih =>
    have hl : l ≠ endSeq := by intro e; apply h; simp [e]
    have hls : endSeq ∉ ls := by intro e; apply h; simp [e]
    simp [exScan, hl, ih _ hls]

theorem exScan_skip (ls rest : List Line) (st : ScanState) (h : endSeq ∉ ls) :
    exScan o registered skipped runOnly update (ls ++ endSeq :: rest) .skipping st =
      exScan o registered skipped runOnly update rest .outer st := by
  induction ls with
  | nil => simp [exScan]
  | cons l ls ih =>
    have hl : l ≠ endSeq := by intro e; apply h; simp [e]
    have hls : endSeq ∉ ls := by intro e; apply h; simp [e]
    simp [exScan, hl, ih hls]

/-- an id is *kept* by the scan: registered in this run, or protected by the skip rules -/
def keptId (tid : Text) : Bool :=
  registered.contains tid || decide (testSkipped o skipped tid runOnly = some true)

/-- an id is *stale*: not registered and positively not skipped -/
def staleId (tid : Text) : Bool :=
  !registered.contains tid && decide (testSkipped o skipped tid runOnly = some false)

/-- no oracle miss on this id -/
def Classified (tid : Text) : Prop :=
  keptId o registered skipped runOnly tid = true ∨ staleId o registered skipped runOnly tid = true

/-- the effect of one whole entry on the scan state: a kept entry is listed and stored; a stale
    one is listed and reported, and stored too unless `update` (then its body is skipped) -/
def stepEntry (K : Text → Bool) (update : Bool) (st : ScanState) (e : Entry) : ScanState :=
  if K (tidOf e) then
    { st with testIDs := st.testIDs ++ [tidOf e],
              tests := testsSet st.tests (tidOf e) (e.body ++ [nl]) }
  else if update then
    { st with testIDs := st.testIDs ++ [tidOf e], obsolete := st.obsolete ++ [tidOf e],
              hasDiffs := true }
  else
    { st with testIDs := st.testIDs ++ [tidOf e], obsolete := st.obsolete ++ [tidOf e],
              hasDiffs := true, tests := testsSet st.tests (tidOf e) (e.body ++ [nl]) }

theorem exScan_entry (e : Entry) (rest : List Line) (st : ScanState)
    (hrec : Recognised e) (hesc : Escaped e.body)
    (hcls : Classified o registered skipped runOnly (tidOf e)) :
    exScan o registered skipped runOnly update (entryLines e ++ rest) .outer st =
      exScan o registered skipped runOnly update rest .outer
        (stepEntry (keptId o registered skipped runOnly) update st e) := by
  unfold entryLines
  simp only [List.cons_append, List.nil_append, List.append_assoc, exScan,
    show getTestID [] = none from rfl]
  rw [hrec]
  simp only
  unfold stepEntry keptId
  by_cases hreg : registered.contains (tidOf e) = true
  · simp only [hreg, ↓reduceIte, Bool.true_or]
    rw [exScan_collect _ _ _ _ _ _ _ _ _ _ hesc]
    simp [flatMap_lines]
  · simp only [hreg, Bool.false_eq_true, ↓reduceIte, Bool.false_or]
    have hreg' : ¬ tidOf e ∈ registered := by simpa using hreg
    rcases hcls with hk | hs
    · have : testSkipped o skipped (tidOf e) runOnly = some true := by
        simpa [keptId, hreg'] using hk
      simp only [this, decide_true, ↓reduceIte]
      rw [exScan_collect _ _ _ _ _ _ _ _ _ _ hesc]
      simp [flatMap_lines]
    · have : testSkipped o skipped (tidOf e) runOnly = some false := by
        simpa [staleId, hreg'] using hs
      simp only [this]
      cases update with
      | true =>
        simp only [↓reduceIte]
        rw [exScan_skip _ _ _ _ _ _ _ _ hesc]
        simp
      | false =>
        simp only [Bool.false_eq_true, ↓reduceIte]
        rw [exScan_collect _ _ _ _ _ _ _ _ _ _ hesc]
        simp [flatMap_lines]

theorem exScan_fileLines (es : List Entry) (rest : List Line) (st : ScanState)
    (hrec : ∀ e ∈ es, Recognised e) (hesc : ∀ e ∈ es, Escaped e.body)
    (hcls : ∀ e ∈ es, Classified o registered skipped runOnly (tidOf e)) :
    exScan o registered skipped runOnly update (fileLines es ++ rest) .outer st =
      exScan o registered skipped runOnly update rest .outer
        (es.foldl (stepEntry (keptId o registered skipped runOnly) update) st) := by
  induction es generalizing st with
  | nil => simp [fileLines]
  | cons e es ih =>
    have : fileLines (e :: es) ++ rest = entryLines e ++ (fileLines es ++ rest) := by
      simp [fileLines]
    rw [this, exScan_entry o registered skipped runOnly update e _ st (hrec e (by simp))
      (hesc e (by simp)) (hcls e (by simp))]
    rw [ih _ (fun x hx => hrec x (by simp [hx])) (fun x hx => hesc x (by simp [hx]))
      (fun x hx => hcls x (by simp [hx]))]
    simp

def entryPair (e : Entry) : Text × Text := (tidOf e, e.body ++ [nl])

theorem foldl_stepEntry (K : Text → Bool) (es : List Entry) (st : ScanState) :
    es.foldl (stepEntry K update) st =
      { testIDs := st.testIDs ++ es.map tidOf,
        tests := ((es.filter (fun e => K (tidOf e) || !update)).map entryPair).foldl
          (fun m kv => testsSet m kv.1 kv.2) st.tests,
        obsolete := st.obsolete ++ (es.filter (fun e => !K (tidOf e))).map tidOf,
        hasDiffs := st.hasDiffs || es.any (fun e => !K (tidOf e)),
        missing := st.missing } := by
  induction es generalizing st with
  | nil => simp
  | cons e es ih =>
    rw [List.foldl_cons, ih]; unfold stepEntry
    by_cases h : K (tidOf e) = true <;> cases update <;> simp [h, entryPair]

theorem testsSet_fresh (m : List (Text × Text)) (k v : Text) (h : k ∉ m.map (·.1)) :
    testsSet m k v = m ++ [(k, v)] := by
  induction m with
  | nil => simp [testsSet]
  | cons kv m ih =>
    obtain ⟨k', v'⟩ := kv
    have h1 : k' ≠ k := by intro e; apply h; simp [e]
    have h2 : k ∉ m.map (·.1) := by intro e; apply h; simp only [List.map_cons, List.mem_cons]; exact Or.inr e
    simp [testsSet, h1, ih h2]

/-- with distinct keys, replaying the assignments just lists them (Go map with no overwrite) -/
theorem foldl_testsSet_nodup (m kvs : List (Text × Text))
    (h : ((m ++ kvs).map (·.1)).Nodup) :
    kvs.foldl (fun m kv => testsSet m kv.1 kv.2) m = m ++ kvs := by
  induction kvs generalizing m with
  | nil => simp
  | cons kv kvs ih =>
    have hk : kv.1 ∉ m.map (·.1) := by
      simp only [List.map_append, List.map_cons] at h
      have := (List.nodup_append.mp h).2.2
      intro hm
      exact this _ hm _ (by simp) rfl
    rw [List.foldl_cons, testsSet_fresh m kv.1 kv.2 hk]
    have : m ++ [(kv.1, kv.2)] ++ kvs = m ++ kv :: kvs := by simp
    rw [ih _ (by rw [this]; exact h), this]

theorem testsGet_map_entryPair (es : List Entry) (id : Text) :
    testsGet (es.map entryPair) id = (es.find? (fun e => tidOf e == id)).map (fun e => e.body ++ [nl]) := by
  induction es with
  | nil => simp [testsGet]
  | cons e es ih =>
    simp only [List.map_cons, entryPair, testsGet, List.find?_cons]
    by_cases h : tidOf e = id
    · simp [h]
    · simp only [h, ↓reduceIte]
      have : (tidOf e == id) = false := by simpa using h
      rw [this]; simpa [entryPair] using ih

theorem exScan_fileLines_nil (es : List Entry)
    (hrec : ∀ e ∈ es, Recognised e) (hesc : ∀ e ∈ es, Escaped e.body)
    (hcls : ∀ e ∈ es, Classified o registered skipped runOnly (tidOf e)) :
    exScan o registered skipped runOnly update (fileLines es) .outer {} =
      es.foldl (stepEntry (keptId o registered skipped runOnly) update) {} := by
  have := exScan_fileLines o registered skipped runOnly update es [] {} hrec hesc hcls
  simpa [exScan] using this

end Scan

theorem cleanFrame_eq (tid body : Text) :
    cleanFrame tid (body ++ [nl]) = some (frame ⟨91 :: tid ++ [93], body⟩) := by
  have hp : parseFmt Generated.cleanFmt =
      some [.lit [nl, 91], .verb 115, .lit [93, nl], .verb 115, .verb 115, .lit [nl]] := by decide
  have he : Generated.go_endSequence = endSeq := by decide
  simp [cleanFrame, sprintf, hp, fmtPieces, fmtVerb, frame, he]

/-- the frames the rewrite loop of `examineSnaps` emits, one per id -/
def rewriteFrames (tests : List (Text × Text)) (ids : List Text) : List (Option Text) :=
  ids.map (fun id =>
    match testsGet tests id with
    | none => some []
    | some body => cleanFrame id body)

def reorder (es : List Entry) (ids : List Text) : List Entry :=
  ids.filterMap (fun id => es.find? (fun e => tidOf e == id))

theorem rewriteFrames_eq (es : List Entry) (ids : List Text) (hrec : ∀ e ∈ es, Recognised e) :
    rewriteFrames (es.map entryPair) ids =
      ids.map (fun id => some (match es.find? (fun e => tidOf e == id) with
        | none => []
        | some e => frame e)) := by
  unfold rewriteFrames
  apply List.map_congr_left
  intro id _
  rw [testsGet_map_entryPair]
  cases hf : es.find? (fun e => tidOf e == id) with
  | none => simp
  | some e =>
    have hmem : e ∈ es := List.mem_of_find?_eq_some hf
    have hid : tidOf e = id := by simpa using List.find?_some hf
    simp only [Option.map_some]
    rw [cleanFrame_eq, ← hid, ← (hrec e hmem).id_eq]

theorem rewriteFrames_noFail (es : List Entry) (ids : List Text) (hrec : ∀ e ∈ es, Recognised e) :
    (rewriteFrames (es.map entryPair) ids).any (·.isNone) = false := by
  rw [rewriteFrames_eq es ids hrec]; simp

theorem rewriteFrames_bytes (es : List Entry) (ids : List Text) (hrec : ∀ e ∈ es, Recognised e) :
    ((rewriteFrames (es.map entryPair) ids).filterMap (fun x => x)).flatten =
      render (reorder es ids) := by
  rw [rewriteFrames_eq es ids hrec]
  unfold render reorder
  induction ids with
  | nil => simp
  | cons id ids ih =>
    simp only [List.map_cons, List.filterMap_cons, List.flatten_cons, ih]
    cases hf : es.find? (fun e => tidOf e == id) <;> simp

theorem find?_tid_of_mem (es : List Entry) (e : Entry) (hnd : (es.map tidOf).Nodup) (he : e ∈ es) :
    es.find? (fun x => tidOf x == tidOf e) = some e := by
  induction es with
  | nil => cases he
  | cons x xs ih =>
    simp only [List.map_cons, List.nodup_cons] at hnd
    simp only [List.find?_cons]
    rcases List.mem_cons.mp he with rfl | hm
    · simp
    · have : tidOf x ≠ tidOf e := by
        intro h; apply hnd.1; rw [h]; exact List.mem_map_of_mem hm
      have hb : (tidOf x == tidOf e) = false := by simpa using this
      rw [hb]; exact ih hnd.2 hm

theorem tid_inj_of_nodup (es : List Entry) (hnd : (es.map tidOf).Nodup) {a b : Entry}
    (ha : a ∈ es) (hb : b ∈ es) (h : tidOf a = tidOf b) : a = b := by
  have h1 := find?_tid_of_mem es a hnd ha
  have h2 := find?_tid_of_mem es b hnd hb
  rw [h] at h1; rw [h1] at h2; exact Option.some.inj h2

theorem nodup_filter_tid (es : List Entry) (P : Entry → Bool) (hnd : (es.map tidOf).Nodup) :
    ((es.filter P).map tidOf).Nodup :=
  List.Nodup.sublist (List.Sublist.map tidOf List.filter_sublist) hnd

theorem find?_filter_tid (es : List Entry) (P : Entry → Bool) (e : Entry)
    (hnd : (es.map tidOf).Nodup) (he : e ∈ es) :
    (es.filter P).find? (fun x => tidOf x == tidOf e) = if P e then some e else none := by
  by_cases hp : P e = true
  · simp only [hp, ↓reduceIte]
    exact find?_tid_of_mem _ e (nodup_filter_tid es P hnd) (List.mem_filter.mpr ⟨he, hp⟩)
  · simp only [hp, Bool.false_eq_true, ↓reduceIte]
    rw [List.find?_eq_none]
    intro x hx hxe
    have hx' := List.mem_filter.mp hx
    have : x = e := tid_inj_of_nodup es hnd hx'.1 he (by simpa using hxe)
    rw [this] at hx'; exact hp hx'.2

theorem filterMap_congr_mem {α β : Type} (l : List α) (f g : α → Option β)
    (h : ∀ a ∈ l, f a = g a) : l.filterMap f = l.filterMap g := by
  induction l with
  | nil => rfl
  | cons a l ih =>
    simp only [List.filterMap_cons, h a (by simp)]
    rw [ih (fun x hx => h x (by simp [hx]))]

theorem reorder_filter_self (es : List Entry) (P : Entry → Bool) (hnd : (es.map tidOf).Nodup) :
    reorder (es.filter P) (es.map tidOf) = es.filter P := by
  unfold reorder
  rw [List.filterMap_map]
  have : ∀ e ∈ es, ((fun id => (es.filter P).find? (fun x => tidOf x == id)) ∘ tidOf) e =
      (fun e => if P e then some e else none) e := by
    intro e he; exact find?_filter_tid es P e hnd he
  rw [filterMap_congr_mem _ _ _ this]
  clear this hnd
  induction es with
  | nil => rfl
  | cons e es ih => by_cases h : P e = true <;> simp [h, ih]

theorem reorder_self (es : List Entry) (hnd : (es.map tidOf).Nodup) :
    reorder es (es.map tidOf) = es := by
  have := reorder_filter_self es (fun _ => true) hnd
  have h : es.filter (fun _ => true) = es := List.filter_eq_self.mpr (fun _ _ => rfl)
  rwa [h] at this

/-- for any permutation of the id list, the selected entries are a permutation of the kept
    entries: a rewrite neither loses nor duplicates nor alters a kept entry -/
theorem reorder_perm (es : List Entry) (P : Entry → Bool) (ids : List Text)
    (hnd : (es.map tidOf).Nodup) (hperm : ids.Perm (es.map tidOf)) :
    (reorder (es.filter P) ids).Perm (es.filter P) := by
  have h := List.Perm.filterMap (fun id => (es.filter P).find? (fun x => tidOf x == id)) hperm
  have h2 := reorder_filter_self es P hnd
  unfold reorder at h2 ⊢
  rw [h2] at h; exact h

theorem mem_reorder {es : List Entry} {ids : List Text} {x : Entry} (h : x ∈ reorder es ids) :
    x ∈ es ∧ tidOf x ∈ ids := by
  unfold reorder at h
  obtain ⟨id, hid, hf⟩ := List.mem_filterMap.mp h
  refine ⟨List.mem_of_find?_eq_some hf, ?_⟩
  have : tidOf x = id := by simpa using List.find?_some hf
  rw [this]; exact hid

theorem map_tidOf_reorder (es : List Entry) (ids : List Text) :
    (reorder es ids).map tidOf = ids.filter (fun id => (es.find? (fun e => tidOf e == id)).isSome) := by
  unfold reorder
  induction ids with
  | nil => rfl
  | cons id ids ih =>
    simp only [List.filterMap_cons, List.filter_cons]
    cases hf : es.find? (fun e => tidOf e == id) with
    | none => simpa using ih
    | some e =>
      have : tidOf e = id := by simpa using List.find?_some hf
      simp [ih, this]

theorem tids_reorder_sublist (es : List Entry) (ids : List Text) :
    ((reorder es ids).map tidOf).Sublist ids := by
  rw [map_tidOf_reorder]; exact List.filter_sublist

/-- the files the Clean theorems are about: `render es` with every header recognised by
    `getTestID`, distinct ids, escaped bodies, scanner-clean lines (C01.WF).  (No hypothesis
    about `getTestIDPanics` is needed: `getTestIDPanics_false`.) -/
structure CleanFile (es : List Entry) : Prop where
  idNoNL : ∀ e ∈ es, NoNL e.id
  noCR : ∀ l ∈ fileLines es, NoCRLine l
  recognised : ∀ e ∈ es, Recognised e
  escaped : ∀ e ∈ es, Escaped e.body
  distinct : (es.map tidOf).Nodup

theorem mem_fileLines {es : List Entry} {l : Line} :
    l ∈ fileLines es ↔ ∃ e ∈ es, l ∈ entryLines e := by
  simp only [fileLines, List.mem_flatten, List.mem_map]
  constructor
  · rintro ⟨_, ⟨e, he, rfl⟩, hl⟩; exact ⟨e, he, hl⟩
  · rintro ⟨e, he, hl⟩; exact ⟨_, ⟨e, he, rfl⟩, hl⟩

theorem CleanFile.of_subset {es es' : List Entry} (h : CleanFile es) (hsub : ∀ x ∈ es', x ∈ es)
    (hnd : (es'.map tidOf).Nodup) : CleanFile es' where
  idNoNL e he := h.idNoNL e (hsub e he)
  noCR l hl := by
    obtain ⟨e, he, hle⟩ := mem_fileLines.mp hl
    exact h.noCR l (mem_fileLines.mpr ⟨e, hsub e he, hle⟩)
  recognised e he := h.recognised e (hsub e he)
  escaped e he := h.escaped e (hsub e he)
  distinct := hnd

theorem CleanFile.filter {es : List Entry} (h : CleanFile es) (P : Entry → Bool) :
    CleanFile (es.filter P) :=
  h.of_subset (fun _ hx => (List.mem_filter.mp hx).1) (nodup_filter_tid es P h.distinct)

/-- the ids registered for file `p` in this run (what `occurrences(registry[p], …)` returns) -/
def registeredFor (cleanup : List (RegKey × Nat)) (p : Text) (count : Nat) : Option (List Text) :=
  occurrences ((cleanup.filter (·.1.1 = p)).map (fun (k, n) => (k.2, n))) count snapshotOccFmt

theorem examineSnaps_go_nil (o : Oracles) (cleanup : List (RegKey × Nat)) (skipped : List Text)
    (runOnly : Text) (count : Nat) (update sort : Bool) (fs : FS) (obs written : List Text) :
    examineSnaps.go o cleanup skipped runOnly count update sort [] fs obs written =
      .ok obs fs written := by
  simp [examineSnaps.go]

theorem examineSnaps_go_cons (o : Oracles) (cleanup : List (RegKey × Nat)) (skipped : List Text)
    (runOnly : Text) (count : Nat) (update sort : Bool) (p : Text) (rest : List Text) (fs : FS)
    (obs written : List Text) :
    examineSnaps.go o cleanup skipped runOnly count update sort (p :: rest) fs obs written =
      match fsRead fs p with
      | none => .badFormat
      | some content =>
        match registeredFor cleanup p count with
        | none => .badFormat
        | some registered =>
          let ls := scan content
          if ls.any getTestIDPanics then .panics else
          let st := exScan o registered skipped runOnly update ls .outer {}
          if st.missing then .missingOracle else
          let shouldSort := sort && !(isSortedNat st.testIDs)
          let shouldUpdate := update && st.hasDiffs
          if !shouldUpdate && !shouldSort then
            examineSnaps.go o cleanup skipped runOnly count update sort rest fs (obs ++ st.obsolete) written
          else
            let ids := if shouldSort then sortNat st.testIDs else st.testIDs
            if shouldSort && !(allPairsOrdered ids && pairwiseComparable ids) then .unsupportedOrder else
            let frames := rewriteFrames st.tests ids
            if frames.any (·.isNone) then .badFormat else
            examineSnaps.go o cleanup skipped runOnly count update sort rest
              (fsWrite fs p (frames.filterMap (fun x => x)).flatten) (obs ++ st.obsolete)
              (written ++ [p]) := by
  rw [examineSnaps.go]
  rfl

theorem CleanFile.scan_render {es : List Entry} (h : CleanFile es) :
    scan (render es) = fileLines es := GoSnaps.scan_render es h.idNoNL h.noCR

section Single
variable (o : Oracles) (registered skipped : List Text) (runOnly : Text)

theorem exScan_cleanFile (update : Bool) (es : List Entry) (hf : CleanFile es)
    (hcls : ∀ e ∈ es, Classified o registered skipped runOnly (tidOf e)) :
    exScan o registered skipped runOnly update (scan (render es)) .outer {} =
      { testIDs := es.map tidOf,
        tests := (es.filter (fun e => keptId o registered skipped runOnly (tidOf e) || !update)).map
          entryPair,
        obsolete := (es.filter (fun e => !keptId o registered skipped runOnly (tidOf e))).map tidOf,
        hasDiffs := es.any (fun e => !keptId o registered skipped runOnly (tidOf e)),
        missing := false } := by
  rw [hf.scan_render, exScan_fileLines_nil o registered skipped runOnly update es hf.recognised
    hf.escaped hcls, foldl_stepEntry, foldl_testsSet_nodup]
  · simp
  · simp only [List.nil_append, List.map_map]
    exact nodup_filter_tid es _ hf.distinct

/-- the closed form of one `examineSnaps` iteration on a `CleanFile`; `K` = kept.  The entries
    written back are the stored ones (`K || !update`), along the (possibly sorted) id list. -/
def cleanOutcome (K : Text → Bool) (es : List Entry) (p : Text) (fs : FS) (update sort : Bool) :
    SnapsOutcome :=
  let ids := es.map tidOf
  let stale := (es.filter (fun e => !K (tidOf e))).map tidOf
  let shouldSort := sort && !(isSortedNat ids)
  let shouldUpdate := update && es.any (fun e => !K (tidOf e))
  if !shouldUpdate && !shouldSort then .ok stale fs []
  else
    let ids' := if shouldSort then sortNat ids else ids
    if shouldSort && !(allPairsOrdered ids' && pairwiseComparable ids') then .unsupportedOrder
    else .ok stale (fsWrite fs p (render (reorder (es.filter (fun e => K (tidOf e) || !update)) ids'))) [p]

theorem examineSnaps_go_cons_clean (fs : FS) (cleanup : List (RegKey × Nat)) (p : Text) (rest : List Text) (count : Nat)
    (update sort : Bool) (obs written : List Text) (es : List Entry) (hf : CleanFile es)
    (hread : fsRead fs p = some (render es))
    (hreg : registeredFor cleanup p count = some registered)
    (hcls : ∀ e ∈ es, Classified o registered skipped runOnly (tidOf e)) :
    examineSnaps.go o cleanup skipped runOnly count update sort (p :: rest) fs obs written =
      match cleanOutcome (keptId o registered skipped runOnly) es p fs update sort with
      | .ok st fs1 w1 =>
        examineSnaps.go o cleanup skipped runOnly count update sort rest fs1 (obs ++ st) (written ++ w1)
      | x => x := by
  have hnp := any_getTestIDPanics (scan (render es))
  rw [examineSnaps_go_cons]
  simp only [hread, hreg, hnp, exScan_cleanFile o registered skipped runOnly update es hf hcls]
  have hrec : ∀ e ∈ es.filter (fun e => keptId o registered skipped runOnly (tidOf e) || !update),
      Recognised e :=
    fun e he => hf.recognised e (List.mem_filter.mp he).1
  simp only [rewriteFrames_noFail _ _ hrec, rewriteFrames_bytes _ _ hrec]
  unfold cleanOutcome
  simp only [Bool.false_eq_true, ↓reduceIte]
  generalize (if (sort && !(isSortedNat (es.map tidOf))) = true then sortNat (es.map tidOf)
    else es.map tidOf) = ids'
  split
  · simp
  · split <;> rfl

theorem examineSnaps_single (fs : FS) (cleanup : List (RegKey × Nat)) (p : Text) (count : Nat)
    (update sort : Bool) (es : List Entry) (hf : CleanFile es)
    (hread : fsRead fs p = some (render es))
    (hreg : registeredFor cleanup p count = some registered)
    (hcls : ∀ e ∈ es, Classified o registered skipped runOnly (tidOf e)) :
    examineSnaps o fs cleanup skipped [p] runOnly count update sort =
      cleanOutcome (keptId o registered skipped runOnly) es p fs update sort := by
  unfold examineSnaps
  rw [examineSnaps_go_cons_clean o registered skipped runOnly fs cleanup p [] count update sort [] []
    es hf hread hreg hcls]
  cases cleanOutcome (keptId o registered skipped runOnly) es p fs update sort <;>
    simp [examineSnaps_go_nil]

end Single

/-- `x` may stand before `y`: `naturalSort(y, x) < 0` is false -/
def NatLe (x y : Text) : Prop := natLt y x = false

/-- `natLt`, restricted to the elements of `l`, is a strict total order.  Irreflexivity holds
    unconditionally (`natLt_irrefl`), so only transitivity and totality are hypotheses. -/
structure TotalOn (l : List Text) : Prop where
  trans : ∀ a ∈ l, ∀ b ∈ l, ∀ c ∈ l, natLt a b = true → natLt b c = true → natLt a c = true
  total : ∀ a ∈ l, ∀ b ∈ l, a ≠ b → natLt a b = true ∨ natLt b a = true

theorem natLt_irrefl (a : Text) : natLt a a = false := by simp [natLt]

theorem TotalOn.mono {l l' : List Text} (h : TotalOn l) (hsub : ∀ x ∈ l', x ∈ l) : TotalOn l' where
  trans a ha b hb c hc := h.trans a (hsub a ha) b (hsub b hb) c (hsub c hc)
  total a ha b hb := h.total a (hsub a ha) b (hsub b hb)

theorem TotalOn.perm {l l' : List Text} (h : TotalOn l) (hp : l.Perm l') : TotalOn l' :=
  h.mono (fun _ hx => hp.mem_iff.mpr hx)

theorem TotalOn.asymm {l : List Text} (h : TotalOn l) {a b : Text} (ha : a ∈ l) (hb : b ∈ l)
    (hab : natLt a b = true) : natLt b a = false := by
  cases hba : natLt b a with
  | false => rfl
  | true =>
    have := h.trans a ha b hb a ha hab hba
    rw [natLt_irrefl] at this; cases this

theorem TotalOn.le_trans {l : List Text} (h : TotalOn l) {a b c : Text} (ha : a ∈ l) (hb : b ∈ l)
    (hc : c ∈ l) (hab : NatLe a b) (hbc : NatLe b c) : NatLe a c := by
  unfold NatLe at *
  cases hca : natLt c a with
  | false => rfl
  | true =>
    exfalso
    by_cases e1 : a = b
    · subst e1; rw [hca] at hbc; cases hbc
    · by_cases e2 : b = c
      · subst e2; rw [hca] at hab; cases hab
      · have h1 : natLt a b = true := by
          rcases h.total a ha b hb e1 with h | h
          · exact h
          · rw [h] at hab; cases hab
        have h2 : natLt b c = true := by
          rcases h.total b hb c hc e2 with h | h
          · exact h
          · rw [h] at hbc; cases hbc
        have h3 := h.trans a ha b hb c hc h1 h2
        have h4 := h.trans a ha c hc a ha h3 hca
        rw [natLt_irrefl] at h4; cases h4

theorem allPairsOrdered_iff (l : List Text) : allPairsOrdered l = true ↔ l.Pairwise NatLe := by
  induction l with
  | nil => simp [allPairsOrdered]
  | cons x l ih =>
    simp only [allPairsOrdered, Bool.and_eq_true, List.all_eq_true, Bool.not_eq_true', ih,
      List.pairwise_cons, NatLe]

def Comparable (x y : Text) : Prop := x = y ∨ natLt x y = true ∨ natLt y x = true

theorem Comparable.symm {x y : Text} (h : Comparable x y) : Comparable y x := by
  rcases h with h | h | h
  · exact Or.inl h.symm
  · exact Or.inr (Or.inr h)
  · exact Or.inr (Or.inl h)

theorem pairwiseComparable_iff (l : List Text) :
    pairwiseComparable l = true ↔ l.Pairwise Comparable := by
  induction l with
  | nil => simp [pairwiseComparable]
  | cons x l ih =>
    simp only [pairwiseComparable, Bool.and_eq_true, List.all_eq_true, Bool.or_eq_true,
      decide_eq_true_eq, ih, List.pairwise_cons, Comparable, or_assoc]

theorem pairwiseComparable_of_totalOn (l : List Text) (ht : TotalOn l) :
    pairwiseComparable l = true := by
  rw [pairwiseComparable_iff]
  induction l with
  | nil => exact List.Pairwise.nil
  | cons x l ih =>
    rw [List.pairwise_cons]
    refine ⟨?_, ih (ht.mono (fun z hz => by simp [hz]))⟩
    intro y hy
    by_cases e : x = y
    · exact Or.inl e
    · exact Or.inr (ht.total x (by simp) y (by simp [hy]) e)

theorem pairwiseComparable_perm {l₁ l₂ : List Text} (hp : l₁.Perm l₂) :
    pairwiseComparable l₁ = pairwiseComparable l₂ := by
  have := hp.pairwise_iff (R := Comparable) (fun h => h.symm)
  rw [← pairwiseComparable_iff, ← pairwiseComparable_iff] at this
  cases h1 : pairwiseComparable l₁ <;> cases h2 : pairwiseComparable l₂ <;> simp_all

theorem pairwiseComparable_sublist {l₁ l₂ : List Text} (hs : l₁.Sublist l₂)
    (h : pairwiseComparable l₂ = true) : pairwiseComparable l₁ = true :=
  (pairwiseComparable_iff _).mpr (List.Pairwise.sublist hs ((pairwiseComparable_iff _).mp h))

theorem insertNat_perm (x : Text) (l : List Text) : (insertNat x l).Perm (x :: l) := by
  induction l with
  | nil => simp [insertNat]
  | cons y ys ih =>
    simp only [insertNat]
    split
    · exact (List.Perm.cons y ih).trans (List.Perm.swap x y ys)
    · exact List.Perm.refl _

theorem sortNat_perm (l : List Text) : (sortNat l).Perm l := by
  induction l with
  | nil => exact List.Perm.refl _
  | cons x l ih =>
    have : sortNat (x :: l) = insertNat x (sortNat l) := rfl
    rw [this]
    exact (insertNat_perm x _).trans (List.Perm.cons x ih)

theorem insertNat_pairwise (x : Text) (l : List Text) (ht : TotalOn (x :: l))
    (hl : l.Pairwise NatLe) : (insertNat x l).Pairwise NatLe := by
  induction l with
  | nil => simp [insertNat]
  | cons y ys ih =>
    have hx : x ∈ x :: y :: ys := by simp
    have hy : y ∈ x :: y :: ys := by simp
    rw [List.pairwise_cons] at hl
    simp only [insertNat]
    split
    · rename_i hyx
      rw [List.pairwise_cons]
      refine ⟨?_, ih (ht.mono (by intro z hz; simp at hz ⊢; rcases hz with h | h <;> simp [h])) hl.2⟩
      intro z hz
      rcases List.mem_cons.mp ((insertNat_perm x ys).mem_iff.mp hz) with rfl | hz'
      · exact ht.asymm hy hx hyx
      · exact hl.1 z hz'
    · rename_i hyx
      have hyx' : NatLe x y := by simpa [NatLe] using hyx
      rw [List.pairwise_cons]
      refine ⟨?_, List.pairwise_cons.mpr hl⟩
      intro z hz
      rcases List.mem_cons.mp hz with rfl | hz'
      · exact hyx'
      · exact ht.le_trans hx hy (by simp [hz']) hyx' (hl.1 z hz')

theorem sortNat_pairwise (l : List Text) (ht : TotalOn l) : (sortNat l).Pairwise NatLe := by
  induction l with
  | nil => simp [sortNat]
  | cons x l ih =>
    have : sortNat (x :: l) = insertNat x (sortNat l) := rfl
    rw [this]
    apply insertNat_pairwise
    · exact ht.perm (List.Perm.cons x (sortNat_perm l).symm)
    · exact ih (ht.mono (fun z hz => by simp [hz]))

/-- under `TotalOn` the check `examineSnaps` makes after sorting always passes -/
theorem sort_check_passes (l : List Text) (ht : TotalOn l) :
    (allPairsOrdered (sortNat l) && pairwiseComparable (sortNat l)) = true := by
  rw [Bool.and_eq_true]
  exact ⟨(allPairsOrdered_iff _).mpr (sortNat_pairwise l ht),
    pairwiseComparable_of_totalOn _ (ht.perm (sortNat_perm l).symm)⟩

theorem pairwise_perm_unique (l₁ l₂ : List Text) (ht : TotalOn l₁) (hp : l₁.Perm l₂)
    (h₁ : l₁.Pairwise NatLe) (h₂ : l₂.Pairwise NatLe) : l₁ = l₂ := by
  induction l₁ generalizing l₂ with
  | nil => exact (List.Perm.nil_eq hp)
  | cons a t₁ ih =>
    cases l₂ with
    | nil => exact absurd hp.symm.nil_eq (by simp)
    | cons b t₂ =>
      rw [List.pairwise_cons] at h₁ h₂
      have hab : a = b := by
        by_cases e : a = b
        · exact e
        · exfalso
          have ha : a ∈ t₂ := by
            have : a ∈ b :: t₂ := hp.mem_iff.mp (by simp)
            rcases List.mem_cons.mp this with h | h
            · exact absurd h e
            · exact h
          have hb : b ∈ t₁ := by
            have : b ∈ a :: t₁ := hp.mem_iff.mpr (by simp)
            rcases List.mem_cons.mp this with h | h
            · exact absurd h.symm e
            · exact h
          have r1 : natLt a b = false := h₂.1 a ha
          have r2 : natLt b a = false := h₁.1 b hb
          rcases ht.total a (by simp) b (by simp [hb]) e with h | h
          · rw [h] at r1; cases r1
          · rw [h] at r2; cases r2
      subst hab
      rw [ih t₂ (ht.mono (fun z hz => by simp [hz])) (List.Perm.cons_inv hp) h₁.2 h₂.2]

theorem isSortedNat_of_pairwise (l : List Text) (h : l.Pairwise NatLe) : isSortedNat l = true := by
  induction l with
  | nil => simp [isSortedNat]
  | cons a l ih =>
    cases l with
    | nil => simp [isSortedNat]
    | cons b rest =>
      rw [List.pairwise_cons] at h
      simp only [isSortedNat, Bool.and_eq_true, Bool.not_eq_true']
      exact ⟨h.1 b (by simp), ih h.2⟩

theorem pairwise_of_isSortedNat (l : List Text) (ht : TotalOn l) (h : isSortedNat l = true) :
    l.Pairwise NatLe := by
  induction l with
  | nil => simp
  | cons a l ih =>
    cases l with
    | nil => simp
    | cons b rest =>
      simp only [isSortedNat, Bool.and_eq_true, Bool.not_eq_true'] at h
      have ih' := ih (ht.mono (fun z hz => by simp [hz])) h.2
      rw [List.pairwise_cons]
      refine ⟨?_, ih'⟩
      intro z hz
      rcases List.mem_cons.mp hz with rfl | hz'
      · exact h.1
      · rw [List.pairwise_cons] at ih'
        exact ht.le_trans (by simp) (by simp) (by simp [hz']) h.1 (ih'.1 z hz')

theorem filter_eq_nil_of_any_false {α : Type} (l : List α) (P : α → Bool) (h : l.any P = false) :
    l.filter P = [] := by
  rw [List.filter_eq_nil_iff]
  intro a ha hp
  rw [List.any_eq_false] at h
  exact h a ha hp

theorem rewrite_ids_perm (sort : Bool) (ids : List Text) :
    (if (sort && !(isSortedNat ids)) = true then sortNat ids else ids).Perm ids := by
  split
  · exact sortNat_perm _
  · exact List.Perm.refl _

theorem rewrite_ids_pairwise (ids : List Text) (ht : TotalOn ids) :
    (if isSortedNat ids = true then ids else sortNat ids).Pairwise NatLe := by
  split
  · rename_i h; exact pairwise_of_isSortedNat ids ht h
  · exact sortNat_pairwise ids ht

theorem cleanFile_reorder (es : List Entry) (hf : CleanFile es) (P : Entry → Bool)
    (ids' : List Text) (hperm : ids'.Perm (es.map tidOf)) :
    CleanFile (reorder (es.filter P) ids') ∧ ∀ e ∈ reorder (es.filter P) ids', e ∈ es ∧ P e = true := by
  have hsub : ∀ e ∈ reorder (es.filter P) ids', e ∈ es ∧ P e = true :=
    fun e he => List.mem_filter.mp (mem_reorder he).1
  have hnd : ((reorder (es.filter P) ids').map tidOf).Nodup :=
    List.Nodup.sublist (tids_reorder_sublist _ ids') ((hperm.nodup_iff).mpr hf.distinct)
  exact ⟨hf.of_subset (fun e he => (hsub e he).1) hnd, hsub⟩

section Second
variable (o : Oracles) (registered skipped : List Text) (runOnly : Text)

/-- the closed form of the file step on a file that was just rewritten from `es` along `ids'`:
    nothing is written; what is still stale (only possible in report-only mode) is reported again -/
theorem cleanOutcome_after_rewrite (es : List Entry) (hf : CleanFile es) (p : Text) (fs : FS)
    (update sort : Bool) (K : Text → Bool) (ids' : List Text)
    (hperm : ids'.Perm (es.map tidOf)) (hsorted : sort = true → ids'.Pairwise NatLe) :
    let es2 := reorder (es.filter (fun e => K (tidOf e) || !update)) ids'
    CleanFile es2 ∧ (∀ e ∈ es2, e ∈ es) ∧
      cleanOutcome K es2 p (fsWrite fs p (render es2)) update sort =
        .ok ((es2.filter (fun e => !K (tidOf e))).map tidOf) (fsWrite fs p (render es2)) [] ∧
      (update = true → es2.filter (fun e => !K (tidOf e)) = []) := by
  intro es2
  obtain ⟨hf2, hsub⟩ := cleanFile_reorder es hf (fun e => K (tidOf e) || !update) ids' hperm
  have hsl := tids_reorder_sublist (es.filter (fun e => K (tidOf e) || !update)) ids'
  have hupd : update = true → es2.any (fun e => !K (tidOf e)) = false := by
    intro hu
    rw [List.any_eq_false]
    intro e he
    have := (hsub e he).2
    simp only [hu, Bool.not_true, Bool.or_false] at this
    simp [this]
  have hany : (update && es2.any (fun e => !K (tidOf e))) = false := by
    cases hu : update with
    | false => rfl
    | true => simp [hupd hu]
  have hsort : (sort && !(isSortedNat (es2.map tidOf))) = false := by
    cases sort with
    | false => rfl
    | true =>
      have : isSortedNat (es2.map tidOf) = true :=
        isSortedNat_of_pairwise _ (List.Pairwise.sublist hsl (hsorted rfl))
      simp [this]
  refine ⟨hf2, fun e he => (hsub e he).1, ?_, fun hu => filter_eq_nil_of_any_false _ _ (hupd hu)⟩
  unfold cleanOutcome
  simp only [hany, hsort, Bool.not_false, Bool.and_self, ↓reduceIte]

theorem examineSnaps_second_run (fs : FS) (cleanup : List (RegKey × Nat)) (p : Text) (count : Nat)
    (update sort : Bool) (es : List Entry) (hf : CleanFile es)
    (hread : fsRead fs p = some (render es))
    (hreg : registeredFor cleanup p count = some registered)
    (hcls : ∀ e ∈ es, Classified o registered skipped runOnly (tidOf e))
    (hto : sort = true → TotalOn (es.map tidOf))
    (obs : List Text) (fs' : FS) (w : List Text)
    (hfirst : examineSnaps o fs cleanup skipped [p] runOnly count update sort = .ok obs fs' w) :
    ∃ obs', examineSnaps o fs' cleanup skipped [p] runOnly count update sort = .ok obs' fs' [] ∧
      (update = true → obs' = []) ∧ (update = false → obs'.Perm obs) := by
  have hfirst0 := hfirst
  rw [examineSnaps_single o registered skipped runOnly fs cleanup p count update sort es hf hread
    hreg hcls] at hfirst
  unfold cleanOutcome at hfirst
  simp only at hfirst
  generalize hids : (if (sort && !(isSortedNat (es.map tidOf))) = true then sortNat (es.map tidOf)
    else es.map tidOf) = ids' at hfirst
  split at hfirst
  · -- the first run did not touch the file: the second run sees the same file
    rename_i hc
    simp only [SnapsOutcome.ok.injEq] at hfirst
    obtain ⟨hobs, hfs, hw⟩ := hfirst
    subst hfs hw
    refine ⟨obs, hfirst0, ?_, fun _ => List.Perm.refl _⟩
    intro hu
    subst hu
    have hany : es.any (fun e => !keptId o registered skipped runOnly (tidOf e)) = false := by
      cases h : es.any (fun e => !keptId o registered skipped runOnly (tidOf e)) with
      | false => rfl
      | true => simp [h] at hc
    rw [← hobs, filter_eq_nil_of_any_false _ _ hany]; rfl
  · split at hfirst
    · cases hfirst
    · rename_i hc hord
      simp only [SnapsOutcome.ok.injEq] at hfirst
      obtain ⟨hobs, hfs, hw⟩ := hfirst
      have hperm : ids'.Perm (es.map tidOf) := hids ▸ rewrite_ids_perm sort _
      have hsorted : sort = true → ids'.Pairwise NatLe := by
        intro hs
        subst hs
        rw [← hids]
        have := rewrite_ids_pairwise (es.map tidOf) (hto rfl)
        by_cases h : isSortedNat (es.map tidOf) = true <;> simpa [h] using this
      obtain ⟨hf2, hsub, hout, hnil⟩ := cleanOutcome_after_rewrite es hf p fs update sort
        (keptId o registered skipped runOnly) _ hperm hsorted
      refine ⟨((reorder (es.filter (fun e => keptId o registered skipped runOnly (tidOf e) || !update))
        ids').filter (fun e => !keptId o registered skipped runOnly (tidOf e))).map tidOf, ?_,
        fun hu => by rw [hnil hu]; rfl, ?_⟩
      · rw [← hfs]
        rw [examineSnaps_single o registered skipped runOnly _ cleanup p count update sort _ hf2
          (C19.fsRead_fsWrite_same _ _ _) hreg (fun e he => hcls e (hsub e he))]
        exact hout
      · intro hu
        subst hu
        rw [← hobs]
        have hall : es.filter (fun e => keptId o registered skipped runOnly (tidOf e) || !false) = es :=
          List.filter_eq_self.mpr (fun _ _ => by simp)
        have := reorder_perm es (fun e => keptId o registered skipped runOnly (tidOf e) || !false)
          ids' hf.distinct hperm
        rw [hall] at this ⊢
        exact (this.filter _).map _

end Second

/-- the ordinals `occurrences` formats for a quotient `c = counter / count` -/
def occKs (c : Nat) : List Nat := (if c > 1 then (List.range c).map (· + 1) else []) ++ [c]

theorem mem_occKs (c k : Nat) : k ∈ occKs c ↔ k = c ∨ (1 ≤ k ∧ k ≤ c) := by
  unfold occKs
  split
  · simp only [List.mem_append, List.mem_map, List.mem_range, List.mem_singleton]
    constructor
    · rintro (⟨a, ha, rfl⟩ | h)
      · right; omega
      · left; exact h
    · rintro (h | ⟨h1, h2⟩)
      · right; exact h
      · left; exact ⟨k - 1, by omega, by omega⟩
  · simp only [List.nil_append, List.mem_singleton]
    constructor
    · intro h; left; exact h
    · rintro (h | ⟨h1, h2⟩)
      · exact h
      · omega

def occStep (count : Nat) (fmt : Text → Nat → Option Text) (acc : Option (List Text))
    (x : Text × Nat) : Option (List Text) :=
  match acc with
  | none => none
  | some r =>
    let all := (occKs (x.2 / count)).map (fmt x.1)
    if all.any (·.isNone) then none else some (r ++ all.filterMap (fun x => x))

theorem occurrences_eq (tests : List (Text × Nat)) (count : Nat) (fmt : Text → Nat → Option Text) :
    occurrences tests count fmt = tests.foldl (occStep count fmt) (some []) := rfl

theorem foldl_none {α β : Type} (f : Option α → β → Option α) (hnone : ∀ x, f none x = none)
    (xs : List β) : xs.foldl f none = none := by
  induction xs with
  | nil => rfl
  | cons x xs ih => rw [List.foldl_cons, hnone, ih]

theorem occFold_spec (tests : List (Text × Nat)) (count : Nat) (fmt : Text → Nat → Option Text)
    (r r' : List Text) (h : tests.foldl (occStep count fmt) (some r) = some r') :
    ∃ tail, r' = r ++ tail ∧
      (∀ t ∈ tail, ∃ x ∈ tests, ∃ k ∈ occKs (x.2 / count), fmt x.1 k = some t) ∧
      (∀ x ∈ tests, ∀ k ∈ occKs (x.2 / count), ∃ t, fmt x.1 k = some t ∧ t ∈ tail) := by
  induction tests generalizing r with
  | nil =>
    simp only [List.foldl_nil, Option.some.injEq] at h
    exact ⟨[], by simp [h], by simp, by simp⟩
  | cons x xs ih =>
    rw [List.foldl_cons] at h
    by_cases hany : ((occKs (x.2 / count)).map (fmt x.1)).any (·.isNone) = true
    · have : occStep count fmt (some r) x = none := by simp only [occStep, hany, ↓reduceIte]
      rw [this, foldl_none _ (fun _ => rfl)] at h; cases h
    · have hstep : occStep count fmt (some r) x =
          some (r ++ ((occKs (x.2 / count)).map (fmt x.1)).filterMap (fun x => x)) := by
        simp only [occStep, hany, Bool.false_eq_true, ↓reduceIte]
      rw [hstep] at h
      obtain ⟨tail, rfl, hs, hc⟩ := ih _ h
      have hall : ∀ k ∈ occKs (x.2 / count), ∃ t, fmt x.1 k = some t := by
        intro k hk
        cases hf : fmt x.1 k with
        | some t => exact ⟨t, rfl⟩
        | none =>
          exfalso; apply hany
          rw [List.any_eq_true]
          exact ⟨none, List.mem_map.mpr ⟨k, hk, hf⟩, rfl⟩
      refine ⟨((occKs (x.2 / count)).map (fmt x.1)).filterMap (fun x => x) ++ tail, by simp, ?_, ?_⟩
      · intro t ht
        rcases List.mem_append.mp ht with h1 | h1
        · obtain ⟨a, ha, hat⟩ := List.mem_filterMap.mp h1
          obtain ⟨k, hk, hka⟩ := List.mem_map.mp ha
          exact ⟨x, by simp, k, hk, by rw [hka, hat]⟩
        · obtain ⟨y, hy, k, hk, hf⟩ := hs t h1
          exact ⟨y, by simp [hy], k, hk, hf⟩
      · intro y hy k hk
        rcases List.mem_cons.mp hy with rfl | hy'
        · obtain ⟨t, ht⟩ := hall k hk
          refine ⟨t, ht, List.mem_append.mpr (Or.inl ?_)⟩
          exact List.mem_filterMap.mpr ⟨some t, List.mem_map.mpr ⟨k, hk, ht⟩, rfl⟩
        · obtain ⟨t, ht, hm⟩ := hc y hy' k hk
          exact ⟨t, ht, List.mem_append.mpr (Or.inr hm)⟩

theorem snapshotOccFmt_eq (s : Text) (i : Nat) :
    snapshotOccFmt s i = some (s ++ [32, 45, 32] ++ natToText i) := by
  have hp : parseFmt Generated.occFmt = some [.verb 115, .lit [32, 45, 32], .verb 100] := by decide
  simp [snapshotOccFmt, sprintf, hp, fmtPieces, fmtVerb]

theorem foldl_opt_inv {α β : Type} (f : Option α → β → Option α) (hnone : ∀ x, f none x = none)
    (P : α → Prop) (xs : List β)
    (hstep : ∀ a x a', x ∈ xs → P a → f (some a) x = some a' → P a')
    (a a' : α) (ha : P a) (h : xs.foldl f (some a) = some a') : P a' := by
  induction xs generalizing a with
  | nil => simp only [List.foldl_nil, Option.some.injEq] at h; exact h ▸ ha
  | cons x xs ih =>
    rw [List.foldl_cons] at h
    cases hf : f (some a) x with
    | none =>
      rw [hf] at h
      rw [foldl_none f hnone] at h; cases h
    | some b =>
      rw [hf] at h
      exact ih (fun a x a' hx => hstep a x a' (by simp [hx])) b
        (hstep a x b (by simp) ha hf) h

theorem mem_takeWhile_imp {α : Type} (p : α → Bool) (l : List α) (x : α)
    (h : x ∈ l.takeWhile p) : p x = true := by
  induction l with
  | nil => simp at h
  | cons a l ih =>
    simp only [List.takeWhile_cons] at h
    split at h
    · rcases List.mem_cons.mp h with rfl | h'
      · assumption
      · exact ih h'
    · simp at h

-- the insertion sorts of `readDir` and `sortBytes` only permute

namespace Tie

theorem readDir_ins_perm (x : Text × Bool) (l : List (Text × Bool)) : (readDir.ins x l).Perm (x :: l) := by
  induction l with
  | nil => exact List.Perm.refl _
  | cons y ys ih =>
    simp only [readDir.ins]
    split
    · exact ((List.Perm.cons y ih).trans (List.Perm.swap x y ys))
    · exact List.Perm.refl _

theorem readDir_sort_perm (l : List (Text × Bool)) : (l.foldr (fun x acc => readDir.ins x acc) []).Perm l := by
  induction l with
  | nil => exact List.Perm.refl _
  | cons x xs ih =>
    rw [List.foldr_cons]
    exact (readDir_ins_perm x _).trans (List.Perm.cons x ih)

end Tie

theorem sortBytes_ins_perm (x : Text) (l : List Text) : (sortBytes.ins x l).Perm (x :: l) := by
  induction l with
  | nil => exact List.Perm.refl _
  | cons y ys ih =>
    simp only [sortBytes.ins]
    split
    · exact ((List.Perm.cons y ih).trans (List.Perm.swap x y ys))
    · exact List.Perm.refl _

theorem sortBytes_perm (l : List Text) : (sortBytes l).Perm l := by
  unfold sortBytes
  induction l with
  | nil => exact List.Perm.refl _
  | cons x xs ih =>
    rw [List.foldr_cons]
    exact (sortBytes_ins_perm x _).trans (List.Perm.cons x ih)

theorem uniq_sub (ents acc : List (Text × Bool)) (e : Text × Bool)
    (h : e ∈ ents.foldl (fun acc e => if acc.any (·.1 = e.1) then acc else acc ++ [e]) acc) : e ∈ acc ∨ e ∈ ents := by
  induction ents generalizing acc with
  | nil => exact Or.inl h
  | cons x xs ih =>
    rw [List.foldl_cons] at h
    rcases ih _ h with h' | h'
    · split at h'
      · exact Or.inl h'
      · rcases List.mem_append.mp h' with h'' | h''
        · exact Or.inl h''
        · simp only [List.mem_singleton] at h''; exact Or.inr (by simp [h''])
    · exact Or.inr (by simp [h'])

/-- an entry of a listing comes from a file below `dir/`: its name is the first component of the
    rest of that path, and it stands for a directory iff more of the path follows -/
theorem mem_readDir {fs : FS} {dir : Text} {e : Text × Bool} (h : e ∈ readDir fs dir) :
    ∃ p c rest, (p, c) ∈ fs ∧ p = (if dir = [slash] then dir else dir ++ [slash]) ++ rest ∧
      e.1 = rest.takeWhile (· ≠ slash) ∧ e.1 ≠ [] ∧ e.2 = decide (e.1.length ≠ rest.length) := by
  unfold readDir at h
  simp only at h
  generalize (if dir = [slash] then dir else dir ++ [slash]) = pre at h ⊢
  -- sorting and dropping duplicates only select among the candidate entries
  rcases uniq_sub _ _ _ ((Tie.readDir_sort_perm _).mem_iff.mp h) with h' | h'
  · cases h'
  obtain ⟨⟨p, c⟩, hmem, hpc⟩ := List.mem_filterMap.mp h'
  simp only at hpc
  split at hpc
  · rename_i hpre
    obtain ⟨t, ht⟩ := List.isPrefixOf_iff_prefix.mp hpre
    have hd : p.drop pre.length = t := by rw [← ht]; simp
    rw [hd] at hpc
    split at hpc
    · cases hpc
    · rename_i hne
      cases hpc
      exact ⟨p, c, t, hmem, ht.symm, rfl, hne, rfl⟩
  · cases hpc

theorem readDir_name (fs : FS) (dir : Text) (e : Text × Bool) (h : e ∈ readDir fs dir) :
    e.1 ≠ [] ∧ slash ∉ e.1 := by
  obtain ⟨_, _, rest, _, _, hn, hne, _⟩ := mem_readDir h
  exact ⟨hne, fun hm => by rw [hn] at hm; simpa using mem_takeWhile_imp _ _ _ hm⟩

theorem mem_dedup (l : List Text) (x : Text) (h : x ∈ dedup l) : x ∈ l := by
  unfold dedup at h
  have : ∀ (l acc : List Text), x ∈ l.foldl (fun acc x => if acc.contains x then acc else acc ++ [x]) acc →
      x ∈ acc ∨ x ∈ l := by
    intro l
    induction l with
    | nil => intro acc h; left; simpa using h
    | cons a l ih =>
      intro acc h
      rw [List.foldl_cons] at h
      rcases ih _ h with h' | h'
      · split at h'
        · left; exact h'
        · rcases List.mem_append.mp h' with h'' | h''
          · left; exact h''
          · right; simp only [List.mem_singleton] at h''; simp [h'']
      · right; simp [h']
  rcases this l [] h with h' | h'
  · simp at h'
  · exact h'

def filesInner (o : Oracles) (regPaths standalone : List Text) (runOnly : Text) (update : Bool)
    (dir : Text) (acc : Option FilesResult) (x : Text × Bool) : Option FilesResult :=
  match acc with
  | none => none
  | some r =>
    if x.2 || !(containsSub x.1 Generated.snapsExt) then some r
    else
      let p := fpJoin [dir, x.1]
      if regPaths.contains p then some { r with used := r.used ++ [p] }
      else if standalone.contains p then some r
      else match isFileSkipped o dir x.1 runOnly with
        | none => none
        | some true => some r
        | some false =>
          if update then
            some { r with obsolete := r.obsolete ++ [p], fs := fsRemove r.fs p, removed := r.removed ++ [p] }
          else some { r with obsolete := r.obsolete ++ [p] }

def filesOuter (o : Oracles) (regPaths standalone : List Text) (runOnly : Text) (update : Bool)
    (acc : Option FilesResult) (dir : Text) : Option FilesResult :=
  match acc with
  | none => none
  | some r0 =>
    (readDir r0.fs dir).foldl (filesInner o regPaths standalone runOnly update dir) (some r0)

theorem examineFiles_eq (o : Oracles) (fs : FS) (regPaths standalone : List Text) (runOnly : Text)
    (update : Bool) :
    examineFiles o fs regPaths standalone runOnly update =
      (sortBytes (dedup ((regPaths ++ standalone).map fpDir))).foldl
        (filesOuter o regPaths standalone runOnly update) (some { fs := fs }) := rfl

theorem filesInner_cases (o : Oracles) (regPaths standalone : List Text) (runOnly : Text)
    (update : Bool) (dir : Text) (r r' : FilesResult) (x : Text × Bool)
    (h : filesInner o regPaths standalone runOnly update dir (some r) x = some r') :
    r' = r ∨
    (fpJoin [dir, x.1] ∈ regPaths ∧ r' = { r with used := r.used ++ [fpJoin [dir, x.1]] }) ∨
    (containsSub x.1 Generated.snapsExt = true ∧ fpJoin [dir, x.1] ∉ regPaths ∧
      fpJoin [dir, x.1] ∉ standalone ∧
      r' = if update then { r with obsolete := r.obsolete ++ [fpJoin [dir, x.1]],
                                   fs := fsRemove r.fs (fpJoin [dir, x.1]),
                                   removed := r.removed ++ [fpJoin [dir, x.1]] }
           else { r with obsolete := r.obsolete ++ [fpJoin [dir, x.1]] }) := by
  unfold filesInner at h
  simp only at h
  by_cases h1 : (x.2 || !containsSub x.1 Generated.snapsExt) = true
  · rw [if_pos h1] at h; exact Or.inl (Option.some.inj h).symm
  rw [if_neg h1] at h
  by_cases h2 : regPaths.contains (fpJoin [dir, x.1]) = true
  · rw [if_pos h2] at h; exact Or.inr (Or.inl ⟨List.contains_iff_mem.mp h2, (Option.some.inj h).symm⟩)
  rw [if_neg h2] at h
  by_cases h3 : standalone.contains (fpJoin [dir, x.1]) = true
  · rw [if_pos h3] at h; exact Or.inl (Option.some.inj h).symm
  rw [if_neg h3] at h
  cases h4 : isFileSkipped o dir x.1 runOnly with
  | none => rw [h4] at h; cases h
  | some b =>
    rw [h4] at h
    cases b with
    | true => exact Or.inl (Option.some.inj h).symm
    | false =>
      refine Or.inr (Or.inr ⟨(by simpa using h1 : _ ∧ _).2, by simpa using h2, by simpa using h3, ?_⟩)
      simp only at h
      cases update <;> exact (Option.some.inj h).symm
/-- a path `examineFiles` may report / remove: a `.snap`-named entry directly inside a visited
    directory that is neither a registered file nor a registered standalone snapshot -/
def Orphan (regPaths standalone : List Text) (p : Text) : Prop :=
  ∃ dir ∈ (regPaths ++ standalone).map fpDir, ∃ name,
    p = fpJoin [dir, name] ∧ containsSub name Generated.snapsExt = true ∧
    name ≠ [] ∧ slash ∉ name ∧ p ∉ regPaths ∧ p ∉ standalone

structure FilesInv (fs : FS) (regPaths standalone : List Text) (update : Bool) (r : FilesResult) : Prop where
  fs_eq : r.fs = r.removed.foldl fsRemove fs
  removed_eq : r.removed = if update then r.obsolete else []
  orphan : ∀ p ∈ r.obsolete, Orphan regPaths standalone p

theorem filesInner_inv (o : Oracles) (fs : FS) (regPaths standalone : List Text) (runOnly : Text)
    (update : Bool) (dir : Text) (hdir : dir ∈ (regPaths ++ standalone).map fpDir)
    (r r' : FilesResult) (x : Text × Bool) (hx : x.1 ≠ [] ∧ slash ∉ x.1)
    (hr : FilesInv fs regPaths standalone update r)
    (h : filesInner o regPaths standalone runOnly update dir (some r) x = some r') :
    FilesInv fs regPaths standalone update r' := by
  have happ : ∀ p, Orphan regPaths standalone p → ∀ q ∈ r.obsolete ++ [p], Orphan regPaths standalone q := by
    intro p hp q hq
    rcases List.mem_append.mp hq with h' | h'
    · exact hr.orphan q h'
    · rw [List.mem_singleton.mp h']; exact hp
  rcases filesInner_cases o regPaths standalone runOnly update dir r r' x h with rfl | ⟨_, rfl⟩ | ⟨hc, hreg, hsa, rfl⟩
  · exact hr
  · exact ⟨hr.fs_eq, hr.removed_eq, hr.orphan⟩
  · have horph : Orphan regPaths standalone (fpJoin [dir, x.1]) :=
      ⟨dir, hdir, x.1, rfl, hc, hx.1, hx.2, hreg, hsa⟩
    cases update
    · exact ⟨hr.fs_eq, by simp [hr.removed_eq], happ _ horph⟩
    · exact ⟨by simp [List.foldl_append, hr.fs_eq], by simp [hr.removed_eq], happ _ horph⟩

theorem examineFiles_inv (o : Oracles) (fs : FS) (regPaths standalone : List Text) (runOnly : Text)
    (update : Bool) (r : FilesResult)
    (h : examineFiles o fs regPaths standalone runOnly update = some r) :
    FilesInv fs regPaths standalone update r := by
  rw [examineFiles_eq] at h
  refine foldl_opt_inv (filesOuter o regPaths standalone runOnly update) (fun _ => rfl)
    (FilesInv fs regPaths standalone update) _ ?_ { fs := fs } r ?_ h
  · intro a dir a' hdir ha hstep
    have hdir' : dir ∈ (regPaths ++ standalone).map fpDir := mem_dedup _ _ ((sortBytes_perm _).mem_iff.mp hdir)
    unfold filesOuter at hstep
    simp only at hstep
    refine foldl_opt_inv (filesInner o regPaths standalone runOnly update dir) (fun _ => rfl)
      (FilesInv fs regPaths standalone update) _ ?_ a a' ha hstep
    intro b x b' hx hb hs
    exact filesInner_inv o fs regPaths standalone runOnly update dir hdir' b b' x
      (readDir_name _ _ x hx) hb hs
  · exact ⟨rfl, by simp, by simp⟩

theorem fsRead_fsRemove (fs : FS) (p q : Text) :
    fsRead (fsRemove fs p) q = if q = p then none else fsRead fs q := by
  unfold fsRemove
  induction fs with
  | nil => simp [fsRead]
  | cons kv fs ih =>
    obtain ⟨p', c⟩ := kv
    by_cases h1 : p' = p
    · subst h1
      by_cases h2 : q = p'
      · subst h2; simpa [List.filter_cons] using ih
      · have h3 : ¬ p' = q := fun e => h2 e.symm
        simp only [List.filter_cons, ne_eq, not_true_eq_false, decide_false, Bool.false_eq_true,
          ↓reduceIte, fsRead, h3, ih, h2]
    · simp only [List.filter_cons, ne_eq, h1, not_false_eq_true, decide_true, ↓reduceIte, fsRead, ih]
      by_cases h2 : p' = q
      · subst h2; simp [h1]
      · simp [h2]

theorem fsRead_foldl_fsRemove (fs : FS) (ps : List Text) (q : Text) (hq : q ∉ ps) :
    fsRead (ps.foldl fsRemove fs) q = fsRead fs q := by
  induction ps generalizing fs with
  | nil => rfl
  | cons p ps ih =>
    rw [List.foldl_cons, ih _ (fun h => hq (by simp [h])), fsRead_fsRemove]
    have : q ≠ p := fun e => hq (by simp [e])
    simp [this]

def skipListed (skipped : List Text) (tid : Text) : Bool :=
  skipped.any (fun name => beforeSep tid Generated.skipSep = name ||
    hasPrefix (beforeSep tid Generated.skipSep) (name ++ [slash]))

theorem testSkipped_noRun (o : Oracles) (skipped : List Text) (tid : Text) :
    testSkipped o skipped tid [] = some (skipListed skipped tid) := by
  unfold testSkipped skipListed
  simp only [Oracles.reMatch, ↓reduceIte, Option.map_some, Bool.not_true]
  split
  · rename_i h; rw [h]
  · rename_i h; simp only [Bool.not_eq_true] at h; rw [h]

theorem keptId_noRun (o : Oracles) (registered skipped : List Text) (tid : Text) :
    keptId o registered skipped [] tid = (registered.contains tid || skipListed skipped tid) := by
  unfold keptId; rw [testSkipped_noRun]; simp

theorem classified_noRun (o : Oracles) (registered skipped : List Text) (tid : Text) :
    Classified o registered skipped [] tid := by
  unfold Classified keptId staleId
  rw [testSkipped_noRun]
  cases registered.contains tid <;> cases skipListed skipped tid <;> simp

/-- in a `CleanFile`, a header is shadowed by no earlier line unless an earlier *body* contains
    a line equal to it (finding D9) -/
theorem CleanFile.noShadow {pre post : List Entry} {e : Entry} (hf : CleanFile (pre ++ e :: post))
    (hns : ∀ b ∈ pre, e.id ∉ lines b.body) : e.id ∉ fileLines pre := by
  intro hm
  obtain ⟨x, hx, hl⟩ := mem_fileLines.mp hm
  have hid := (hf.recognised e (by simp)).id_eq
  simp only [entryLines, List.cons_append, List.nil_append, List.mem_cons, List.mem_append,
    List.not_mem_nil, or_false] at hl
  rcases hl with h | h | h | h
  · rw [hid] at h; cases h
  · have ht : tidOf e = tidOf x := by unfold tidOf; rw [h]
    have hnd := hf.distinct
    simp only [List.map_append, List.map_cons] at hnd
    exact (List.nodup_append.mp hnd).2.2 _ (List.mem_map_of_mem hx) _ (by simp) ht.symm
  · exact hns x hx h
  · rw [hid] at h; cases h

theorem cleanOutcome_ok (K : Text → Bool) (es : List Entry) (p : Text) (fs : FS)
    (update sort : Bool) (obs : List Text) (fs' : FS) (w : List Text)
    (h : cleanOutcome K es p fs update sort = .ok obs fs' w) :
    obs = (es.filter (fun e => !K (tidOf e))).map tidOf ∧
    ((fs' = fs ∧ w = []) ∨
      ∃ ids', ids'.Perm (es.map tidOf) ∧ w = [p] ∧
        fs' = fsWrite fs p (render (reorder (es.filter (fun e => K (tidOf e) || !update)) ids'))) := by
  unfold cleanOutcome at h
  simp only at h
  generalize hids : (if (sort && !(isSortedNat (es.map tidOf))) = true then sortNat (es.map tidOf)
    else es.map tidOf) = ids' at h
  have hperm : ids'.Perm (es.map tidOf) := hids ▸ rewrite_ids_perm sort _
  split at h
  · simp only [SnapsOutcome.ok.injEq] at h
    exact ⟨h.1.symm, Or.inl ⟨h.2.1.symm, h.2.2.symm⟩⟩
  · split at h
    · cases h
    · simp only [SnapsOutcome.ok.injEq] at h
      exact ⟨h.1.symm, Or.inr ⟨ids', hperm, h.2.2.symm, h.2.1.symm⟩⟩

/-- **reading off a successful file step**: the stale ids are reported; afterwards the file is
    again a `CleanFile`, either untouched or a permutation of the stored entries (the kept ones,
    plus the stale ones in report-only mode) -/
theorem examineSnaps_single_ok (o : Oracles) (registered skipped : List Text) (runOnly : Text)
    (fs : FS) (cleanup : List (RegKey × Nat)) (p : Text) (count : Nat)
    (update sort : Bool) (es : List Entry) (hf : CleanFile es)
    (hread : fsRead fs p = some (render es))
    (hreg : registeredFor cleanup p count = some registered)
    (hcls : ∀ e ∈ es, Classified o registered skipped runOnly (tidOf e))
    (obs : List Text) (fs' : FS) (w : List Text)
    (hfirst : examineSnaps o fs cleanup skipped [p] runOnly count update sort = .ok obs fs' w) :
    obs = (es.filter (fun e => !keptId o registered skipped runOnly (tidOf e))).map tidOf ∧
    ∃ es', CleanFile es' ∧ fsRead fs' p = some (render es') ∧
      ((fs' = fs ∧ w = [] ∧ es' = es) ∨
       (fs' = fsWrite fs p (render es') ∧ w = [p] ∧
        es'.Perm (es.filter (fun e => keptId o registered skipped runOnly (tidOf e) || !update)))) := by
  rw [examineSnaps_single o registered skipped runOnly fs cleanup p count update sort es hf hread
    hreg hcls] at hfirst
  obtain ⟨hobs, hfs⟩ := cleanOutcome_ok _ es p fs update sort obs fs' w hfirst
  refine ⟨hobs, ?_⟩
  rcases hfs with ⟨rfl, rfl⟩ | ⟨ids', hperm, rfl, rfl⟩
  · exact ⟨es, hf, hread, Or.inl ⟨rfl, rfl, rfl⟩⟩
  · exact ⟨_, (cleanFile_reorder es hf _ ids' hperm).1, C19.fsRead_fsWrite_same _ _ _,
      Or.inr ⟨rfl, rfl, reorder_perm es _ ids' hf.distinct hperm⟩⟩

theorem kept_scanned (o : Oracles) (registered skipped : List Text) (runOnly : Text)
    (update : Bool) (es : List Entry) (hf : CleanFile es)
    (hcls : ∀ e ∈ es, Classified o registered skipped runOnly (tidOf e))
    (e : Entry) (he : e ∈ es) (hk : keptId o registered skipped runOnly (tidOf e) = true) :
    let st := exScan o registered skipped runOnly update (scan (render es)) .outer {}
    tidOf e ∉ st.obsolete ∧ testsGet st.tests (tidOf e) = some (e.body ++ [nl]) ∧
    tidOf e ∈ st.testIDs := by
  rw [exScan_cleanFile o registered skipped runOnly update es hf hcls]
  refine ⟨?_, ?_, List.mem_map_of_mem he⟩
  · simp only [List.mem_map, List.mem_filter, not_exists, not_and, and_imp]
    intro x hx hnk hxe
    rw [hxe, hk] at hnk; cases hnk
  · show testsGet ((es.filter _).map entryPair) (tidOf e) = _
    rw [testsGet_map_entryPair, find?_filter_tid es _ e hf.distinct he]
    simp [hk]

theorem kept_survives (o : Oracles) (registered skipped : List Text) (runOnly : Text)
    (fs : FS) (cleanup : List (RegKey × Nat)) (p : Text) (count : Nat)
    (update sort : Bool) (es : List Entry) (hf : CleanFile es)
    (hread : fsRead fs p = some (render es))
    (hreg : registeredFor cleanup p count = some registered)
    (hcls : ∀ e ∈ es, Classified o registered skipped runOnly (tidOf e))
    (obs : List Text) (fs' : FS) (w : List Text)
    (hfirst : examineSnaps o fs cleanup skipped [p] runOnly count update sort = .ok obs fs' w)
    (e : Entry) (he : e ∈ es) (hk : keptId o registered skipped runOnly (tidOf e) = true) :
    tidOf e ∉ obs ∧ ∃ es', fsRead fs' p = some (render es') ∧ e ∈ es' := by
  obtain ⟨hobs, es', _, hr, hcase⟩ := examineSnaps_single_ok o registered skipped runOnly fs cleanup
    p count update sort es hf hread hreg hcls obs fs' w hfirst
  refine ⟨?_, es', hr, ?_⟩
  · rw [hobs]
    simp only [List.mem_map, List.mem_filter, not_exists, not_and, and_imp]
    intro x hx hnk hxe
    rw [hxe, hk] at hnk; cases hnk
  · rcases hcase with ⟨_, _, rfl⟩ | ⟨_, _, hperm⟩
    · exact he
    · exact hperm.mem_iff.mpr (List.mem_filter.mpr ⟨he, by simp [hk]⟩)

theorem occurrences_snapshot_total (tests : List (Text × Nat)) (count : Nat) :
    ∃ r, occurrences tests count snapshotOccFmt = some r := by
  rw [occurrences_eq]
  generalize ([] : List Text) = r0
  induction tests generalizing r0 with
  | nil => exact ⟨r0, rfl⟩
  | cons x xs ih =>
    rw [List.foldl_cons]
    have : ((occKs (x.2 / count)).map (snapshotOccFmt x.1)).any (·.isNone) = false := by
      rw [List.any_eq_false]
      intro a ha
      obtain ⟨k, _, hk⟩ := List.mem_map.mp ha
      rw [← hk, snapshotOccFmt_eq]; simp
    simp only [occStep, this, Bool.false_eq_true, ↓reduceIte]
    exact ih _

inductive SnapsFail
  | missingOracle | unsupportedOrder | panics | badFormat

def SnapsFail.outcome : SnapsFail → SnapsOutcome
  | .missingOracle => .missingOracle
  | .unsupportedOrder => .unsupportedOrder
  | .panics => .panics
  | .badFormat => .badFormat

theorem SnapsFail.outcome_ne_ok (f : SnapsFail) (a : List Text) (b : FS) (c : List Text) :
    f.outcome ≠ .ok a b c := by cases f <;> nofun

/-- what `examineSnaps` does with one used file `p` whose content is `content`: a failure outcome,
    or the obsolete ids found and the new content if the file is rewritten -/
def fileRes (o : Oracles) (cleanup : List (RegKey × Nat)) (skipped : List Text) (runOnly : Text) (count : Nat)
    (update sort : Bool) (p content : Text) : SnapsFail ⊕ (List Text × Option Text) :=
  match registeredFor cleanup p count with
  | none => .inl .badFormat
  | some registered =>
    let ls := scan content
    if ls.any getTestIDPanics then .inl .panics else
    let st := exScan o registered skipped runOnly update ls .outer {}
    if st.missing then .inl .missingOracle else
    let shouldSort := sort && !(isSortedNat st.testIDs)
    let shouldUpdate := update && st.hasDiffs
    if !shouldUpdate && !shouldSort then .inr (st.obsolete, none) else
    let ids := if shouldSort then sortNat st.testIDs else st.testIDs
    if shouldSort && !(allPairsOrdered ids && pairwiseComparable ids) then .inl .unsupportedOrder else
    let frames := rewriteFrames st.tests ids
    if frames.any (·.isNone) then .inl .badFormat else
    .inr (st.obsolete, some (frames.filterMap (fun x => x)).flatten)

theorem examineSnaps_go_cons' (o : Oracles) (cleanup : List (RegKey × Nat)) (skipped : List Text)
    (runOnly : Text) (count : Nat) (update sort : Bool) (p : Text) (rest : List Text) (fs : FS)
    (obs written : List Text) :
    examineSnaps.go o cleanup skipped runOnly count update sort (p :: rest) fs obs written =
      match fsRead fs p with
      | none => .badFormat
      | some content =>
        match fileRes o cleanup skipped runOnly count update sort p content with
        | .inl bad => bad.outcome
        | .inr (ob, none) => examineSnaps.go o cleanup skipped runOnly count update sort rest fs (obs ++ ob) written
        | .inr (ob, some c) =>
          examineSnaps.go o cleanup skipped runOnly count update sort rest (fsWrite fs p c) (obs ++ ob) (written ++ [p]) := by
  rw [examineSnaps_go_cons]
  cases fsRead fs p with
  | none => rfl
  | some content =>
    unfold fileRes
    cases registeredFor cleanup p count with
    | none => rfl
    | some registered =>
      simp only
      generalize exScan o registered skipped runOnly update (scan content) .outer {} = st
      generalize (if (sort && !isSortedNat st.testIDs) = true then sortNat st.testIDs else st.testIDs) = ids
      have h1 := any_getTestIDPanics (scan content)
      by_cases h2 : st.missing = true
      · simp only [h1, h2, Bool.false_eq_true, ↓reduceIte, SnapsFail.outcome]
      by_cases h3 : (!(update && st.hasDiffs) && !(sort && !isSortedNat st.testIDs)) = true
      · simp only [h1, h2, h3, Bool.false_eq_true, ↓reduceIte]
      by_cases h4 : ((sort && !isSortedNat st.testIDs) && !(allPairsOrdered ids && pairwiseComparable ids)) = true
      · simp only [h1, h2, h3, h4, Bool.false_eq_true, ↓reduceIte, SnapsFail.outcome]
      by_cases h5 : ((rewriteFrames st.tests ids).any (·.isNone)) = true
      · simp only [h1, h2, h3, h4, h5, Bool.false_eq_true, ↓reduceIte, SnapsFail.outcome]
      · simp only [h1, h2, h3, h4, h5, Bool.false_eq_true, ↓reduceIte]

theorem fileRes_report (o : Oracles) (cleanup : List (RegKey × Nat)) (skipped : List Text) (runOnly : Text)
    (count : Nat) (p content : Text) (ob : List Text) (nc : Option Text)
    (h : fileRes o cleanup skipped runOnly count false false p content = .inr (ob, nc)) : nc = none := by
  unfold fileRes at h
  cases hreg : registeredFor cleanup p count with
  | none => rw [hreg] at h; cases h
  | some registered =>
    rw [hreg] at h
    simp only [Bool.false_and, Bool.not_false, Bool.and_self, ↓reduceIte] at h
    split at h
    · cases h
    · split at h
      · cases h
      · cases h; rfl

theorem examineSnaps_go_ok (o : Oracles) (cleanup : List (RegKey × Nat)) (skipped : List Text)
    (runOnly : Text) (count : Nat) (update sort : Bool) (used : List Text) (fs : FS)
    (obs written : List Text) (obs' : List Text) (fs' : FS) (w' : List Text)
    (h : examineSnaps.go o cleanup skipped runOnly count update sort used fs obs written =
      .ok obs' fs' w') :
    (∀ p ∈ used, ∃ c, fsRead fs p = some c) ∧
    (∀ q, q ∉ used → fsRead fs' q = fsRead fs q) ∧
    (∃ w2, w' = written ++ w2 ∧ ∀ x ∈ w2, x ∈ used) ∧
    (update = false → sort = false → fs' = fs ∧ w' = written) := by
  induction used generalizing fs obs written with
  | nil =>
    rw [examineSnaps_go_nil] at h
    simp only [SnapsOutcome.ok.injEq] at h
    obtain ⟨_, rfl, rfl⟩ := h
    exact ⟨nofun, fun _ _ => rfl, ⟨[], by simp, nofun⟩, fun _ _ => ⟨rfl, rfl⟩⟩
  | cons p rest ih =>
    rw [examineSnaps_go_cons'] at h
    cases hread : fsRead fs p with
    | none => rw [hread] at h; cases h
    | some content =>
      rw [hread] at h
      simp only at h
      cases hres : fileRes o cleanup skipped runOnly count update sort p content with
      | inl bad => rw [hres] at h; exact absurd h (bad.outcome_ne_ok _ _ _)
      | inr r =>
        obtain ⟨ob, nc⟩ := r
        rw [hres] at h
        cases nc with
        | none =>
          obtain ⟨h1, h2, ⟨w2, h3, h4⟩, h5⟩ := ih _ _ _ h
          refine ⟨?_, fun q hq => h2 q (fun hm => hq (List.mem_cons_of_mem _ hm)),
            ⟨w2, h3, fun x hx => List.mem_cons_of_mem _ (h4 x hx)⟩, h5⟩
          intro q hq
          rcases List.mem_cons.mp hq with rfl | hq'
          · exact ⟨content, hread⟩
          · exact h1 q hq'
        | some c =>
          obtain ⟨h1, h2, ⟨w2, h3, h4⟩, _⟩ := ih _ _ _ h
          refine ⟨?_, ?_, ⟨p :: w2, by rw [h3, List.append_assoc]; rfl, ?_⟩, ?_⟩
          · intro q hq
            rcases List.mem_cons.mp hq with rfl | hq'
            · exact ⟨content, hread⟩
            · obtain ⟨c', hc'⟩ := h1 q hq'
              by_cases e : q = p
              · exact ⟨content, e ▸ hread⟩
              · exact ⟨c', by rwa [C19.fsRead_fsWrite_other _ _ _ _ e] at hc'⟩
          · intro q hq
            rw [h2 q (fun hm => hq (List.mem_cons_of_mem _ hm))]
            exact C19.fsRead_fsWrite_other _ _ _ _ (fun e => hq (e ▸ List.mem_cons_self))
          · intro x hx
            rcases List.mem_cons.mp hx with rfl | hx'
            · exact List.mem_cons_self
            · exact List.mem_cons_of_mem _ (h4 x hx')
          · intro hu hs
            subst hu hs
            cases fileRes_report _ _ _ _ _ _ _ _ _ hres

theorem examineSnaps_go_step_report (o : Oracles) (registered skipped : List Text) (runOnly : Text)
    (fs : FS) (cleanup : List (RegKey × Nat)) (p : Text) (rest : List Text) (count : Nat)
    (sort : Bool) (obs written : List Text) (es : List Entry) (hf : CleanFile es)
    (hread : fsRead fs p = some (render es))
    (hreg : registeredFor cleanup p count = some registered)
    (hcls : ∀ e ∈ es, Classified o registered skipped runOnly (tidOf e))
    (obs' : List Text) (fs' : FS) (w' : List Text)
    (h : examineSnaps.go o cleanup skipped runOnly count false sort (p :: rest) fs obs written =
      .ok obs' fs' w') :
    ∃ fs1 obs1 w1 es2,
      examineSnaps.go o cleanup skipped runOnly count false sort rest fs1 obs1 w1 = .ok obs' fs' w' ∧
      CleanFile es2 ∧ es2.Perm es ∧ fsRead fs1 p = some (render es2) ∧
      ∀ q, q ≠ p → fsRead fs1 q = fsRead fs q := by
  rw [examineSnaps_go_cons_clean o registered skipped runOnly fs cleanup p rest count false sort
    obs written es hf hread hreg hcls] at h
  cases hco : cleanOutcome (keptId o registered skipped runOnly) es p fs false sort with
  | ok st fs1 w1 =>
    rw [hco] at h
    obtain ⟨_, hfs⟩ := cleanOutcome_ok _ es p fs false sort st fs1 w1 hco
    rcases hfs with ⟨rfl, rfl⟩ | ⟨ids', hperm, rfl, rfl⟩
    · exact ⟨_, _, _, es, h, hf, List.Perm.refl _, hread, fun _ _ => rfl⟩
    · -- every entry is stored in report-only mode
      have hall : es.filter (fun e => keptId o registered skipped runOnly (tidOf e) || !false) = es :=
        List.filter_eq_self.mpr (fun _ _ => by simp)
      have hp2 := reorder_perm es (fun e => keptId o registered skipped runOnly (tidOf e) || !false) ids'
        hf.distinct hperm
      rw [hall] at hp2
      exact ⟨_, _, _, _, h, (cleanFile_reorder es hf _ ids' hperm).1, by rw [hall]; exact hp2,
        C19.fsRead_fsWrite_same _ _ _, fun q hq => C19.fsRead_fsWrite_other _ _ _ _ hq⟩
  | _ => rw [hco] at h; cases h

/-- **report-only runs lose nothing, for any list of used files** (`update = false`, any `sort`):
    whatever entry list a path held before, it holds a permutation of it afterwards.
    `hok`: the used files are `CleanFile`s; `hcls`: no oracle miss on ANY id (asked of every text,
    not only of the ids in the files: without `-run` it holds, with `-run` it needs a complete table). -/
theorem examineSnaps_go_no_loss (o : Oracles) (cleanup : List (RegKey × Nat)) (skipped : List Text)
    (runOnly : Text) (count : Nat) (sort : Bool) (used : List Text)
    (hcls : ∀ p ∈ used, ∀ registered, registeredFor cleanup p count = some registered →
      ∀ tid, Classified o registered skipped runOnly tid)
    (fs : FS) (obs written : List Text)
    (hok : ∀ p ∈ used, ∃ es, CleanFile es ∧ fsRead fs p = some (render es))
    (obs' : List Text) (fs' : FS) (w' : List Text)
    (h : examineSnaps.go o cleanup skipped runOnly count false sort used fs obs written =
      .ok obs' fs' w')
    (q : Text) (es : List Entry) (hfes : CleanFile es) (hq : fsRead fs q = some (render es)) :
    ∃ es', es'.Perm es ∧ CleanFile es' ∧ fsRead fs' q = some (render es') := by
  induction used generalizing fs obs written es with
  | nil =>
    rw [examineSnaps_go_nil] at h
    simp only [SnapsOutcome.ok.injEq] at h
    obtain ⟨_, rfl, _⟩ := h
    exact ⟨es, List.Perm.refl _, hfes, hq⟩
  | cons p rest ih =>
    obtain ⟨registered, hreg⟩ : ∃ r, registeredFor cleanup p count = some r :=
      occurrences_snapshot_total _ count
    have hc := hcls p (by simp) registered hreg
    have ih' := ih (fun p' hp' => hcls p' (by simp [hp']))
    -- the entries `p` holds: those of `q` when `p = q`
    obtain ⟨esp, hfp, hrp, hpe⟩ : ∃ esp, CleanFile esp ∧ fsRead fs p = some (render esp) ∧ (p = q → esp = es) := by
      by_cases hpq : p = q
      · subst hpq; exact ⟨es, hfes, hq, fun _ => rfl⟩
      · obtain ⟨esp, hfp, hrp⟩ := hok p (by simp)
        exact ⟨esp, hfp, hrp, fun e => absurd e hpq⟩
    obtain ⟨fs1, obs1, w1, es2, hgo, hf2, hperm, hr2, hne⟩ :=
      examineSnaps_go_step_report o registered skipped runOnly fs cleanup p rest count sort obs
        written esp hfp hrp hreg (fun e _ => hc _) obs' fs' w' h
    have hok1 : ∀ p' ∈ rest, ∃ es, CleanFile es ∧ fsRead fs1 p' = some (render es) := by
      intro p' hp'
      by_cases e : p' = p
      · subst e; exact ⟨es2, hf2, hr2⟩
      · rw [hne p' e]; exact hok p' (by simp [hp'])
    by_cases hpq : p = q
    · subst hpq
      rw [hpe rfl] at hperm
      obtain ⟨es', hp', hf', hr'⟩ := ih' fs1 obs1 w1 hok1 hgo es2 hf2 hr2
      exact ⟨es', hp'.trans hperm, hf', hr'⟩
    · exact ih' fs1 obs1 w1 hok1 hgo es hfes (by rw [hne q (fun e => hpq e.symm)]; exact hq)

end GoSnaps
