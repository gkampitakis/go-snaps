/-
Lemmas about the JSON model (GoSnaps/Json.lean): lexeme scanners, tokeniser, token parser,
stable insertion sort, the printer.  Used by Props/C14Json.lean, Lemmas/JsonPath.lean and the two
JsonEndToEnd files.

Two notions carry most of it.  `scalarLex` is the scalar lexeme at the head of a text, scanned by
`validany` and by `nextTok` with the same calls; through it the validator and the tokeniser are
compared once.  `Lexes s L rest` says that the tokens of `s` are `L` followed by the tokens of `rest`.
The theorems about printed text and about what the validator consumes are stated as equations
`tokens _ = (tokens _).map (_ ++ ·)`, which is `Lexes` unfolded, and proved by composing such steps.
-/
import GoSnaps.Json
namespace GoSnaps.Json
open GoSnaps

/-! ## white space -/

def AllWs (w : Text) : Prop := ∀ c ∈ w, isWs c = true

theorem skipWs_eq_dropWhile (s : Text) : skipWs s = s.dropWhile isWs := by
  induction s with
  | nil => rfl
  | cons c s ih => simp only [skipWs, List.dropWhile_cons, ih]

theorem skipWs_ws_append (w s : Text) (h : AllWs w) : skipWs (w ++ s) = skipWs s := by
  rw [skipWs_eq_dropWhile, skipWs_eq_dropWhile, List.dropWhile_append_of_pos h]

theorem skipWs_of_nonws (c : Byte) (r : Text) (h : isWs c = false) : skipWs (c :: r) = c :: r := by
  simp [skipWs, h]

theorem skipWs_decomp (s : Text) :
    ∃ w, AllWs w ∧ s = w ++ skipWs s ∧ (∀ c r, skipWs s = c :: r → isWs c = false) := by
  refine ⟨s.takeWhile isWs, List.all_eq_true.mp List.all_takeWhile, ?_, fun c r h => ?_⟩
  · rw [skipWs_eq_dropWhile, List.takeWhile_append_dropWhile]
  · have := List.head?_dropWhile_not isWs s
    rw [← skipWs_eq_dropWhile, h] at this
    exact this

theorem skipWs_length_le (s : Text) : (skipWs s).length ≤ s.length := by
  obtain ⟨w, _, hs, _⟩ := skipWs_decomp s
  have := congrArg List.length hs
  simp only [List.length_append] at this
  omega

theorem isHex_ge {x : Byte} (h : isHex x = true) : ¬ x < 32 := by
  simp only [isHex, Bool.or_eq_true, Bool.and_eq_true, decide_eq_true_eq, UInt8.le_iff_toNat_le,
    UInt8.lt_iff_toNat_lt] at *
  have : (48 : UInt8).toNat = 48 := rfl
  have : (97 : UInt8).toNat = 97 := rfl
  have : (65 : UInt8).toNat = 65 := rfl
  have : (32 : UInt8).toNat = 32 := rfl
  omega

theorem isSimpleEsc_ge {x : Byte} (h : isSimpleEsc x = true) : ¬ x < 32 := by
  simp only [isSimpleEsc, Bool.or_eq_true, beq_iff_eq] at h
  rcases h with ((((((rfl | rfl) | rfl) | rfl) | rfl) | rfl) | rfl) | rfl <;> decide

theorem isDigit_iff (c : Byte) : isDigit c = true ↔ 48 ≤ c.toNat ∧ c.toNat ≤ 57 := by
  simp only [isDigit, Bool.and_eq_true, decide_eq_true_eq, UInt8.le_iff_toNat_le]
  have : (48 : UInt8).toNat = 48 := rfl
  have : (57 : UInt8).toNat = 57 := rfl
  omega

/-! ## the string scanner -/

theorem scanStr_quote (r : Text) : scanStr (34 :: r) = some ([34], r) := by
  rw [scanStr.eq_def]; simp

theorem scanStr_esc (e : Byte) (r : Text) (he : isSimpleEsc e = true) :
    scanStr (92 :: e :: r) = (scanStr r).map fun p => (92 :: e :: p.1, p.2) := by
  rw [scanStr.eq_def]; simp [he]

theorem scanStr_u (h1 h2 h3 h4 : Byte) (r : Text)
    (hh : (isHex h1 && isHex h2 && isHex h3 && isHex h4) = true) :
    scanStr (92 :: 117 :: h1 :: h2 :: h3 :: h4 :: r) =
      (scanStr r).map fun p => (92 :: 117 :: h1 :: h2 :: h3 :: h4 :: p.1, p.2) := by
  have : isSimpleEsc 117 = false := by decide
  rw [scanStr.eq_def]; simp [hh, this]

theorem scanStr_plain (c : Byte) (r : Text) (h1 : ¬ c < 32) (h2 : c ≠ 92) (h3 : c ≠ 34) :
    scanStr (c :: r) = (scanStr r).map fun p => (c :: p.1, p.2) := by
  rw [scanStr.eq_def]; simp [h1, h2, h3]

/-- a prefix that `scanStr` copies (one byte, or an escape sequence) keeps what is known of the rest -/
theorem scanStr_spec_step (p s : Text)
    (hp : ∀ r, scanStr (p ++ r) = (scanStr r).map fun q => (p ++ q.1, q.2)) (hge : ∀ c ∈ p, ¬ c < 32)
    (ih : ∀ b r, scanStr s = some (b, r) →
      s = b ++ r ∧ (∀ r', scanStr (b ++ r') = some (b, r')) ∧ (∀ c ∈ b, ¬ c < 32) ∧ b.getLast? = some 34) :
    ∀ b r, (scanStr s).map (fun q => (p ++ q.1, q.2)) = some (b, r) →
      p ++ s = b ++ r ∧ (∀ r', scanStr (b ++ r') = some (b, r')) ∧ (∀ c ∈ b, ¬ c < 32) ∧
        b.getLast? = some 34 := by
  intro b r h
  obtain ⟨⟨b1, r1⟩, hs, hb⟩ := Option.map_eq_some_iff.mp h
  cases hb
  obtain ⟨h1, h2, h3, h4⟩ := ih b1 r1 hs
  refine ⟨by rw [h1, List.append_assoc], fun r' => by rw [List.append_assoc, hp, h2 r']; rfl, ?_, ?_⟩
  · exact List.forall_mem_append.mpr ⟨hge, h3⟩
  · cases b1 with
    | nil => cases h4
    | cons x xs => rw [List.getLast?_append, h4]; rfl

theorem scanStr_spec (s : Text) : ∀ b r, scanStr s = some (b, r) →
    s = b ++ r ∧ (∀ r', scanStr (b ++ r') = some (b, r')) ∧ (∀ c ∈ b, ¬ c < 32) ∧
      b.getLast? = some 34 := by
  fun_induction scanStr s with
  | case1 => intro b r h; simp at h
  | case2 c r hc => intro b r' h; simp at h
  | case3 hc => intro b r h; simp at h
  | case4 e r1 he hc ih =>
    refine scanStr_spec_step [92, e] r1 (fun r => scanStr_esc e r he) ?_ ih
    simp only [List.forall_mem_cons]
    exact ⟨hc, isSimpleEsc_ge he, nofun⟩
  | case5 h1 h2 h3 h4 r2 hh hc hne ih =>
    refine scanStr_spec_step [92, 117, h1, h2, h3, h4] r2 (fun r => scanStr_u h1 h2 h3 h4 r hh) ?_ ih
    simp only [List.forall_mem_cons]
    simp only [Bool.and_eq_true] at hh
    exact ⟨hc, by decide, isHex_ge hh.1.1.1, isHex_ge hh.1.1.2, isHex_ge hh.1.2, isHex_ge hh.2, nofun⟩
  | case6 h1 h2 h3 h4 r2 hh hc hne => intro b r h; simp at h
  | case7 r1 hno hc hne => intro b r h; simp at h
  | case8 e r1 he hne hc => intro b r h; simp at h
  | case9 r hc hne =>
    intro b r' h
    simp only [Option.some.injEq, Prod.mk.injEq] at h
    obtain ⟨rfl, rfl⟩ := h
    refine ⟨rfl, ?_, ?_, rfl⟩
    · intro r'; exact scanStr_quote r'
    · intro x hx; simp at hx; subst hx; decide
  | case10 c r hc h92 h34 ih =>
    exact scanStr_spec_step [c] r (fun r' => scanStr_plain c r' hc h92 h34)
      (List.forall_mem_cons.mpr ⟨hc, nofun⟩) ih

/-! ## the number scanner -/

/-- the bytes a number lexeme is made of -/
def numChar (c : Byte) : Bool := isDigit c || c == 45 || c == 43 || c == 46 || c == 101 || c == 69

/-- what may follow a number lexeme for the scanner to stop exactly there -/
def NumStop (r : Text) : Prop := ∀ c t, r = c :: t → isDigit c = false ∧ c ≠ 46 ∧ c ≠ 101 ∧ c ≠ 69

def NoDigitHead (x : Text) : Prop := ∀ c t, x = c :: t → isDigit c = false

theorem NumStop.noDigit {r : Text} (h : NumStop r) : NoDigitHead r := fun c t e => (h c t e).1

theorem numStop_nil : NumStop [] := by intro c t e; cases e

theorem takeWhile_stop (ds r : Text) (hd : ∀ c ∈ ds, isDigit c = true) (hr : NoDigitHead r) :
    (ds ++ r).takeWhile isDigit = ds ∧ (ds ++ r).dropWhile isDigit = r := by
  rw [List.takeWhile_append_of_pos hd, List.dropWhile_append_of_pos hd]
  cases r with
  | nil => simp
  | cons c t =>
    have := hr c t rfl
    simp [this]

theorem digits1_spec (s x r : Text) (h : digits1 s = some (x, r)) :
    s = x ++ r ∧ (∀ c ∈ x, isDigit c = true) ∧ (∃ d t, x = d :: t) ∧
      (∀ r', NoDigitHead r' → digits1 (x ++ r') = some (x, r')) := by
  cases s with
  | nil => simp [digits1] at h
  | cons d s =>
    simp only [digits1] at h
    split at h
    · rename_i hd
      simp only [Option.some.injEq, Prod.mk.injEq] at h
      obtain ⟨rfl, rfl⟩ := h
      have hall : ∀ c ∈ s.takeWhile isDigit, isDigit c = true := fun c hc => List.all_eq_true.mp List.all_takeWhile c hc
      refine ⟨by simp, ?_, ⟨d, _, rfl⟩, ?_⟩
      · exact List.forall_mem_cons.mpr ⟨hd, hall⟩
      · intro r' hr'
        obtain ⟨e1, e2⟩ := takeWhile_stop _ r' hall hr'
        simp only [List.cons_append, digits1, hd, ↓reduceIte, e1, e2]
    · cases h

theorem digits_numChar {x : Text} (h : ∀ c ∈ x, isDigit c = true) : ∀ c ∈ x, numChar c = true := by
  intro c hc; simp [numChar, h c hc]

/-- the optional sign is number bytes, and is taken again before text that starts with no sign -/
theorem optSign_spec (s : Text) :
    s = (optSign s).1 ++ (optSign s).2 ∧ (∀ c ∈ (optSign s).1, numChar c = true) ∧
      ∀ d t, ¬ (d = 43 ∨ d = 45) → optSign ((optSign s).1 ++ d :: t) = ((optSign s).1, d :: t) := by
  cases s with
  | nil => exact ⟨rfl, nofun, fun d t h => by simp [optSign, h]⟩
  | cons c s =>
    simp only [optSign]
    split
    · rename_i hc
      refine ⟨rfl, ?_, fun d t _ => by simp [hc]⟩
      intro x hx
      cases List.mem_singleton.mp hx
      simp only [Bool.or_eq_true, decide_eq_true_eq] at hc
      rcases hc with rfl | rfl <;> decide
    · exact ⟨rfl, nofun, fun d t h => by simp [h]⟩

theorem scanExp_stop (acc r' : Text) (hr' : NumStop r') : scanExp acc r' = some (acc, r') := by
  cases r' with
  | nil => rfl
  | cons c t =>
    obtain ⟨_, _, h3, h4⟩ := hr' c t rfl
    simp [scanExp, h3, h4]

theorem scanExp_key : ∀ acc s l r, scanExp acc s = some (l, r) →
      ∃ x, l = acc ++ x ∧ s = x ++ r ∧ (∀ c ∈ x, numChar c = true) ∧ NoDigitHead x ∧
        (∀ r', NumStop r' → scanExp acc (x ++ r') = some (acc ++ x, r')) := by
    intro acc s l r h
    have stopcase : ∀ r', NumStop r' → scanExp acc r' = some (acc, r') := scanExp_stop acc
    cases s with
    | nil =>
      simp only [scanExp, Option.some.injEq, Prod.mk.injEq] at h
      obtain ⟨rfl, rfl⟩ := h
      exact ⟨[], by simp, rfl, by simp, (by intro c t e; cases e), by simpa using stopcase⟩
    | cons c s =>
      simp only [scanExp] at h
      split at h
      · rename_i hc
        simp only [Option.map_eq_some_iff] at h
        obtain ⟨⟨p1, p2⟩, hd, hp⟩ := h
        simp only [Prod.mk.injEq] at hp
        obtain ⟨rfl, rfl⟩ := hp
        obtain ⟨d1, d2, d3, d4⟩ := digits1_spec _ _ _ hd
        obtain ⟨o1, o2, o3⟩ := optSign_spec s
        obtain ⟨hcn, hcd⟩ : numChar c = true ∧ isDigit c = false := by
          simp only [Bool.or_eq_true, decide_eq_true_eq] at hc
          rcases hc with rfl | rfl <;> decide
        refine ⟨c :: (optSign s).1 ++ p1, by simp, ?_, ?_, ?_, ?_⟩
        · simp only [List.cons_append, List.append_assoc, List.cons.injEq, true_and]
          rw [← d1]; exact o1
        · simp only [List.cons_append, List.forall_mem_cons, List.forall_mem_append]
          exact ⟨hcn, o2, digits_numChar d2⟩
        · intro c' t e
          simp only [List.cons_append, List.cons.injEq] at e
          rw [← e.1]; exact hcd
        · intro r' hr'
          obtain ⟨d, t, rfl⟩ := d3
          have hd : ¬ (d = 43 ∨ d = 45) := by
            have := d2 d (by simp)
            rintro (rfl | rfl) <;> revert this <;> decide
          have h4 := d4 r' hr'.noDigit
          simp only [List.cons_append] at h4
          simp only [List.cons_append, List.append_assoc, scanExp, hc, ↓reduceIte, o3 d _ hd, h4,
            Option.map_some]
      · simp only [Option.some.injEq, Prod.mk.injEq] at h
        obtain ⟨rfl, rfl⟩ := h
        exact ⟨[], by simp, rfl, by simp, (by intro c t e; cases e), by simpa using stopcase⟩

theorem noDigitHead_append {x r : Text} (hx : NoDigitHead x) (hr : NoDigitHead r) : NoDigitHead (x ++ r) := by
  cases x with
  | nil => simpa using hr
  | cons c t =>
    intro c' t' e
    simp only [List.cons_append, List.cons.injEq] at e
    rw [← e.1]; exact hx c t rfl

theorem scanFrac_stop (acc r' : Text) (hr' : NumStop r') : scanFrac acc r' = some (acc, r') := by
  cases r' with
  | nil => rfl
  | cons c t =>
    obtain ⟨_, h2, _, _⟩ := hr' c t rfl
    simp only [scanFrac, h2, ↓reduceIte]
    exact scanExp_stop acc _ hr'

theorem scanFrac_key : ∀ acc s l r, scanFrac acc s = some (l, r) →
    ∃ x, l = acc ++ x ∧ s = x ++ r ∧ (∀ c ∈ x, numChar c = true) ∧ NoDigitHead x ∧
      (∀ r', NumStop r' → scanFrac acc (x ++ r') = some (acc ++ x, r')) := by
  intro acc s l r h
  cases s with
  | nil =>
    simp only [scanFrac, Option.some.injEq, Prod.mk.injEq] at h
    obtain ⟨rfl, rfl⟩ := h
    exact ⟨[], by simp, rfl, by simp, (by intro c t e; cases e), by simpa using scanFrac_stop acc⟩
  | cons c s =>
    simp only [scanFrac] at h
    split at h
    · rename_i hc
      subst hc
      simp only [Option.bind_eq_some_iff] at h
      obtain ⟨⟨p1, p2⟩, hd, he⟩ := h
      obtain ⟨d1, d2, d3, d4⟩ := digits1_spec _ _ _ hd
      obtain ⟨x2, e1, e2, e3, e4, e5⟩ := scanExp_key _ _ _ _ he
      refine ⟨46 :: p1 ++ x2, by simp [e1], ?_, ?_, ?_, ?_⟩
      · simp only [List.cons_append, List.append_assoc, List.cons.injEq, true_and]
        rw [← e2]; exact d1
      · simp only [List.cons_append, List.forall_mem_cons, List.forall_mem_append]
        exact ⟨by decide, digits_numChar d2, e3⟩
      · intro c' t e
        simp only [List.cons_append, List.cons.injEq] at e
        rw [← e.1]; decide
      · intro r' hr'
        have hnd : NoDigitHead (x2 ++ r') := noDigitHead_append e4 hr'.noDigit
        have := d4 (x2 ++ r') hnd
        simp only [List.cons_append, List.append_assoc, scanFrac, ↓reduceIte, this, Option.bind_some]
        rw [e5 r' hr']
        simp
    · rename_i hc
      obtain ⟨x, e1, e2, e3, e4, e5⟩ := scanExp_key _ _ _ _ h
      refine ⟨x, e1, e2, e3, e4, ?_⟩
      intro r' hr'
      cases x with
      | nil => simpa using scanFrac_stop acc r' hr'
      | cons c' t =>
        simp only [List.cons_append, List.cons.injEq] at e2
        obtain ⟨rfl, _⟩ := e2
        simp only [List.cons_append, scanFrac, hc, ↓reduceIte]
        exact e5 r' hr'

theorem scanInt_key : ∀ acc s l r, scanInt acc s = some (l, r) →
    ∃ x, l = acc ++ x ∧ s = x ++ r ∧ (∀ c ∈ x, numChar c = true) ∧
      (∃ d t, x = d :: t ∧ isDigit d = true) ∧
      (∀ r', NumStop r' → scanInt acc (x ++ r') = some (acc ++ x, r')) := by
  intro acc s l r h
  cases s with
  | nil => simp [scanInt] at h
  | cons c s =>
    simp only [scanInt] at h
    split at h
    · rename_i hc
      subst hc
      obtain ⟨x, e1, e2, e3, e4, e5⟩ := scanFrac_key _ _ _ _ h
      refine ⟨48 :: x, by simp [e1], by simp [e2], ?_, ⟨48, x, rfl, by decide⟩, ?_⟩
      · exact List.forall_mem_cons.mpr ⟨by decide, e3⟩
      · intro r' hr'
        simp only [List.cons_append, scanInt, ↓reduceIte]
        rw [e5 r' hr']; simp
    · rename_i hc
      simp only [Option.bind_eq_some_iff] at h
      obtain ⟨⟨p1, p2⟩, hd, hf⟩ := h
      obtain ⟨d1, d2, ⟨d, t, rfl⟩, d4⟩ := digits1_spec _ _ _ hd
      obtain ⟨x2, e1, e2, e3, e4, e5⟩ := scanFrac_key _ _ _ _ hf
      simp only at e1 e2 e5
      have hcd : c = d := by
        have := d1; simp only [List.cons_append, List.cons.injEq] at this; exact this.1
      subst hcd
      refine ⟨c :: t ++ x2, by simp [e1], ?_, ?_, ⟨c, t ++ x2, by simp, d2 c (by simp)⟩, ?_⟩
      · rw [d1, e2]; simp
      · exact List.forall_mem_append.mpr ⟨digits_numChar d2, e3⟩
      · intro r' hr'
        have hnd : NoDigitHead (x2 ++ r') := noDigitHead_append e4 hr'.noDigit
        have := d4 (x2 ++ r') hnd
        simp only [List.cons_append, List.append_assoc] at this ⊢
        simp only [scanInt, hc, ↓reduceIte, this, Option.bind_some]
        have := e5 r' hr'
        rw [this]; simp

theorem scanNum_spec (s l r : Text) (h : scanNum s = some (l, r)) :
    s = l ++ r ∧ (∀ c ∈ l, numChar c = true) ∧ (∃ d t, l = d :: t ∧ (d = 45 ∨ isDigit d = true)) ∧
      (∀ r', NumStop r' → scanNum (l ++ r') = some (l, r')) := by
  cases s with
  | nil => simp [scanNum] at h
  | cons c s =>
    simp only [scanNum] at h
    split at h
    · rename_i hc
      subst hc
      obtain ⟨x, e1, e2, e3, ⟨d, t, e4, e4'⟩, e5⟩ := scanInt_key _ _ _ _ h
      subst e1
      refine ⟨by simp [e2], ?_, ⟨45, x, rfl, Or.inl rfl⟩, ?_⟩
      · exact List.forall_mem_cons.mpr ⟨by decide, e3⟩
      · intro r' hr'
        simp only [List.cons_append, List.nil_append, scanNum, ↓reduceIte]
        exact e5 r' hr'
    · rename_i hc
      obtain ⟨x, e1, e2, e3, ⟨d, t, e4, e4'⟩, e5⟩ := scanInt_key _ _ _ _ h
      simp only [List.nil_append] at e1
      subst e1
      refine ⟨e2, e3, ⟨d, t, e4, Or.inr e4'⟩, ?_⟩
      intro r' hr'
      have hd : d = c := by
        rw [e4] at e2; simp only [List.cons_append, List.cons.injEq] at e2; exact e2.1.symm
      subst hd
      subst e4
      simp only [List.cons_append, scanNum, hc, ↓reduceIte]
      have := e5 r' hr'
      simpa using this

/-! ## tokens -/

def tokText : Tok → Text
  | .lbrace => [123]
  | .rbrace => [125]
  | .lbrack => [91]
  | .rbrack => [93]
  | .colon => [58]
  | .comma => [44]
  | .str r => r
  | .num r => r
  | .tru => [116, 114, 117, 101]
  | .fls => [102, 97, 108, 115, 101]
  | .nul => [110, 117, 108, 108]

theorem scanLit_spec (w s r : Text) (h : scanLit w s = some r) : s = w ++ r := by
  unfold scanLit at h
  split at h
  · rename_i hp
    simp only [Option.some.injEq] at h
    obtain ⟨t, rfl⟩ := List.isPrefixOf_iff_prefix.mp hp
    simp at h; rw [h]
  · cases h

theorem numEnds_iff (r : Text) : numEnds r = true ↔ NumStop r := by
  cases r with
  | nil => simp [numEnds, numStop_nil]
  | cons c t =>
    simp only [numEnds, Bool.not_eq_eq_eq_not, Bool.not_true, Bool.or_eq_false_iff, beq_eq_false_iff_ne, ne_eq]
    constructor
    · intro h c' t' e
      simp only [List.cons.injEq] at e
      obtain ⟨rfl, _⟩ := e
      exact ⟨h.1.1.1, h.1.1.2, h.1.2, h.2⟩
    · intro h
      obtain ⟨a, b, c', d⟩ := h c t rfl
      exact ⟨⟨⟨a, b⟩, c'⟩, d⟩

/-- what may follow a token: after a number, nothing that would continue it -/
def TokStop (t : Tok) (r : Text) : Prop :=
  match t with
  | .num _ => NumStop r
  | _ => True

theorem TokStop.of_numStop {t : Tok} {r : Text} (h : NumStop r) : TokStop t r := by
  cases t <;> first | exact h | trivial

/-- a token the scanner can produce: it is found again, whatever admissible text follows -/
def TokOk (t : Tok) : Prop :=
  (∀ r', TokStop t r' → nextTok (tokText t ++ r') = some (t, r')) ∧
  (∃ c u, tokText t = c :: u ∧ isWs c = false) ∧ (∀ c ∈ tokText t, ¬ c < 32) ∧
  (∀ c, (tokText t).getLast? = some c → isWs c = false)

theorem numChar_ok {c : Byte} (h : numChar c = true) : ¬ c < 32 ∧ isWs c = false := by
  simp only [numChar, Bool.or_eq_true, beq_iff_eq] at h
  rcases h with ((((h | rfl) | rfl) | rfl) | rfl) | rfl
  · refine ⟨?_, ?_⟩
    · have := (isDigit_iff c).mp h
      have : (32 : UInt8).toNat = 32 := rfl
      rw [UInt8.lt_iff_toNat_lt]; omega
    · simp only [isWs, Bool.or_eq_false_iff, beq_eq_false_iff_ne, ne_eq]
      refine ⟨⟨⟨?_, ?_⟩, ?_⟩, ?_⟩ <;> (rintro rfl; exact absurd h (by decide))
  all_goals decide

theorem TokOk.of_all {t : Tok} (h1 : ∀ r', TokStop t r' → nextTok (tokText t ++ r') = some (t, r'))
    (hne : tokText t ≠ []) (hall : ∀ c ∈ tokText t, ¬ c < 32 ∧ isWs c = false) : TokOk t := by
  refine ⟨h1, ?_, fun c hc => (hall c hc).1, fun c hc => (hall c (List.mem_of_getLast? hc)).2⟩
  cases hx : tokText t with
  | nil => exact absurd hx hne
  | cons c u => exact ⟨c, u, rfl, (hall c (by rw [hx]; simp)).2⟩

theorem tokOk_lbrace : TokOk .lbrace := .of_all (fun _ _ => rfl) (by decide) (by decide)
theorem tokOk_rbrace : TokOk .rbrace := .of_all (fun _ _ => rfl) (by decide) (by decide)
theorem tokOk_lbrack : TokOk .lbrack := .of_all (fun _ _ => rfl) (by decide) (by decide)
theorem tokOk_rbrack : TokOk .rbrack := .of_all (fun _ _ => rfl) (by decide) (by decide)
theorem tokOk_colon : TokOk .colon := .of_all (fun _ _ => rfl) (by decide) (by decide)
theorem tokOk_comma : TokOk .comma := .of_all (fun _ _ => rfl) (by decide) (by decide)
theorem tokOk_tru : TokOk .tru := .of_all (fun _ _ => rfl) (by decide) (by decide)
theorem tokOk_fls : TokOk .fls := .of_all (fun _ _ => rfl) (by decide) (by decide)
theorem tokOk_nul : TokOk .nul := .of_all (fun _ _ => rfl) (by decide) (by decide)

def punctTok (c : Byte) : Option Tok :=
  if c = 123 then some .lbrace else if c = 125 then some .rbrace else if c = 91 then some .lbrack
  else if c = 93 then some .rbrack else if c = 58 then some .colon else if c = 44 then some .comma
  else none

theorem punctTok_ind {P : Byte → Tok → Prop} (h1 : P 123 .lbrace) (h2 : P 125 .rbrace)
    (h3 : P 91 .lbrack) (h4 : P 93 .rbrack) (h5 : P 58 .colon) (h6 : P 44 .comma)
    {c : Byte} {t : Tok} (h : punctTok c = some t) : P c t := by
  unfold punctTok at h
  by_cases c1 : c = 123; · subst c1; cases h; exact h1
  by_cases c2 : c = 125; · subst c2; cases h; exact h2
  by_cases c3 : c = 91; · subst c3; cases h; exact h3
  by_cases c4 : c = 93; · subst c4; cases h; exact h4
  by_cases c5 : c = 58; · subst c5; cases h; exact h5
  by_cases c6 : c = 44; · subst c6; cases h; exact h6
  rw [if_neg c1, if_neg c2, if_neg c3, if_neg c4, if_neg c5, if_neg c6] at h
  cases h

/-- the scalar lexeme at the head of `c :: r` — a string, a number or one of the three words — as
`validany` and `nextTok` both scan it (the same calls on the same first byte) -/
def scalarLex (c : Byte) (r : Text) : Option (Tok × Text) :=
  if c = 34 then (scanStr r).map fun p => (.str (c :: p.1), p.2)
  else if c = 45 || isDigit c then (scanNum (c :: r)).map fun p => (.num p.1, p.2)
  else if c = 116 then (scanLit wTrue r).map fun r' => (.tru, r')
  else if c = 102 then (scanLit wFalse r).map fun r' => (.fls, r')
  else if c = 110 then (scanLit wNull r).map fun r' => (.nul, r')
  else none

/-- the check `nextTok` makes after a lexeme -/
def tokEnds : Tok → Text → Bool
  | .num _, r => numEnds r
  | _, _ => true

theorem tokEnds_iff (t : Tok) (r : Text) : tokEnds t r = true ↔ TokStop t r := by
  cases t with
  | num l => exact numEnds_iff r
  | _ => exact ⟨fun _ => trivial, fun _ => rfl⟩

/-- the tokens that are a value by themselves -/
def isScalar : Tok → Bool
  | .str _ | .num _ | .tru | .fls | .nul => true
  | _ => false

/-- `nextTok` in two steps: punctuation, or a scalar lexeme that ends properly -/
theorem nextTok_cons (c : Byte) (r : Text) : nextTok (c :: r) =
    match punctTok c with
    | some t => some (t, r)
    | none => (scalarLex c r).bind fun p => if tokEnds p.1 p.2 then some p else none := by
  unfold nextTok punctTok
  by_cases h1 : c = 123; · subst h1; rfl
  by_cases h2 : c = 125; · subst h2; rfl
  by_cases h3 : c = 91; · subst h3; rfl
  by_cases h4 : c = 93; · subst h4; rfl
  by_cases h5 : c = 58; · subst h5; rfl
  by_cases h6 : c = 44; · subst h6; rfl
  simp only [h1, h2, h3, h4, h5, h6, ↓reduceIte, scalarLex]
  by_cases h7 : c = 34; · subst h7; cases scanStr r <;> rfl
  by_cases h8 : (decide (c = 45) || isDigit c) = true
  · simp only [h7, h8, ↓reduceIte]; cases scanNum (c :: r) <;> rfl
  by_cases h9 : c = 116; · subst h9; cases scanLit wTrue r <;> rfl
  by_cases h10 : c = 102; · subst h10; cases scanLit wFalse r <;> rfl
  by_cases h11 : c = 110; · subst h11; cases scanLit wNull r <;> rfl
  simp only [h7, h8, h9, h10, h11, ↓reduceIte]; rfl

theorem scalarLex_not_punct {c : Byte} {r : Text} {p : Tok × Text} (h : scalarLex c r = some p) :
    punctTok c = none := by
  cases hp : punctTok c with
  | none => rfl
  | some t =>
    revert h
    exact punctTok_ind (P := fun c _ => scalarLex c r = some p → _) nofun nofun nofun nofun nofun nofun hp

theorem nextTok_of_scalarLex {c : Byte} {r rest : Text} {t : Tok} (h : scalarLex c r = some (t, rest))
    (hs : TokStop t rest) : nextTok (c :: r) = some (t, rest) := by
  rw [nextTok_cons, scalarLex_not_punct h, h]
  simp only [Option.bind_some, (tokEnds_iff t rest).mpr hs, ↓reduceIte]

theorem nextTok_inv {c : Byte} {r rest : Text} {t : Tok} (h : nextTok (c :: r) = some (t, rest)) :
    (punctTok c = some t ∧ rest = r) ∨ (scalarLex c r = some (t, rest) ∧ TokStop t rest) := by
  rw [nextTok_cons] at h
  cases hp : punctTok c with
  | some t' =>
    rw [hp] at h
    cases h
    exact Or.inl ⟨rfl, rfl⟩
  | none =>
    rw [hp] at h
    obtain ⟨p, hl, hp'⟩ := Option.bind_eq_some_iff.mp h
    split at hp'
    · cases hp'
      exact Or.inr ⟨hl, (tokEnds_iff _ _).mp ‹_›⟩
    · cases hp'

theorem scalarLex_spec {c : Byte} {r rest : Text} {t : Tok} (h : scalarLex c r = some (t, rest)) :
    c :: r = tokText t ++ rest ∧ TokOk t ∧ isScalar t = true ∧ ∀ k, t = .str k → c = 34 := by
  unfold scalarLex at h
  by_cases h34 : c = 34
  · subst h34
    obtain ⟨⟨b, r0⟩, hs, hp⟩ := Option.map_eq_some_iff.mp (h : (scanStr r).map _ = _)
    cases hp
    obtain ⟨e1, e2, e3, e4⟩ := scanStr_spec _ _ _ hs
    refine ⟨by rw [e1]; rfl, ⟨?_, ⟨34, b, rfl, by decide⟩, ?_, ?_⟩, rfl, fun _ _ => rfl⟩
    · intro r' _
      show nextTok (34 :: (b ++ r')) = _
      refine nextTok_of_scalarLex ?_ trivial
      simp only [scalarLex, ↓reduceIte, e2 r', Option.map_some]
    · exact List.forall_mem_cons.mpr ⟨by decide, e3⟩
    · intro x hx
      obtain ⟨ys, rfl⟩ := List.getLast?_eq_some_iff.mp e4
      rw [show tokText (Tok.str (34 :: (ys ++ [34]))) = (34 :: ys) ++ [34] from rfl,
        List.getLast?_concat] at hx
      cases hx; decide
  rw [if_neg h34] at h
  by_cases hc : (decide (c = 45) || isDigit c) = true
  · rw [if_pos hc] at h
    obtain ⟨⟨l, r0⟩, hs, hp⟩ := Option.map_eq_some_iff.mp h
    cases hp
    obtain ⟨e1, e2, ⟨d, u, e3, _⟩, e4⟩ := scanNum_spec _ _ _ hs
    refine ⟨e1, .of_all ?_ (by rw [show tokText (.num l) = l from rfl, e3]; nofun)
      (fun x hx => numChar_ok (e2 x hx)), rfl, nofun⟩
    intro r' hr'
    have hd : d = c := by rw [e3] at e1; exact (List.cons.inj e1).1.symm
    subst hd; subst e3
    show nextTok (d :: (u ++ r')) = _
    refine nextTok_of_scalarLex ?_ hr'
    simp only [scalarLex, h34, hc, ↓reduceIte]
    rw [← List.cons_append, e4 r' hr']; rfl
  rw [if_neg hc] at h
  by_cases h116 : c = 116
  · subst h116
    obtain ⟨r0, hs, hp⟩ := Option.map_eq_some_iff.mp (h : (scanLit wTrue r).map _ = _)
    cases hp
    exact ⟨by rw [scanLit_spec _ _ _ hs]; rfl, tokOk_tru, rfl, nofun⟩
  rw [if_neg h116] at h
  by_cases h102 : c = 102
  · subst h102
    obtain ⟨r0, hs, hp⟩ := Option.map_eq_some_iff.mp (h : (scanLit wFalse r).map _ = _)
    cases hp
    exact ⟨by rw [scanLit_spec _ _ _ hs]; rfl, tokOk_fls, rfl, nofun⟩
  rw [if_neg h102] at h
  by_cases h110 : c = 110
  · subst h110
    obtain ⟨r0, hs, hp⟩ := Option.map_eq_some_iff.mp (h : (scanLit wNull r).map _ = _)
    cases hp
    exact ⟨by rw [scanLit_spec _ _ _ hs]; rfl, tokOk_nul, rfl, nofun⟩
  rw [if_neg h110] at h
  cases h

theorem punctTok_some {c : Byte} {t : Tok} (h : punctTok c = some t) :
    tokText t = [c] ∧ TokOk t ∧ isScalar t = false ∧ ∀ r, TokStop t r :=
  punctTok_ind (P := fun c t => tokText t = [c] ∧ TokOk t ∧ isScalar t = false ∧ ∀ r, TokStop t r)
    ⟨rfl, tokOk_lbrace, rfl, fun _ => trivial⟩ ⟨rfl, tokOk_rbrace, rfl, fun _ => trivial⟩
    ⟨rfl, tokOk_lbrack, rfl, fun _ => trivial⟩ ⟨rfl, tokOk_rbrack, rfl, fun _ => trivial⟩
    ⟨rfl, tokOk_colon, rfl, fun _ => trivial⟩ ⟨rfl, tokOk_comma, rfl, fun _ => trivial⟩ h

theorem punctTok_not_scalar {c : Byte} {t : Tok} (h : punctTok c = some t) : isScalar t = false :=
  (punctTok_some h).2.2.1

theorem nextTok_spec (s : Text) (t : Tok) (r : Text) (h : nextTok s = some (t, r)) :
    s = tokText t ++ r ∧ TokOk t ∧ TokStop t r := by
  cases s with
  | nil => cases h
  | cons c s =>
    rcases nextTok_inv h with ⟨hp, rfl⟩ | ⟨hl, hs⟩
    · obtain ⟨e, ok, _, hs⟩ := punctTok_some hp
      exact ⟨by rw [e]; rfl, ok, hs _⟩
    · exact ⟨(scalarLex_spec hl).1, (scalarLex_spec hl).2.1, hs⟩

theorem numStop_cons {c : Byte} (t : Text) (h : numChar c = false) : NumStop (c :: t) := by
  intro c' t' e
  simp only [List.cons.injEq] at e
  obtain ⟨rfl, _⟩ := e
  simp only [numChar, Bool.or_eq_false_iff, beq_eq_false_iff_ne, ne_eq] at h
  exact ⟨h.1.1.1.1.1, h.1.1.2, h.1.2, h.2⟩

theorem numStop_of_ws {c : Byte} (t : Text) (h : isWs c = true) : NumStop (c :: t) := by
  apply numStop_cons
  simp only [isWs, Bool.or_eq_true, beq_iff_eq] at h
  rcases h with ((rfl | rfl) | rfl) | rfl <;> decide

theorem TokOk.noCtl {t : Tok} (h : TokOk t) : ∀ c ∈ tokText t, ¬ c < 32 := h.2.2.1

theorem TokOk.last {t : Tok} (h : TokOk t) : ∀ c, (tokText t).getLast? = some c → isWs c = false := h.2.2.2

theorem TokOk.length_pos {t : Tok} (h : TokOk t) : 0 < (tokText t).length := by
  obtain ⟨_, ⟨c, u, e, _⟩, _, _⟩ := h
  rw [e]; simp

theorem nextTok_length {s : Text} {t : Tok} {r : Text} (h : nextTok s = some (t, r)) :
    r.length < s.length := by
  obtain ⟨e, ok, _⟩ := nextTok_spec s t r h
  have := ok.length_pos
  rw [e]; simp only [List.length_append]; omega

theorem tokensAux_fuel : ∀ (n m : Nat) (s : Text), s.length < n → s.length < m →
    tokensAux n s = tokensAux m s := by
  intro n
  induction n with
  | zero => intro m s h; omega
  | succ n ih =>
    intro m s hn hm
    cases m with
    | zero => omega
    | succ m =>
      unfold tokensAux
      have hl := skipWs_length_le s
      cases hq : skipWs s with
      | nil => rfl
      | cons c r =>
        simp only
        cases hp : nextTok (c :: r) with
        | none => rfl
        | some p =>
          obtain ⟨t, r'⟩ := p
          simp only
          have := nextTok_length hp
          rw [hq] at hl
          rw [ih m r' (by omega) (by omega)]

theorem tokens_unfold (s : Text) :
    tokens s =
      match skipWs s with
      | [] => some []
      | c :: r =>
        match nextTok (c :: r) with
        | none => none
        | some p => (tokens p.2).map (p.1 :: ·) := by
  unfold tokens
  rw [tokensAux]
  have hl := skipWs_length_le s
  cases hq : skipWs s with
  | nil => rfl
  | cons c r =>
    simp only
    cases hp : nextTok (c :: r) with
    | none => rfl
    | some p =>
      obtain ⟨t, r'⟩ := p
      simp only
      have := nextTok_length hp
      rw [hq] at hl
      rw [tokensAux_fuel s.length (r'.length + 1) r' (by omega) (by omega)]

/-- the tokeniser ignores white space before a token -/
theorem tokens_ws_prefix (w s : Text) (h : AllWs w) : tokens (w ++ s) = tokens s := by
  rw [tokens_unfold (w ++ s), tokens_unfold s, skipWs_ws_append w s h]

theorem tokens_of_ws (w : Text) (h : AllWs w) : tokens w = some [] := by
  have := tokens_ws_prefix w [] h
  simp only [List.append_nil] at this
  rw [this, tokens_unfold]; rfl

theorem tokens_tok (t : Tok) (r : Text) (ok : TokOk t) (hr : TokStop t r) :
    tokens (tokText t ++ r) = (tokens r).map (t :: ·) := by
  obtain ⟨h1, ⟨c, u, e, hc⟩, _, _⟩ := ok
  rw [tokens_unfold]
  have : skipWs (tokText t ++ r) = c :: (u ++ r) := by
    rw [e]; exact skipWs_of_nonws c _ hc
  rw [this]
  simp only
  have h2 := h1 r hr
  rw [e] at h2
  simp only [List.cons_append] at h2
  rw [h2]

/-- induction along the tokeniser: from the text after the first token to the text -/
theorem tokens_ind {motive : Text → Prop}
    (step : ∀ s, (∀ c r t r', skipWs s = c :: r → nextTok (c :: r) = some (t, r') → motive r') → motive s)
    (s : Text) : motive s := by
  suffices ∀ n (s : Text), s.length < n → motive s from this _ s (Nat.lt_succ_self _)
  intro n
  induction n with
  | zero => intro s h; omega
  | succ n ih =>
    intro s hn
    refine step s fun c r t r' hq hp => ih r' ?_
    have := nextTok_length hp
    have := skipWs_length_le s
    rw [hq] at this
    simp only [List.length_cons] at *; omega

theorem tokens_cons_inv {s : Text} {t : Tok} {ts : List Tok} (h : tokens s = some (t :: ts)) :
    ∃ c r s1, skipWs s = c :: r ∧ nextTok (c :: r) = some (t, s1) ∧ tokens s1 = some ts := by
  rw [tokens_unfold] at h
  cases hq : skipWs s with
  | nil => simp [hq] at h
  | cons c r =>
    simp only [hq] at h
    cases hp : nextTok (c :: r) with
    | none => simp [hp] at h
    | some p =>
      obtain ⟨t', s1⟩ := p
      simp only [hp, Option.map_eq_some_iff, List.cons.injEq] at h
      obtain ⟨ts', h1, rfl, rfl⟩ := h
      exact ⟨c, r, s1, rfl, hp, h1⟩

theorem tokens_ok : ∀ (n : Nat) (s : Text) (ts : List Tok), s.length < n → tokens s = some ts →
    ∀ t ∈ ts, TokOk t := by
  intro _ s ts hn
  clear hn
  induction s using tokens_ind generalizing ts with
  | step s ih =>
    intro h t ht
    cases ts with
    | nil => cases ht
    | cons t0 ts =>
      obtain ⟨c, r, s1, h1, h2, h3⟩ := tokens_cons_inv h
      rcases List.mem_cons.mp ht with rfl | ht
      · exact (nextTok_spec _ _ _ h2).2.1
      · exact ih c r _ s1 h1 h2 ts h3 t ht

/-! ## the token parser -/

theorem toksM_cons (k : Text) (v : JV) (ms : List (Text × JV)) (L : List Tok) :
    toksM ((k, v) :: ms) ++ L = .str k :: .colon :: (toks v ++ (sepTok ms ++ (toksM ms ++ L))) := by
  simp only [toksM, List.cons_append, List.append_assoc]

theorem toksL_cons (x : JV) (xs : List JV) (L : List Tok) :
    toksL (x :: xs) ++ L = toks x ++ (sepTok xs ++ (toksL xs ++ L)) := by
  simp only [toksL, List.append_assoc]

/-- soundness: what the parser accepts is the token sequence of the tree it returns -/
theorem parser_sound : ∀ n : Nat,
    (∀ ts v rest, pVal n ts = some (v, rest) → ts = toks v ++ rest) ∧
    (∀ ts xs rest, pElems n ts = some (xs, rest) → xs ≠ [] ∧ ts = toksL xs ++ .rbrack :: rest) ∧
    (∀ ts ms rest, pMembers n ts = some (ms, rest) → ms ≠ [] ∧ ts = toksM ms ++ .rbrace :: rest) := by
  intro n
  induction n with
  | zero => simp [pVal, pElems, pMembers]
  | succ n ih =>
    obtain ⟨ihV, ihE, ihM⟩ := ih
    refine ⟨?pVal, ?pElems, ?pMembers⟩
    case pVal =>
      intro ts v rest h
      rw [pVal.eq_def] at h; simp only at h
      cases ts with
      | nil => simp at h
      | cons t ts =>
        cases t with
        | str r | num r | tru | fls | nul => cases h; rfl
        | lbrack =>
          simp only at h
          split at h
          · cases h; rfl
          · simp only [Option.map_eq_some_iff, Prod.mk.injEq] at h
            obtain ⟨⟨xs, r'⟩, he, rfl, rfl⟩ := h
            obtain ⟨_, e⟩ := ihE _ _ _ he
            simp only [e, toks, List.cons_append, List.append_assoc, List.nil_append]
        | lbrace =>
          simp only at h
          split at h
          · cases h; rfl
          · simp only [Option.map_eq_some_iff, Prod.mk.injEq] at h
            obtain ⟨⟨ms, r'⟩, he, rfl, rfl⟩ := h
            obtain ⟨_, e⟩ := ihM _ _ _ he
            simp only [e, toks, List.cons_append, List.append_assoc, List.nil_append]
        | rbrace | rbrack | colon | comma => cases h
    case pElems =>
      intro ts xs rest h
      rw [pElems.eq_def] at h; simp only at h
      cases hv : pVal n ts with
      | none => simp [hv] at h
      | some p =>
        obtain ⟨v, r1⟩ := p
        simp only [hv] at h
        have e1 := ihV _ _ _ hv
        split at h
        · rename_i _ r2
          simp only [Option.map_eq_some_iff, Prod.mk.injEq] at h
          obtain ⟨⟨ys, r3⟩, he, rfl, rfl⟩ := h
          obtain ⟨hne, e2⟩ := ihE _ _ _ he
          refine ⟨by simp, ?_⟩
          cases ys with
          | nil => exact absurd rfl hne
          | cons y ys => rw [e1, e2, toksL_cons v]; rfl
        · rename_i _ r2
          simp only [Option.some.injEq, Prod.mk.injEq] at h
          obtain ⟨rfl, rfl⟩ := h
          refine ⟨by simp, ?_⟩
          rw [e1, toksL_cons v]; rfl
        · cases h
    case pMembers =>
      intro ts ms rest h
      rw [pMembers.eq_def] at h; simp only at h
      split at h
      · rename_i k ts'
        cases hv : pVal n ts' with
        | none => simp [hv] at h
        | some p =>
          obtain ⟨v, r1⟩ := p
          simp only [hv] at h
          have e1 := ihV _ _ _ hv
          split at h
          · rename_i _ r2
            simp only [Option.map_eq_some_iff, Prod.mk.injEq] at h
            obtain ⟨⟨ys, r3⟩, he, rfl, rfl⟩ := h
            obtain ⟨hne, e2⟩ := ihM _ _ _ he
            refine ⟨by simp, ?_⟩
            cases ys with
            | nil => exact absurd rfl hne
            | cons y ys => rw [e1, e2, toksM_cons k v]; rfl
          · rename_i _ r2
            simp only [Option.some.injEq, Prod.mk.injEq] at h
            obtain ⟨rfl, rfl⟩ := h
            refine ⟨by simp, ?_⟩
            rw [e1, toksM_cons k v]; rfl
          · cases h
      · cases h


mutual
/-- fuel the token parser needs for a tree -/
def fV : JV → Nat
  | .arr xs => 1 + fL xs
  | .obj ms => 1 + fM ms
  | _ => 1
def fL : List JV → Nat
  | [] => 0
  | x :: xs => 1 + max (fV x) (fL xs)
def fM : List (Text × JV) → Nat
  | [] => 0
  | (_, v) :: ms => 1 + max (fV v) (fM ms)
end

mutual
/-- fuel `validany` needs for a tree: three calls per level of nesting (`vAny`, `vArr` / `vObj`, the
loop) and one per element -/
def gV : JV → Nat
  | .arr xs => 2 + gE xs
  | .obj ms => 2 + gM ms
  | _ => 1
def gE : List JV → Nat
  | [] => 0
  | x :: xs => 1 + max (gV x) (gE xs)
def gM : List (Text × JV) → Nat
  | [] => 0
  | (_, v) :: ms => 1 + max (gV v) (gM ms)
end

theorem fV_pos (v : JV) : 1 ≤ fV v := by
  cases v <;> simp only [fV] <;> omega

theorem gV_pos (v : JV) : 1 ≤ gV v := by
  cases v <;> simp only [gV] <;> omega

/-- the fuel of a non-empty list covers its first value and the rest -/
theorem le_of_succ_max_le {a b n : Nat} (h : 1 + max a b ≤ n + 1) : a ≤ n ∧ b ≤ n := by omega

/-- tokens a value can start with -/
def startTok : Tok → Bool
  | .str _ | .num _ | .tru | .fls | .nul | .lbrack | .lbrace => true
  | _ => false

theorem toks_head (v : JV) : ∃ t ts, toks v = t :: ts ∧ startTok t = true := by
  cases v <;> exact ⟨_, _, rfl, rfl⟩

/-- `[` not followed by `]` opens a non-empty array -/
theorem pVal_lbrack (n : Nat) {t : Tok} (ts : List Tok) (ht : startTok t = true) :
    pVal (n + 1) (.lbrack :: t :: ts) = (pElems n (t :: ts)).map fun p => (.arr p.1, p.2) := by
  cases t <;> first | rfl | cases ht

mutual
/-- completeness: the token sequence of a tree parses back to the tree -/
theorem pVal_toks : ∀ (v : JV) (n : Nat) (rest : List Tok), fV v ≤ n → pVal n (toks v ++ rest) = some (v, rest)
  | v, 0, _, h => absurd (fV_pos v) (by omega)
  | .str r, n + 1, rest, _ | .num r, n + 1, rest, _ | .tru, n + 1, rest, _ | .fls, n + 1, rest, _ | .nul, n + 1, rest, _ =>
    rfl
  | .arr [], n + 1, rest, _ => rfl
  | .arr (x :: xs), n + 1, rest, h => by
    have ih := pElems_toksL (x :: xs) n rest (by simp) (by simp only [fV] at h; omega)
    obtain ⟨t, ts, e, hst⟩ := toks_head x
    simp only [toks, List.cons_append, List.append_assoc, List.nil_append]
    rw [toksL_cons, e] at ih ⊢
    rw [List.cons_append] at ih ⊢
    rw [pVal_lbrack n _ hst, ih]; rfl
  | .obj [], n + 1, rest, _ => rfl
  | .obj ((k, v) :: ms), n + 1, rest, h => by
    have ih := pMembers_toksM ((k, v) :: ms) n rest (by simp) (by simp only [fV] at h; omega)
    simp only [toks, List.cons_append, List.append_assoc, List.nil_append]
    rw [toksM_cons] at ih ⊢
    exact congrArg (Option.map fun p : List (Text × JV) × List Tok => (JV.obj p.1, p.2)) ih
theorem pElems_toksL : ∀ (xs : List JV) (n : Nat) (rest : List Tok), xs ≠ [] → fL xs ≤ n →
    pElems n (toksL xs ++ .rbrack :: rest) = some (xs, rest)
  | [], _, _, hne, _ => absurd rfl hne
  | x :: xs, 0, _, _, h => by simp only [fL] at h; omega
  | x :: xs, n + 1, rest, _, h => by
    simp only [fL] at h
    have hv := pVal_toks x n (sepTok xs ++ (toksL xs ++ .rbrack :: rest)) (le_of_succ_max_le h).1
    rw [toksL_cons, pElems.eq_def]
    simp only [hv]
    cases xs with
    | nil => rfl
    | cons y ys =>
      have ih := pElems_toksL (y :: ys) n rest (by simp) (le_of_succ_max_le h).2
      simp only [sepTok, List.cons_append, List.nil_append, ih, Option.map_some]
theorem pMembers_toksM : ∀ (ms : List (Text × JV)) (n : Nat) (rest : List Tok), ms ≠ [] → fM ms ≤ n →
    pMembers n (toksM ms ++ .rbrace :: rest) = some (ms, rest)
  | [], _, _, hne, _ => absurd rfl hne
  | (k, v) :: ms, 0, _, _, h => by simp only [fM] at h; omega
  | (k, v) :: ms, n + 1, rest, _, h => by
    simp only [fM] at h
    have hv := pVal_toks v n (sepTok ms ++ (toksM ms ++ .rbrace :: rest)) (le_of_succ_max_le h).1
    rw [toksM_cons, pMembers.eq_def]
    simp only [hv]
    cases ms with
    | nil => rfl
    | cons y ys =>
      have ih := pMembers_toksM (y :: ys) n rest (by simp) (le_of_succ_max_le h).2
      simp only [sepTok, List.cons_append, List.nil_append, ih, Option.map_some]
end

mutual
theorem fV_le : ∀ v : JV, fV v ≤ (toks v).length
  | .str _ | .num _ | .tru | .fls | .nul => by simp [fV, toks]
  | .arr xs => by
    have := fL_le xs
    simp only [fV, toks, List.length_cons, List.length_append, List.length_nil]; omega
  | .obj ms => by
    have := fM_le ms
    simp only [fV, toks, List.length_cons, List.length_append, List.length_nil]; omega
theorem fL_le : ∀ xs : List JV, fL xs ≤ (toksL xs).length + 1
  | [] => by simp [fL]
  | x :: xs => by
    have h0 := fV_pos x
    have h1 := fV_le x
    have h2 := fL_le xs
    simp only [fL, toksL, List.length_append]; omega
theorem fM_le : ∀ ms : List (Text × JV), fM ms ≤ (toksM ms).length + 1
  | [] => by simp [fM]
  | (k, v) :: ms => by
    have h1 := fV_le v
    have h2 := fM_le ms
    simp only [fM, toksM, List.length_append, List.length_cons]; omega
end

mutual
theorem gV_le : ∀ v : JV, gV v ≤ 3 * (toks v).length
  | .str _ | .num _ | .tru | .fls | .nul => by simp [gV, toks]
  | .arr xs => by
    have := gE_le xs
    simp only [gV, toks, List.length_cons, List.length_append, List.length_nil]; omega
  | .obj ms => by
    have := gM_le ms
    simp only [gV, toks, List.length_cons, List.length_append, List.length_nil]; omega
theorem gE_le : ∀ xs : List JV, gE xs ≤ 3 * (toksL xs).length + 1
  | [] => by simp [gE]
  | x :: xs => by
    have h0 := gV_pos x
    have h1 := gV_le x
    have h2 := gE_le xs
    simp only [gE, toksL, List.length_append]; omega
theorem gM_le : ∀ ms : List (Text × JV), gM ms ≤ 3 * (toksM ms).length + 1
  | [] => by simp [gM]
  | (k, v) :: ms => by
    have h1 := gV_le v
    have h2 := gM_le ms
    simp only [gM, toksM, List.length_append, List.length_cons]; omega
end

/-- the same for a complete token list: the fuel of `parseToks` suffices -/
theorem parseToks_toks (v : JV) : parseToks (toks v) = some v := by
  unfold parseToks
  have h := pVal_toks v (2 * (toks v).length + 2) [] (by have := fV_le v; omega)
  simp only [List.append_nil] at h
  rw [h]

/-- and a token sequence that parses to a tree is that tree's token sequence -/
theorem parseToks_sound (ts : List Tok) (v : JV) (h : parseToks ts = some v) : ts = toks v := by
  unfold parseToks at h
  split at h
  · rename_i v' hv
    simp only [Option.some.injEq] at h
    subst h
    simpa using (parser_sound _).1 _ _ _ hv
  · cases h

/-! ## bytewise order, stable insertion sort -/

/-- `ltBytes` is the lexicographic order of byte lists -/
theorem ltBytes_iff : ∀ a b : Text, ltBytes a b = true ↔ a < b
  | [], [] => by simp [ltBytes]
  | [], _ :: _ => by simp [ltBytes]
  | _ :: _, [] => by simp [ltBytes]
  | a :: as, b :: bs => by
    rw [List.cons_lt_cons_iff, ← ltBytes_iff as bs]
    simp only [ltBytes]
    by_cases h : a < b
    · simp [h]
    · by_cases h' : b < a
      · have : a ≠ b := by rintro rfl; exact UInt8.lt_irrefl _ h'
        simp [h, h', this]
      · have : a = b := Classical.byContradiction fun e => (UInt8.lt_or_lt_of_ne e).elim h h'
        subst this
        simp [h]

theorem ltBytes_irrefl (a : Text) : ltBytes a a = false := by
  cases h : ltBytes a a with
  | false => rfl
  | true => exact absurd ((ltBytes_iff a a).mp h) (List.lt_irrefl a)

theorem ltBytes_total (a b : Text) (h : a ≠ b) : ltBytes a b = true ∨ ltBytes b a = true := by
  rw [ltBytes_iff, ltBytes_iff]
  exact Classical.or_iff_not_imp_left.mpr fun h1 => Classical.byContradiction fun h2 =>
    h (List.le_antisymm (List.not_lt.mp h2) (List.not_lt.mp h1))

theorem ltBytes_trans (a b c : Text) (h1 : ltBytes a b = true) (h2 : ltBytes b c = true) : ltBytes a c = true :=
  (ltBytes_iff a c).mpr (List.lt_trans ((ltBytes_iff a b).mp h1) ((ltBytes_iff b c).mp h2))

theorem ltBytes_asymm (a b : Text) (h : ltBytes a b = true) : ltBytes b a = false := by
  cases hq : ltBytes b a with
  | false => rfl
  | true => exact absurd ((ltBytes_iff b a).mp hq) (List.lt_asymm ((ltBytes_iff a b).mp h))

theorem insertBy_perm {α : Type} (lt : α → α → Bool) (x : α) : ∀ l : List α, (insertBy lt x l).Perm (x :: l)
  | [] => List.Perm.refl _
  | y :: ys => by
    simp only [insertBy]
    split
    · exact ((insertBy_perm lt x ys).cons y).trans (List.Perm.swap x y ys)
    · exact List.Perm.refl _

theorem sortBy_perm {α : Type} (lt : α → α → Bool) : ∀ l : List α, (sortBy lt l).Perm l
  | [] => List.Perm.refl _
  | x :: xs => by
    simp only [sortBy, List.foldr_cons]
    exact (insertBy_perm lt x _).trans ((sortBy_perm lt xs).cons x)

/-- stable insertion keeps a pairwise relation that goes along with the comparison against the new element -/
theorem insertBy_pairwise {α : Type} (lt : α → α → Bool) (R : α → α → Prop) (x : α) :
    ∀ l : List α, l.Pairwise R → (∀ y ∈ l, lt y x = true → R y x) →
      (∀ y ∈ l, lt y x = false → R x y ∧ ∀ z, R y z → R x z) → (insertBy lt x l).Pairwise R
  | [], _, _, _ => by simp [insertBy]
  | y :: ys, hs, h1, h2 => by
    obtain ⟨hy, hys⟩ := List.pairwise_cons.mp hs
    simp only [insertBy]
    split
    · rename_i h
      refine List.pairwise_cons.mpr ⟨fun z hz => ?_, insertBy_pairwise lt R x ys hys
        (fun z hz => h1 z (List.mem_cons_of_mem _ hz)) (fun z hz => h2 z (List.mem_cons_of_mem _ hz))⟩
      exact List.forall_mem_cons.mpr ⟨h1 y (by simp) h, hy⟩ z ((insertBy_perm lt x ys).mem_iff.mp hz)
    · rename_i h
      obtain ⟨hxy, htr⟩ := h2 y (by simp) (by simpa using h)
      exact List.pairwise_cons.mpr ⟨List.forall_mem_cons.mpr ⟨hxy, fun z hz => htr z (hy z hz)⟩, hs⟩

theorem insertBy_map {α β : Type} (lt' : α → α → Bool) (lt : β → β → Bool) (f : α → β)
    (h : ∀ a b, lt' a b = lt (f a) (f b)) (x : α) :
    ∀ l : List α, (insertBy lt' x l).map f = insertBy lt (f x) (l.map f)
  | [] => rfl
  | y :: ys => by
    simp only [insertBy, List.map_cons, h y x]
    split
    · simp [insertBy_map lt' lt f h x ys]
    · simp

theorem sortBy_map {α β : Type} (lt' : α → α → Bool) (lt : β → β → Bool) (f : α → β)
    (h : ∀ a b, lt' a b = lt (f a) (f b)) : ∀ l : List α, (sortBy lt' l).map f = sortBy lt (l.map f)
  | [] => rfl
  | x :: xs => by
    simp only [sortBy, List.foldr_cons, List.map_cons]
    rw [insertBy_map lt' lt f h]
    congr 1
    exact sortBy_map lt' lt f h xs

section Keyed
variable {α : Type} (lt : α → α → Bool) (key : α → Text)

/-- strictly increasing keys -/
def KeySorted (l : List α) : Prop := l.Pairwise (fun a b => ltBytes (key a) (key b) = true)

theorem insertBy_keySorted (hlt : ∀ a b, key a ≠ key b → lt a b = ltBytes (key a) (key b)) (x : α)
    (l : List α) (hs : KeySorted key l) (hne : ∀ y ∈ l, key y ≠ key x) : KeySorted key (insertBy lt x l) :=
  insertBy_pairwise lt _ x l hs (fun y hy h => by rw [← hlt y x (hne y hy)]; exact h) fun y hy h => by
    rw [hlt y x (hne y hy)] at h
    have hxy := (ltBytes_total _ _ (hne y hy)).resolve_left (by rw [h]; nofun)
    exact ⟨hxy, fun z hz => ltBytes_trans _ _ _ hxy hz⟩

theorem sortBy_keySorted (hlt : ∀ a b, key a ≠ key b → lt a b = ltBytes (key a) (key b)) :
    ∀ l : List α, l.Pairwise (fun a b => key a ≠ key b) → KeySorted key (sortBy lt l)
  | [], _ => by simp [sortBy, KeySorted]
  | x :: xs, h => by
    simp only [List.pairwise_cons] at h
    simp only [sortBy, List.foldr_cons]
    apply insertBy_keySorted lt key hlt x _ (sortBy_keySorted hlt xs h.2)
    intro y hy
    have := (sortBy_perm lt xs).mem_iff.mp hy
    exact fun e => h.1 y this e.symm

/-- the sorted order does not depend on the input order when the keys are pairwise different -/
theorem sortBy_perm_eq (hlt : ∀ a b, key a ≠ key b → lt a b = ltBytes (key a) (key b))
    (l₁ l₂ : List α) (hp : l₁.Perm l₂) (hd : l₁.Pairwise (fun a b => key a ≠ key b)) :
    sortBy lt l₁ = sortBy lt l₂ := by
  have hd2 : l₂.Pairwise (fun a b => key a ≠ key b) :=
    hp.pairwise_iff (fun {x y} (h : key x ≠ key y) => (fun e => h e.symm : key y ≠ key x)) |>.mp hd
  exact List.Perm.eq_of_pairwise (fun a b _ _ hab hba => by rw [ltBytes_asymm _ _ hab] at hba; cases hba)
    (sortBy_keySorted lt key hlt l₁ hd) (sortBy_keySorted lt key hlt l₂ hd2)
    (((sortBy_perm lt l₁).trans hp).trans (sortBy_perm lt l₂).symm)

end Keyed

/-- on members with different sort keys `Less` is the comparison of the keys -/
theorem memberLess_of_ne (a b : Member) (h : sortKey a.key ≠ sortKey b.key) :
    memberLess a b = ltBytes (sortKey a.key) (sortKey b.key) := by
  unfold memberLess
  rcases ltBytes_total _ _ h with h1 | h1
  · simp [h1]
  · simp [h1, ltBytes_asymm _ _ h1]


/-! ## the tree the printer prints: in every object the members sorted by `sortBy pairLess` -/

def Opts.unsorted (o : Opts) : Opts := { o with sortKeys := false }

@[simp] theorem unsorted_elemCol (o : Opts) (t : Nat) (f : Bool) : elemCol o.unsorted t f = elemCol o t f := rfl
@[simp] theorem unsorted_memberCol (o : Opts) (t : Nat) (k : Text) : memberCol o.unsorted t k = memberCol o t k := rfl
@[simp] theorem unsorted_fits (o : Opts) (c : Nat) (v : JV) : fitsOneLine o.unsorted c v = fitsOneLine o c v := rfl
@[simp] theorem unsorted_sortKeys (o : Opts) : o.unsorted.sortKeys = false := rfl

/-- the order on (rendered member, member) pairs: `byKeyVal.Less` on the rendered member -/
def pairLess (a b : Member × (Text × JV)) : Bool := memberLess a.1 b.1

mutual
/-- the tree whose plain (unsorted) print is the print of `v` under `o`: in every object the
members are in the order `sortBy pairLess` gives them (which depends on the rendered values, hence on
the position) -/
def srt (o : Opts) : Nat → Nat → JV → JV
  | tabs, _, .arr xs => .arr (srtL o (tabs + 1) true xs)
  | tabs, _, .obj ms =>
    .obj ((if o.sortKeys then sortBy pairLess (srtM o (tabs + 1) ms) else srtM o (tabs + 1) ms).map (·.2))
  | _, _, v => v
def srtL (o : Opts) : Nat → Bool → List JV → List JV
  | _, _, [] => []
  | tabs, first, x :: xs => srt o tabs (elemCol o tabs first) x :: srtL o tabs false xs
/-- each member with its rendering -/
def srtM (o : Opts) : Nat → List (Text × JV) → List (Member × (Text × JV))
  | _, [] => []
  | tabs, (k, v) :: ms =>
    (⟨k, ppV o tabs (memberCol o tabs k) v⟩, (k, srt o tabs (memberCol o tabs k) v)) :: srtM o tabs ms
end

theorem srtL_length (o : Opts) : ∀ (tabs : Nat) (first : Bool) (xs : List JV), (srtL o tabs first xs).length = xs.length
  | _, _, [] => rfl
  | tabs, first, x :: xs => by simp [srtL, srtL_length o tabs false xs]

theorem srtM_length (o : Opts) : ∀ (tabs : Nat) (ms : List (Text × JV)), (srtM o tabs ms).length = ms.length
  | _, [] => rfl
  | tabs, (k, v) :: ms => by simp [srtM, srtM_length o tabs ms]

theorem srtM_fst (o : Opts) : ∀ (tabs : Nat) (ms : List (Text × JV)), (srtM o tabs ms).map (·.1) = ppMembers o tabs ms
  | _, [] => rfl
  | tabs, (k, v) :: ms => by simp [srtM, ppMembers, srtM_fst o tabs ms]

mutual
theorem oneLine_srt (o : Opts) : ∀ (tabs col : Nat) (v : JV), oneLine (srt o tabs col v) = oneLine v
  | _, _, .str _ | _, _, .num _ | _, _, .tru | _, _, .fls | _, _, .nul => rfl
  | tabs, _, .arr xs => by simp only [srt, oneLine, oneLineL_srt o (tabs + 1) true xs]
  | _, _, .obj ms => by simp [srt, oneLine]
theorem oneLineL_srt (o : Opts) : ∀ (tabs : Nat) (first : Bool) (xs : List JV), oneLineL (srtL o tabs first xs) = oneLineL xs
  | _, _, [] => rfl
  | tabs, first, x :: xs => by
    have hs : sepText [44, 32] (srtL o tabs false xs) = sepText [44, 32] xs := by
      have := srtL_length o tabs false xs
      cases xs <;> cases h : srtL o tabs false _ <;> simp_all [sepText]
    simp only [srtL, oneLineL, oneLine_srt o tabs _ x, oneLineL_srt o tabs false xs, hs]
end


/-! ## printed text tokenises to the tree's tokens -/

mutual
/-- every scalar and every key of the tree is a lexeme the scanner produces -/
def WF : JV → Prop
  | .str r => TokOk (.str r)
  | .num r => TokOk (.num r)
  | .arr xs => WFL xs
  | .obj ms => WFM ms
  | _ => True
def WFL : List JV → Prop
  | [] => True
  | x :: xs => WF x ∧ WFL xs
def WFM : List (Text × JV) → Prop
  | [] => True
  | (k, v) :: ms => TokOk (.str k) ∧ WF v ∧ WFM ms
end

mutual
theorem wf_of_toks : ∀ v : JV, (∀ t ∈ toks v, TokOk t) → WF v
  | .str r, h | .num r, h => by simp only [WF]; exact h _ (by simp [toks])
  | .tru, _ | .fls, _ | .nul, _ => by simp [WF]
  | .arr xs, h => by
    simp only [WF]
    exact wfL_of_toks xs (fun t ht => h t (by simp [toks, ht]))
  | .obj ms, h => by
    simp only [WF]
    exact wfM_of_toks ms (fun t ht => h t (by simp [toks, ht]))
theorem wfL_of_toks : ∀ xs : List JV, (∀ t ∈ toksL xs, TokOk t) → WFL xs
  | [], _ => by simp [WFL]
  | x :: xs, h => by
    simp only [WFL]
    exact ⟨wf_of_toks x (fun t ht => h t (by simp [toksL, ht])), wfL_of_toks xs (fun t ht => h t (by simp [toksL, ht]))⟩
theorem wfM_of_toks : ∀ ms : List (Text × JV), (∀ t ∈ toksM ms, TokOk t) → WFM ms
  | [], _ => by simp [WFM]
  | (k, v) :: ms, h => by
    simp only [WFM]
    exact ⟨h _ (by simp [toksM]), wf_of_toks v (fun t ht => h t (by simp [toksM, ht])),
      wfM_of_toks ms (fun t ht => h t (by simp [toksM, ht]))⟩
end

/-- the indent is JSON white space (otherwise the output is not JSON) -/
def IndentWs (o : Opts) : Prop := AllWs o.indent

theorem indentN_ws (o : Opts) (h : IndentWs o) : ∀ n, AllWs (indentN o n)
  | 0 => by simp [indentN, AllWs]
  | n + 1 => List.forall_mem_append.mpr ⟨h, indentN_ws o h n⟩

theorem numStop_comma (t : Text) : NumStop (44 :: t) := numStop_cons t (by decide)
theorem numStop_nl (t : Text) : NumStop (10 :: t) := numStop_cons t (by decide)

theorem tokens_lit (t : Tok) (r : Text) (ok : TokOk t) (hs : TokStop t r) :
    tokens (tokText t ++ r) = (tokens r).map (t :: ·) := tokens_tok t r ok hs

theorem tokens_ws_cons (c : Byte) (s : Text) (h : isWs c = true) : tokens (c :: s) = tokens s :=
  tokens_ws_prefix [c] s (by intro x hx; simp at hx; subst hx; exact h)

theorem tokens_skip (s : Text) : tokens s = tokens (skipWs s) := by
  obtain ⟨w, hw, hs, _⟩ := skipWs_decomp s
  have := tokens_ws_prefix w (skipWs s) hw
  rw [← hs] at this
  exact this

theorem map_nil_append {α : Type} (o : Option (List α)) : o.map ([] ++ ·) = o := by
  cases o <;> rfl

theorem map_map_append {α : Type} (o : Option (List α)) (a b : List α) :
    (o.map (b ++ ·)).map (a ++ ·) = o.map (a ++ b ++ ·) := by
  cases o <;> simp

theorem map_cons_eq {α : Type} (o : Option (List α)) (a : α) :
    o.map (a :: ·) = o.map ([a] ++ ·) := by
  cases o <;> simp

/-- the tokens of `s` are `L` followed by the tokens of `rest` (white space may stand before each
token of `L`).  When `rest` does not tokenise this only says that `s` does not either. -/
def Lexes (s : Text) (L : List Tok) (rest : Text) : Prop := tokens s = (tokens rest).map (L ++ ·)

theorem Lexes.refl (s : Text) : Lexes s [] s := (map_nil_append _).symm

theorem Lexes.trans {s m r : Text} {L L' : List Tok} (h1 : Lexes s L m) (h2 : Lexes m L' r) :
    Lexes s (L ++ L') r := by
  unfold Lexes at *
  rw [h1, h2, map_map_append]

theorem Lexes.cast {s r : Text} {L L' : List Tok} (h : Lexes s L r) (e : L = L') : Lexes s L' r := e ▸ h

theorem Lexes.tok (t : Tok) {r : Text} (ok : TokOk t) (hs : TokStop t r) : Lexes (tokText t ++ r) [t] r :=
  tokens_tok t r ok hs

theorem Lexes.of_nextTok {u rest : Text} {t : Tok} (h : nextTok u = some (t, rest)) : Lexes u [t] rest := by
  obtain ⟨e, ok, hs⟩ := nextTok_spec u t rest h
  rw [e]; exact .tok t ok hs

theorem Lexes.skip {s r : Text} {L : List Tok} (h : Lexes (skipWs s) L r) : Lexes s L r :=
  (tokens_skip s).trans h

theorem Lexes.ws {w s r : Text} {L : List Tok} (hw : AllWs w) (h : Lexes s L r) : Lexes (w ++ s) L r :=
  (tokens_ws_prefix w s hw).trans h

theorem Lexes.ws_cons {c : Byte} {s r : Text} {L : List Tok} (hc : isWs c = true) (h : Lexes s L r) :
    Lexes (c :: s) L r :=
  (tokens_ws_cons c s hc).trans h

/-- the separator before the remaining elements (members): a comma and one white-space byte, or,
after the last one, nothing -/
theorem lexes_sep {α β : Type} (l : List α) (l' : List β) (hl : l.isEmpty = l'.isEmpty) (b : Byte)
    (hb : isWs b = true) (X : Text) :
    Lexes (sepText [44, b] l ++ X) (sepTok l') X ∧ ((l = [] → NumStop X) → NumStop (sepText [44, b] l ++ X)) :=
  match l, l', hl with
  | [], [], _ => ⟨.refl _, fun h => h rfl⟩
  | _ :: _, _ :: _, _ =>
    ⟨(Lexes.tok .comma tokOk_comma trivial).trans (.ws_cons hb (.refl _)), fun _ => numStop_comma _⟩
  | [], _ :: _, h => nomatch h
  | _ :: _, [], h => nomatch h

mutual
theorem tokens_oneLine : ∀ (v : JV) (t rest : Text), oneLine v = some t → WF v → NumStop rest →
    tokens (t ++ rest) = (tokens rest).map (toks v ++ ·)
  | .str r, _, rest, h, hw, hr | .num r, _, rest, h, hw, hr => by
    simp only [oneLine, Option.some.injEq] at h; subst h
    simp only [WF] at hw; simp only [toks]; exact Lexes.tok _ hw (.of_numStop hr)
  | .tru, _, rest, h, _, _ => by
    simp only [oneLine, Option.some.injEq] at h; subst h
    simp only [toks]; exact Lexes.tok .tru tokOk_tru trivial
  | .fls, _, rest, h, _, _ => by
    simp only [oneLine, Option.some.injEq] at h; subst h
    simp only [toks]; exact Lexes.tok .fls tokOk_fls trivial
  | .nul, _, rest, h, _, _ => by
    simp only [oneLine, Option.some.injEq] at h; subst h
    simp only [toks]; exact Lexes.tok .nul tokOk_nul trivial
  | .obj ms, _, _, h, _, _ => by simp only [oneLine] at h; cases h
  | .arr xs, t, rest, h, hw, hr => by
    simp only [oneLine, Option.map_eq_some_iff] at h
    obtain ⟨b, hb, rfl⟩ := h
    simp only [WF] at hw
    show Lexes _ _ _
    simp only [toks, List.cons_append, List.append_assoc, List.nil_append]
    exact (Lexes.tok .lbrack tokOk_lbrack trivial).trans
      (Lexes.trans (tokens_oneLineL xs b rest hb hw) (.tok .rbrack tokOk_rbrack trivial))
theorem tokens_oneLineL : ∀ (xs : List JV) (t tail : Text), oneLineL xs = some t → WFL xs →
    tokens (t ++ 93 :: tail) = (tokens (93 :: tail)).map (toksL xs ++ ·)
  | [], _, tail, h, _ => by cases h; exact Lexes.refl _
  | x :: xs, t, tail, h, hw => by
    simp only [oneLineL] at h
    cases h1 : oneLine x with
    | none => simp [h1] at h
    | some a =>
      cases h2 : oneLineL xs with
      | none => simp [h1, h2] at h
      | some b =>
        simp only [h1, h2, Option.some.injEq] at h
        subst h
        have ihL := tokens_oneLineL xs b tail h2 hw.2
        obtain ⟨sep, stop⟩ := lexes_sep xs xs rfl 32 (by decide) (b ++ 93 :: tail)
        have stop := stop fun e => by subst e; cases h2; exact numStop_cons tail (by decide)
        show Lexes _ _ _
        simp only [List.append_assoc]
        exact (Lexes.trans (tokens_oneLine x a _ h1 hw.1 stop) (sep.trans ihL)).cast
          (by simp only [toksL, List.append_assoc])
end

theorem fitsOneLine_some {o : Opts} {col : Nat} {v : JV} {t : Text} (h : fitsOneLine o col v = some t) :
    oneLine v = some t := by
  unfold fitsOneLine at h
  split at h
  · simp only at h
    split at h
    · cases hq : oneLine v with
      | none => simp [hq] at h
      | some t' =>
        simp only [hq] at h
        split at h
        · simpa using h
        · cases h
    · cases h
  · cases h

mutual
/-- the printed text of a tree tokenises to the tree's tokens (plain printing; with `SortKeys`
see `ppV_srt`) -/
theorem tokens_ppV (o : Opts) (hs : o.sortKeys = false) (hi : IndentWs o) :
    ∀ (v : JV) (tabs col : Nat) (rest : Text), WF v → NumStop rest →
      tokens (ppV o tabs col v ++ rest) = (tokens rest).map (toks v ++ ·)
  | .str r, _, _, rest, hw, hr | .num r, _, _, rest, hw, hr | .tru, _, _, rest, hw, hr | .fls, _, _, rest, hw, hr
  | .nul, _, _, rest, hw, hr => tokens_oneLine _ _ rest rfl hw hr
  | .arr xs, tabs, col, rest, hw, hr => by
    simp only [ppV]
    cases hf : fitsOneLine o col (.arr xs) with
    | some t => exact tokens_oneLine (.arr xs) t rest (fitsOneLine_some hf) hw hr
    | none =>
      cases xs with
      | nil => exact (Lexes.tok .lbrack tokOk_lbrack trivial).trans (.tok .rbrack tokOk_rbrack trivial)
      | cons x xs =>
        show Lexes _ _ _
        simp only [List.isEmpty_cons, Bool.false_eq_true, ↓reduceIte, List.cons_append, List.append_assoc,
          List.nil_append]
        exact (Lexes.tok .lbrack tokOk_lbrack trivial).trans
          (Lexes.trans (tokens_ppElems o hs hi (x :: xs) (tabs + 1) true _ hw (numStop_nl _))
            (.ws_cons (by decide) (.ws (indentN_ws o hi tabs) (.tok .rbrack tokOk_rbrack trivial))))
  | .obj ms, tabs, col, rest, hw, hr => by
    simp only [ppV, hs, Bool.false_eq_true, ↓reduceIte]
    cases ms with
    | nil => exact (Lexes.tok .lbrace tokOk_lbrace trivial).trans (.tok .rbrace tokOk_rbrace trivial)
    | cons m ms =>
      show Lexes _ _ _
      simp only [List.isEmpty_cons, Bool.false_eq_true, ↓reduceIte, List.cons_append, List.append_assoc,
        List.nil_append]
      exact (Lexes.tok .lbrace tokOk_lbrace trivial).trans (.ws_cons (by decide)
        (Lexes.trans (tokens_join o hs hi (m :: ms) (tabs + 1) _ hw (numStop_nl _))
          (.ws_cons (by decide) (.ws (indentN_ws o hi tabs) (.tok .rbrace tokOk_rbrace trivial)))))
theorem tokens_ppElems (o : Opts) (hs : o.sortKeys = false) (hi : IndentWs o) :
    ∀ (xs : List JV) (tabs : Nat) (first : Bool) (tail : Text), WFL xs → NumStop tail →
      tokens (ppElems o tabs first xs ++ tail) =
        (tokens tail).map ((if first then [] else sepTok xs) ++ toksL xs ++ ·)
  | [], _, first, tail, _, _ => by cases first <;> exact Lexes.refl _
  | x :: xs, tabs, first, tail, hw, hr => by
    have hstop : NumStop (ppElems o tabs false xs ++ tail) := by
      cases xs with
      | nil => exact hr
      | cons y ys => exact numStop_comma _
    have e := Lexes.ws_cons (c := 10) (by decide) (.ws (indentN_ws o hi tabs)
      (Lexes.trans (tokens_ppV o hs hi x tabs (elemCol o tabs first) _ hw.1 hstop)
        (tokens_ppElems o hs hi xs tabs false tail hw.2 hr)))
    show Lexes _ _ _
    simp only [ppElems, List.append_assoc, List.cons_append]
    cases first with
    | true => exact e.cast (by simp [toksL])
    | false => exact ((Lexes.tok .comma tokOk_comma trivial).trans e).cast (by simp [toksL, sepTok])
theorem tokens_join (o : Opts) (hs : o.sortKeys = false) (hi : IndentWs o) :
    ∀ (ms : List (Text × JV)) (tabs : Nat) (tail : Text), WFM ms → NumStop tail →
      tokens (joinMembers o tabs (ppMembers o tabs ms) ++ tail) = (tokens tail).map (toksM ms ++ ·)
  | [], _, tail, _, _ => Lexes.refl _
  | (k, v) :: ms, tabs, tail, hw, hr => by
    obtain ⟨sep, hstop⟩ := lexes_sep (ppMembers o tabs ms) ms
      (by cases ms with | nil => rfl | cons y _ => cases y; rfl) 10 (by decide)
      (joinMembers o tabs (ppMembers o tabs ms) ++ tail)
    have hstop := hstop fun e => by rw [e]; exact hr
    show Lexes _ _ _
    simp only [ppMembers, joinMembers, memberLine, List.append_assoc, List.cons_append]
    exact (Lexes.ws (indentN_ws o hi tabs) ((Lexes.tok (.str k) hw.1 trivial).trans ((Lexes.tok .colon tokOk_colon trivial).trans
      (.ws_cons (by decide) (Lexes.trans (tokens_ppV o hs hi v tabs (memberCol o tabs k) _ hw.2.1 hstop)
        (sep.trans (tokens_join o hs hi ms tabs tail hw.2.2 hr))))))).cast (by simp [toksM])
end

/-! ## the sorted tree is made of the same lexemes -/

theorem wfM_iff : ∀ ms : List (Text × JV), WFM ms ↔ ∀ kv ∈ ms, TokOk (.str kv.1) ∧ WF kv.2
  | [] => by simp [WFM]
  | (k, v) :: ms => by
    simp only [WFM, wfM_iff ms, List.mem_cons, forall_eq_or_imp]
    constructor
    · rintro ⟨a, b, c⟩; exact ⟨⟨a, b⟩, c⟩
    · rintro ⟨⟨a, b⟩, c⟩; exact ⟨a, b, c⟩

mutual
theorem wf_srt (o : Opts) : ∀ (tabs col : Nat) (v : JV), WF v → WF (srt o tabs col v)
  | _, _, .str _, h | _, _, .num _, h => by simpa [srt] using h
  | _, _, .tru, _ | _, _, .fls, _ | _, _, .nul, _ => by simp [srt, WF]
  | tabs, _, .arr xs, h => by
    simp only [WF] at h
    simp only [srt, WF]
    exact wfL_srt o (tabs + 1) true xs h
  | tabs, _, .obj ms, h => by
    simp only [WF] at h
    simp only [srt, WF]
    rw [wfM_iff]
    intro kv hkv
    have hall := wfM_srtM o (tabs + 1) ms h
    simp only [List.mem_map] at hkv
    obtain ⟨e, he, rfl⟩ := hkv
    split at he
    · exact hall e ((sortBy_perm pairLess _).mem_iff.mp he)
    · exact hall e he
theorem wfL_srt (o : Opts) : ∀ (tabs : Nat) (first : Bool) (xs : List JV), WFL xs → WFL (srtL o tabs first xs)
  | _, _, [], _ => by simp [srtL, WFL]
  | tabs, first, x :: xs, h => by
    simp only [WFL] at h
    simp only [srtL, WFL]
    exact ⟨wf_srt o tabs _ x h.1, wfL_srt o tabs false xs h.2⟩
theorem wfM_srtM (o : Opts) : ∀ (tabs : Nat) (ms : List (Text × JV)), WFM ms →
    ∀ e ∈ srtM o tabs ms, TokOk (.str e.2.1) ∧ WF e.2.2
  | _, [], _, e, he => by simp [srtM] at he
  | tabs, (k, v) :: ms, h, e, he => by
    simp only [WFM] at h
    simp only [srtM, List.mem_cons] at he
    rcases he with rfl | he
    · exact ⟨h.1, wf_srt o tabs _ v h.2.1⟩
    · exact wfM_srtM o tabs ms h.2.2 e he
end


/-! ## white space after the last token -/

theorem skipWs_append_of_cons {s : Text} {d : Byte} {r : Text} (h : skipWs s = d :: r) (x : Text) :
    skipWs (s ++ x) = d :: (r ++ x) := by
  obtain ⟨w, hw, hs, hn⟩ := skipWs_decomp s
  have hd := hn d r h
  rw [h] at hs
  rw [hs, List.append_assoc, skipWs_ws_append _ _ hw]
  exact skipWs_of_nonws d _ hd

theorem skipWs_append_of_nil {s : Text} (h : skipWs s = []) : AllWs s := by
  obtain ⟨w, hw, hs, _⟩ := skipWs_decomp s
  rw [h, List.append_nil] at hs
  rw [hs]; exact hw

/-- what may follow a token is a matter of the first byte: a white-space byte at the very end changes nothing -/
theorem tokStop_snoc {t : Tok} {r : Text} {c : Byte} (hc : isWs c = true) : TokStop t (r ++ [c]) ↔ TokStop t r := by
  cases t <;> try exact Iff.rfl
  cases r with
  | nil => exact ⟨fun _ => numStop_nil, fun _ => numStop_of_ws [] hc⟩
  | cons d r' =>
    exact ⟨fun h c' t' e => h c' (r' ++ [c]) (by rw [(List.cons.inj e).1]; rfl),
      fun h c' t' e => h c' r' (by rw [(List.cons.inj e).1])⟩

theorem nextTok_snoc (u : Text) (c : Byte) (hc : isWs c = true) :
    nextTok (u ++ [c]) = (nextTok u).map fun p => (p.1, p.2 ++ [c]) := by
  cases hq : nextTok u with
  | some p =>
    obtain ⟨t, r⟩ := p
    obtain ⟨e, ok, hs⟩ := nextTok_spec u t r hq
    simp only [Option.map_some]
    rw [e, List.append_assoc]
    exact ok.1 _ ((tokStop_snoc hc).mpr hs)
  | none =>
    simp only [Option.map_none]
    cases hq' : nextTok (u ++ [c]) with
    | none => rfl
    | some p =>
      exfalso
      obtain ⟨t, r⟩ := p
      obtain ⟨e, ok, hs⟩ := nextTok_spec _ t r hq'
      rcases List.eq_nil_or_concat r with rfl | ⟨r', b, rfl⟩
      · -- the token would end with the white-space byte
        simp only [List.append_nil] at e
        have : (tokText t).getLast? = some c := by rw [← e, List.getLast?_concat]
        have := ok.last c this
        rw [hc] at this; cases this
      · simp only [List.concat_eq_append] at e hs
        obtain ⟨e1, e2⟩ := List.append_inj' (e.trans (List.append_assoc _ _ _).symm) rfl
        cases e2
        have := ok.1 r' ((tokStop_snoc hc).mp hs)
        rw [← e1, hq] at this
        cases this

/-- a white-space byte after the last token is insignificant (both ways: a text that does
not tokenise does not tokenise with it either) -/
theorem tokens_snoc_ws (c : Byte) (hc : isWs c = true) : ∀ (n : Nat) (s : Text), s.length < n →
    tokens (s ++ [c]) = tokens s := by
  intro _ s hn
  clear hn
  induction s using tokens_ind with
  | step s ih =>
    cases hq : skipWs s with
    | nil =>
      have h1 := skipWs_append_of_nil hq
      have h2 : AllWs (s ++ [c]) := List.forall_mem_append.mpr ⟨h1, List.forall_mem_cons.mpr ⟨hc, nofun⟩⟩
      rw [tokens_of_ws _ h1, tokens_of_ws _ h2]
    | cons d r =>
      rw [tokens_unfold (s ++ [c]), tokens_unfold s, skipWs_append_of_cons hq, hq]
      simp only
      have := nextTok_snoc (d :: r) c hc
      simp only [List.cons_append] at this
      rw [this]
      cases hp : nextTok (d :: r) with
      | none => rfl
      | some p =>
        obtain ⟨t, r'⟩ := p
        simp only [Option.map_some]
        rw [ih d r t r' hq hp]

theorem tokens_ws_suffix (s : Text) : ∀ w : Text, AllWs w → tokens (s ++ w) = tokens s := by
  intro w
  induction w generalizing s with
  | nil => intro _; simp
  | cons c w ih =>
    intro hw
    have hc : isWs c = true := hw c (by simp)
    have : s ++ c :: w = (s ++ [c]) ++ w := by simp
    rw [this, ih (s ++ [c]) (fun x hx => hw x (by simp [hx])), tokens_snoc_ws c hc _ s (Nat.lt_succ_self _)]


/-! ## the validator and the structural parser accept the same byte strings -/

theorem nextTok_str {r b rest : Text} (h : scanStr r = some (b, rest)) :
    nextTok (34 :: r) = some (.str (34 :: b), rest) := by
  simp (config := {decide := true}) [nextTok, h]

/-- after `validcomma` the text that followed the value does not continue a number -/
theorem vComma_stop {s : Text} {close c : Byte} {r : Text} (h : vComma s close = some (c, r))
    (hcl : close = 93 ∨ close = 125) :
    NumStop s ∧ skipWs s = c :: r ∧ (c = 44 ∨ c = close) := by
  unfold vComma at h
  obtain ⟨w, hw, hs, hn⟩ := skipWs_decomp s
  cases hq : skipWs s with
  | nil => simp [hq] at h
  | cons d r' =>
    simp only [hq] at h
    split at h
    · rename_i hd
      simp only [Option.some.injEq, Prod.mk.injEq] at h
      obtain ⟨rfl, rfl⟩ := h
      simp only [Bool.or_eq_true, decide_eq_true_eq] at hd
      refine ⟨?_, rfl, hd⟩
      rw [hs, hq]
      cases w with
      | nil =>
        simp only [List.nil_append]
        apply numStop_cons
        rcases hd with rfl | rfl
        · decide
        · rcases hcl with rfl | rfl <;> decide
      | cons x w' => exact numStop_of_ws _ (hw x (by simp))
    · cases h

theorem map_append_cons {α : Type} (o : Option (List α)) (a : List α) (b : α) :
    (o.map (b :: ·)).map (a ++ ·) = o.map (a ++ [b] ++ ·) := by
  cases o <;> simp

theorem vColon_lexes {s r : Text} (h : vColon s = some r) : Lexes s [.colon] r := by
  unfold vColon at h
  cases hq : skipWs s with
  | nil => rw [hq] at h; cases h
  | cons d r' =>
    rw [hq] at h; simp only at h
    split at h
    · rename_i hd; subst hd; cases h
      exact .skip (by rw [hq]; exact .tok .colon tokOk_colon trivial)
    · cases h

theorem vAny_succ (n : Nat) (s : Text) : vAny (n + 1) s =
    match skipWs s with
    | [] => none
    | c :: r => if c = 123 then vObj n r else if c = 91 then vArr n r else (scalarLex c r).map (·.2) := by
  rw [vAny.eq_def]; simp only
  cases skipWs s with
  | nil => rfl
  | cons c r =>
    simp only
    by_cases h1 : c = 123; · subst h1; rfl
    by_cases h2 : c = 91; · subst h2; rfl
    simp only [h1, h2, ↓reduceIte, scalarLex]
    by_cases h3 : c = 34; · subst h3; cases scanStr r <;> rfl
    by_cases h4 : (decide (c = 45) || isDigit c) = true
    · simp only [h3, h4, ↓reduceIte]; cases scanNum (c :: r) <;> rfl
    by_cases h5 : c = 116; · subst h5; cases scanLit wTrue r <;> rfl
    by_cases h6 : c = 102; · subst h6; cases scanLit wFalse r <;> rfl
    by_cases h7 : c = 110; · subst h7; cases scanLit wNull r <;> rfl
    simp only [h3, h4, h5, h6, h7, ↓reduceIte]; rfl


theorem toks_of_scalar {t : Tok} (h : isScalar t = true) : ∃ v, toks v = [t] := by
  cases t with
  | str r => exact ⟨.str r, rfl⟩
  | num r => exact ⟨.num r, rfl⟩
  | tru => exact ⟨.tru, rfl⟩
  | fls => exact ⟨.fls, rfl⟩
  | nul => exact ⟨.nul, rfl⟩
  | _ => cases h

/-- soundness of the validator w.r.t. the tokeniser: whatever `validany` (…) consumes is, as
tokens, the token sequence of a tree, followed by the tokens of the rest -/
theorem valid_sound : ∀ n : Nat,
    (∀ s rest, vAny n s = some rest → ∃ v, NumStop rest → tokens s = (tokens rest).map (toks v ++ ·)) ∧
    (∀ s rest, vObj n s = some rest → ∃ ms, tokens s = (tokens rest).map (toksM ms ++ [.rbrace] ++ ·)) ∧
    (∀ s rest, vMembers n s = some rest → ∃ ms, ms ≠ [] ∧ tokens (34 :: s) = (tokens rest).map (toksM ms ++ [.rbrace] ++ ·)) ∧
    (∀ s rest, vArr n s = some rest → ∃ xs, tokens s = (tokens rest).map (toksL xs ++ [.rbrack] ++ ·)) ∧
    (∀ s rest, vElems n s = some rest → ∃ xs, xs ≠ [] ∧ tokens s = (tokens rest).map (toksL xs ++ [.rbrack] ++ ·)) := by
  intro n
  induction n with
  | zero => exact ⟨nofun, nofun, nofun, nofun, nofun⟩
  | succ n ih =>
    obtain ⟨ihA, ihO, ihM, ihR, ihE⟩ := ih
    refine ⟨?vAny, ?vObj, ?vMembers, ?vArr, ?vElems⟩
    case vAny =>
      intro s rest h
      rw [vAny_succ] at h
      cases hq : skipWs s with
      | nil => rw [hq] at h; cases h
      | cons c r =>
        rw [hq] at h; simp only at h
        by_cases h1 : c = 123
        · subst h1; rw [if_pos rfl] at h
          obtain ⟨ms, e⟩ := ihO _ _ h
          exact ⟨.obj ms, fun _ => Lexes.skip (by rw [hq]; exact (Lexes.tok .lbrace tokOk_lbrace trivial).trans e)⟩
        by_cases h2 : c = 91
        · subst h2; rw [if_neg h1, if_pos rfl] at h
          obtain ⟨xs, e⟩ := ihR _ _ h
          exact ⟨.arr xs, fun _ => Lexes.skip (by rw [hq]; exact (Lexes.tok .lbrack tokOk_lbrack trivial).trans e)⟩
        rw [if_neg h1, if_neg h2] at h
        obtain ⟨⟨t, rest'⟩, hl, hp⟩ := Option.map_eq_some_iff.mp h
        cases hp
        obtain ⟨e, ok, hsc, _⟩ := scalarLex_spec hl
        obtain ⟨v, hv⟩ := toks_of_scalar hsc
        exact ⟨v, fun hr => Lexes.skip (by rw [hq, e, hv]; exact .tok t ok (.of_numStop hr))⟩
    case vObj =>
      intro s rest h
      rw [vObj.eq_def] at h; simp only at h
      cases hq : skipWs s with
      | nil => rw [hq] at h; cases h
      | cons c r =>
        rw [hq] at h; simp only at h
        by_cases h1 : c = 125
        · subst h1; rw [if_pos rfl] at h; cases h
          exact ⟨[], Lexes.skip (by rw [hq]; exact .tok .rbrace tokOk_rbrace trivial)⟩
        by_cases h2 : c = 34
        · subst h2; rw [if_neg h1, if_pos rfl] at h
          obtain ⟨ms, _, e⟩ := ihM _ _ h
          exact ⟨ms, Lexes.skip (by rw [hq]; exact e)⟩
        · rw [if_neg h1, if_neg h2] at h; cases h
    case vMembers =>
      intro s rest h
      rw [vMembers.eq_def] at h; simp only at h
      cases h1 : scanStr s with
      | none => simp only [h1] at h; cases h
      | some p =>
        obtain ⟨b, s1⟩ := p
        simp only [h1] at h
        cases h2 : vColon s1 with
        | none => simp only [h2] at h; cases h
        | some s2 =>
          simp only [h2] at h
          cases h3 : vAny n s2 with
          | none => simp only [h3] at h; cases h
          | some s3 =>
            simp only [h3] at h
            cases h4 : vComma s3 125 with
            | none => simp only [h4] at h; cases h
            | some q =>
              obtain ⟨c, r⟩ := q
              simp only [h4] at h
              obtain ⟨hstop, hsk, hc⟩ := vComma_stop h4 (Or.inr rfl)
              obtain ⟨v, hv⟩ := ihA _ _ h3
              -- the key, the colon, the value
              have e : ∀ {L rest}, Lexes (c :: r) L rest →
                  Lexes (34 :: s) (.str (34 :: b) :: .colon :: (toks v ++ L)) rest := fun e' =>
                (Lexes.of_nextTok (nextTok_str h1)).trans ((vColon_lexes h2).trans
                  (Lexes.trans (hv hstop) (Lexes.skip (by rw [hsk]; exact e'))))
              split at h
              · rename_i hcl; subst hcl; cases h
                refine ⟨[(34 :: b, v)], by simp, ?_⟩
                rw [toksM_cons]
                exact e (.tok .rbrace tokOk_rbrace trivial)
              · rename_i hcl
                have hc44 : c = 44 := hc.resolve_right hcl
                subst hc44
                cases hq : skipWs r with
                | nil => simp only [hq] at h; cases h
                | cons d r' =>
                  simp only [hq] at h
                  split at h
                  · rename_i hd; subst hd
                    obtain ⟨ms, hne, e'⟩ := ihM _ _ h
                    refine ⟨(34 :: b, v) :: ms, by simp, ?_⟩
                    rw [toksM_cons]
                    cases ms with
                    | nil => exact absurd rfl hne
                    | cons m ms' =>
                      exact e ((Lexes.tok .comma tokOk_comma trivial).trans (Lexes.skip (by rw [hq]; exact e')))
                  · cases h
    case vArr =>
      intro s rest h
      rw [vArr.eq_def] at h; simp only at h
      cases hq : skipWs s with
      | nil => rw [hq] at h; cases h
      | cons c r =>
        rw [hq] at h; simp only at h
        by_cases h1 : c = 93
        · subst h1; rw [if_pos rfl] at h; cases h
          exact ⟨[], Lexes.skip (by rw [hq]; exact .tok .rbrack tokOk_rbrack trivial)⟩
        · rw [if_neg h1] at h
          obtain ⟨xs, _, e⟩ := ihE _ _ h
          exact ⟨xs, Lexes.skip (by rw [hq]; exact e)⟩
    case vElems =>
      intro s rest h
      rw [vElems.eq_def] at h; simp only at h
      cases h3 : vAny n s with
      | none => simp only [h3] at h; cases h
      | some s3 =>
        simp only [h3] at h
        cases h4 : vComma s3 93 with
        | none => simp only [h4] at h; cases h
        | some q =>
          obtain ⟨c, r⟩ := q
          simp only [h4] at h
          obtain ⟨hstop, hsk, hc⟩ := vComma_stop h4 (Or.inl rfl)
          obtain ⟨v, hv⟩ := ihA _ _ h3
          have e : ∀ {L rest}, Lexes (c :: r) L rest → Lexes s (toks v ++ L) rest := fun e' =>
            Lexes.trans (hv hstop) (Lexes.skip (by rw [hsk]; exact e'))
          split at h
          · rename_i hcl; subst hcl; cases h
            refine ⟨[v], by simp, ?_⟩
            rw [toksL_cons]
            exact e (.tok .rbrack tokOk_rbrack trivial)
          · rename_i hcl
            have hc44 : c = 44 := hc.resolve_right hcl
            subst hc44
            obtain ⟨xs, hne, e'⟩ := ihE _ _ h
            refine ⟨v :: xs, by simp, ?_⟩
            rw [toksL_cons]
            cases xs with
            | nil => exact absurd rfl hne
            | cons x xs' => exact e ((Lexes.tok .comma tokOk_comma trivial).trans e')


theorem nextTok_punct_inv {c : Byte} {r : Text} {t : Tok} {s1 : Text} {x : Byte}
    (h : nextTok (c :: r) = some (t, s1)) (ht : tokText t = [x]) : c = x ∧ s1 = r := by
  obtain ⟨e, _, _⟩ := nextTok_spec _ _ _ h
  rw [ht] at e
  simp only [List.cons_append, List.nil_append, List.cons.injEq] at e
  exact ⟨e.1, e.2.symm⟩

theorem tokens_length : ∀ (n : Nat) (s : Text) (ts : List Tok), s.length < n → tokens s = some ts →
    ts.length ≤ s.length := by
  intro _ s ts hn
  clear hn
  induction s using tokens_ind generalizing ts with
  | step s ih =>
    intro h
    cases ts with
    | nil => exact Nat.zero_le _
    | cons t ts =>
      obtain ⟨c, r, s1, h1, h2, h3⟩ := tokens_cons_inv h
      have := ih c r t s1 h1 h2 ts h3
      have hl := nextTok_length h2
      have hl2 := skipWs_length_le s
      rw [h1] at hl2
      simp only [List.length_cons] at hl hl2 ⊢
      omega

theorem vColon_of_tokens {s : Text} {ts : List Tok} (h : tokens s = some (.colon :: ts)) :
    ∃ r, vColon s = some r ∧ tokens r = some ts := by
  obtain ⟨c, r, s1, h1, h2, h3⟩ := tokens_cons_inv h
  obtain ⟨rfl, rfl⟩ := nextTok_punct_inv h2 (x := 58) rfl
  exact ⟨s1, by simp [vColon, h1], h3⟩

theorem vComma_of_tokens {s : Text} {t : Tok} {ts : List Tok} {x close : Byte} (h : tokens s = some (t :: ts))
    (ht : tokText t = [x]) (hx : x = 44 ∨ x = close) :
    ∃ r, vComma s close = some (x, r) ∧ tokens r = some ts := by
  obtain ⟨c, r, s1, h1, h2, h3⟩ := tokens_cons_inv h
  obtain ⟨rfl, rfl⟩ := nextTok_punct_inv h2 ht
  refine ⟨s1, ?_, h3⟩
  unfold vComma
  rw [h1]
  rcases hx with rfl | rfl <;> simp

/-- the validator function `f` accepts the head of `s` and leaves a text whose tokens are `ts` -/
def Accepts (f : Text → Option Text) (s : Text) (ts : List Tok) : Prop :=
  ∃ rest, f s = some rest ∧ tokens rest = some ts

theorem vAny_of_scalar {s : Text} {t : Tok} {ts : List Tok} (n : Nat) (h : tokens s = some (t :: ts))
    (ht : isScalar t = true) : Accepts (vAny (n + 1)) s ts := by
  obtain ⟨c, r, s1, h1, h2, h3⟩ := tokens_cons_inv h
  rcases nextTok_inv h2 with ⟨hp, _⟩ | ⟨hl, _⟩
  · rw [punctTok_not_scalar hp] at ht; cases ht
  · refine ⟨s1, ?_, h3⟩
    rw [vAny_succ, h1]
    have hp := scalarLex_not_punct hl
    by_cases c1 : c = 123; · subst c1; cases hp
    by_cases c2 : c = 91; · subst c2; cases hp
    simp only [c1, c2, ↓reduceIte, hl, Option.map_some]

theorem quote_of_tokens {s : Text} {k : Text} {ts : List Tok} (h : tokens s = some (.str k :: ts)) :
    ∃ r, skipWs s = 34 :: r := by
  obtain ⟨c, r, s1, h1, h2, _⟩ := tokens_cons_inv h
  rcases nextTok_inv h2 with ⟨hp, _⟩ | ⟨hl, _⟩
  · cases punctTok_not_scalar hp
  · obtain ⟨_, _, _, hquote⟩ := scalarLex_spec hl
    exact ⟨r, by rw [h1, hquote k rfl]⟩

/-- what completeness says of the five validator functions at fuel `n`: a text whose tokens begin
with the token sequence of a tree (of a member list, an element list) is accepted up to the end of
that sequence -/
structure ValidComplete (n : Nat) : Prop where
  any : ∀ v s ts, gV v ≤ n → tokens s = some (toks v ++ ts) → Accepts (vAny n) s ts
  obj : ∀ ms s ts, gM ms < n → tokens s = some (toksM ms ++ .rbrace :: ts) → Accepts (vObj n) s ts
  members : ∀ ms r ts, ms ≠ [] → gM ms ≤ n → tokens (34 :: r) = some (toksM ms ++ .rbrace :: ts) →
    Accepts (vMembers n) r ts
  arr : ∀ xs s ts, gE xs < n → tokens s = some (toksL xs ++ .rbrack :: ts) → Accepts (vArr n) s ts
  elems : ∀ xs s ts, xs ≠ [] → gE xs ≤ n → tokens s = some (toksL xs ++ .rbrack :: ts) →
    Accepts (vElems n) s ts

/-- completeness of the validator w.r.t. the tokeniser -/
theorem valid_complete (n : Nat) : ValidComplete n := by
  induction n with
  | zero =>
    refine ⟨fun v _ _ hn => ?_, nofun, fun ms _ _ hne hn => ?_, nofun, fun xs _ _ hne hn => ?_⟩
    · exact absurd (gV_pos v) (by omega)
    · cases ms with
      | nil => exact absurd rfl hne
      | cons m ms => simp only [gM] at hn; omega
    · cases xs with
      | nil => exact absurd rfl hne
      | cons x xs => simp only [gE] at hn; omega
  | succ n ih =>
    obtain ⟨ihA, ihO, ihM, ihR, ihE⟩ := ih
    refine ⟨?any, ?obj, ?members, ?arr, ?elems⟩
    case any =>
      intro v s ts hn h
      cases v with
      | arr xs =>
        obtain ⟨c, r, s1, h1, h2, h3⟩ := tokens_cons_inv (t := .lbrack) (ts := toksL xs ++ .rbrack :: ts)
          (by rw [h]; simp only [toks, List.cons_append, List.append_assoc, List.nil_append])
        obtain ⟨rfl, rfl⟩ := nextTok_punct_inv h2 (x := 91) rfl
        unfold Accepts; rw [vAny_succ, h1]
        exact ihR xs s1 ts (by simp only [gV] at hn; omega) h3
      | obj ms =>
        obtain ⟨c, r, s1, h1, h2, h3⟩ := tokens_cons_inv (t := .lbrace) (ts := toksM ms ++ .rbrace :: ts)
          (by rw [h]; simp only [toks, List.cons_append, List.append_assoc, List.nil_append])
        obtain ⟨rfl, rfl⟩ := nextTok_punct_inv h2 (x := 123) rfl
        unfold Accepts; rw [vAny_succ, h1]
        exact ihO ms s1 ts (by simp only [gV] at hn; omega) h3
      | _ => exact vAny_of_scalar n h rfl
    case obj =>
      intro ms s ts hn h
      unfold Accepts
      rw [vObj.eq_def]; simp only
      cases ms with
      | nil =>
        obtain ⟨c, r, s2, g1, g2, g3⟩ := tokens_cons_inv (t := .rbrace) h
        obtain ⟨rfl, rfl⟩ := nextTok_punct_inv g2 (x := 125) rfl
        exact ⟨s2, by rw [g1]; rfl, g3⟩
      | cons m ms =>
        obtain ⟨k, v⟩ := m
        obtain ⟨r, g1⟩ := quote_of_tokens (by rw [h, toksM_cons])
        rw [g1]
        exact ihM ((k, v) :: ms) r ts (by simp) (by omega) (by rw [← g1, ← tokens_skip, h])
    case members =>
      intro ms r ts hne hn h
      cases ms with
      | nil => exact absurd rfl hne
      | cons m ms =>
      obtain ⟨k, v⟩ := m
      simp only [gM] at hn
      rw [toksM_cons] at h
      obtain ⟨c, r', s1, h1, h2, h3⟩ := tokens_cons_inv h
      rw [skipWs_of_nonws 34 r (by decide)] at h1
      cases h1
      rcases nextTok_inv h2 with ⟨hp, _⟩ | ⟨hl, _⟩
      · cases hp
      obtain ⟨⟨b, r0⟩, hs, hp⟩ := Option.map_eq_some_iff.mp (hl : (scanStr r).map _ = _)
      cases hp
      obtain ⟨s2, b1, b2⟩ := vColon_of_tokens h3
      obtain ⟨s3, a1, a2⟩ := ihA v s2 _ (le_of_succ_max_le hn).1 b2
      unfold Accepts
      rw [vMembers.eq_def]; simp only [hs, b1, a1]
      cases ms with
      | nil =>
        obtain ⟨r2, c1, c2⟩ := vComma_of_tokens (t := .rbrace) (ts := ts) (x := 125) (close := 125) a2 rfl (Or.inr rfl)
        exact ⟨r2, by simp only [c1, ↓reduceIte], c2⟩
      | cons m ms' =>
        obtain ⟨k', v'⟩ := m
        obtain ⟨r2, c1, c2⟩ := vComma_of_tokens (t := .comma) (ts := toksM ((k', v') :: ms') ++ .rbrace :: ts)
          (x := 44) (close := 125) a2 rfl (Or.inl rfl)
        obtain ⟨r3, g1⟩ := quote_of_tokens (by rw [c2, toksM_cons])
        obtain ⟨rest, e1, e2⟩ := ihM ((k', v') :: ms') r3 ts (by simp) (le_of_succ_max_le hn).2 (by rw [← g1, ← tokens_skip, c2])
        exact ⟨rest, by simp (config := {decide := true}) only [c1, g1, ↓reduceIte, e1], e2⟩
    case arr =>
      intro xs s ts hn h
      unfold Accepts
      rw [vArr.eq_def]; simp only
      cases xs with
      | nil =>
        obtain ⟨c, r, s2, g1, g2, g3⟩ := tokens_cons_inv (t := .rbrack) h
        obtain ⟨rfl, rfl⟩ := nextTok_punct_inv g2 (x := 93) rfl
        exact ⟨s2, by rw [g1]; rfl, g3⟩
      | cons x xs =>
        -- the first byte after `[` starts a value, so it is not `]`
        obtain ⟨t, tl, e, hst⟩ := toks_head x
        obtain ⟨c, r, s2, g1, g2, _⟩ := tokens_cons_inv (by rw [h, toksL_cons, e]; rfl)
        have hc : c ≠ 93 := by
          rintro rfl
          cases (show nextTok (93 :: r) = some (.rbrack, r) from rfl).symm.trans g2
          cases hst
        rw [g1]; simp only [hc, ↓reduceIte]
        exact ihE (x :: xs) (c :: r) ts (by simp) (by omega) (by rw [← g1, ← tokens_skip, h])
    case elems =>
      intro xs s ts hne hn h
      cases xs with
      | nil => exact absurd rfl hne
      | cons x xs =>
      simp only [gE] at hn
      rw [toksL_cons] at h
      obtain ⟨s3, a1, a2⟩ := ihA x s _ (le_of_succ_max_le hn).1 h
      unfold Accepts
      rw [vElems.eq_def]; simp only [a1]
      cases xs with
      | nil =>
        obtain ⟨r, c1, c2⟩ := vComma_of_tokens (t := .rbrack) (ts := ts) (x := 93) (close := 93) a2 rfl (Or.inr rfl)
        exact ⟨r, by simp only [c1, ↓reduceIte], c2⟩
      | cons y ys =>
        obtain ⟨r, c1, c2⟩ := vComma_of_tokens (t := .comma) (ts := toksL (y :: ys) ++ .rbrack :: ts)
          (x := 44) (close := 93) a2 rfl (Or.inl rfl)
        obtain ⟨rest, e1, e2⟩ := ihE (y :: ys) r ts (by simp) (le_of_succ_max_le hn).2 c2
        exact ⟨rest, by simp (config := {decide := true}) only [c1, ↓reduceIte, e1], e2⟩


theorem vAny_complete : ∀ (v : JV) (s : Text) (ts : List Tok) (n : Nat),
    tokens s = some (toks v ++ ts) → gV v ≤ n → ∃ rest, vAny n s = some rest ∧ tokens rest = some ts :=
  fun v s ts n h hn => (valid_complete n).any v s ts hn h
theorem vElems_complete : ∀ (xs : List JV) (s : Text) (ts : List Tok) (n : Nat), xs ≠ [] →
    tokens s = some (toksL xs ++ .rbrack :: ts) → gE xs ≤ n → ∃ rest, vElems n s = some rest ∧ tokens rest = some ts :=
  fun xs s ts n hne h hn => (valid_complete n).elems xs s ts hne hn h
theorem vMembers_complete : ∀ (ms : List (Text × JV)) (r : Text) (ts : List Tok) (n : Nat), ms ≠ [] →
    tokens (34 :: r) = some (toksM ms ++ .rbrace :: ts) → gM ms ≤ n →
      ∃ rest, vMembers n r = some rest ∧ tokens rest = some ts :=
  fun ms r ts n hne h hn => (valid_complete n).members ms r ts hne hn h

/-! ## `byKeyVal.Less` is a strict weak order -/

/-- strict weak order, for a Boolean comparison -/
structure SWO {α : Type} (lt : α → α → Bool) : Prop where
  irrefl : ∀ a, lt a a = false
  trans : ∀ a b c, lt a b = true → lt b c = true → lt a c = true
  ntrans : ∀ a b c, lt a b = false → lt b c = false → lt a c = false

theorem SWO.asymm {α : Type} {lt : α → α → Bool} (h : SWO lt) {a b : α} (hab : lt a b = true) : lt b a = false := by
  cases hq : lt b a with
  | false => rfl
  | true => have := h.trans a b a hab hq; rw [h.irrefl] at this; cases this

theorem swo_pullback {α β : Type} {lt : β → β → Bool} (h : SWO lt) (f : α → β) : SWO (fun a b => lt (f a) (f b)) :=
  ⟨fun _ => h.irrefl _, fun _ _ _ => h.trans _ _ _, fun _ _ _ => h.ntrans _ _ _⟩

theorem swo_ltBytes : SWO ltBytes where
  irrefl := ltBytes_irrefl
  trans := ltBytes_trans
  ntrans a b c h1 h2 := by
    cases hq : ltBytes a c with
    | false => rfl
    | true =>
      by_cases e : a = b
      · subst e; rw [hq] at h2; cases h2
      · rcases ltBytes_total a b e with h | h
        · rw [h] at h1; cases h1
        · have := ltBytes_trans b a c h hq
          rw [this] at h2; cases h2

theorem swo_int : SWO (fun a b : Int => decide (a < b)) where
  irrefl a := by simp
  trans a b c h1 h2 := by simp only [decide_eq_true_eq] at *; omega
  ntrans a b c h1 h2 := by simp only [decide_eq_false_iff_not] at *; omega

theorem swo_nat : SWO (fun a b : Nat => decide (a < b)) where
  irrefl a := by simp
  trans a b c h1 h2 := by simp only [decide_eq_true_eq] at *; omega
  ntrans a b c h1 h2 := by simp only [decide_eq_false_iff_not] at *; omega

theorem SWO.lt_of_lt_of_nlt {α : Type} {lt : α → α → Bool} (h : SWO lt) {a b c : α}
    (hab : lt a b = true) (hcb : lt c b = false) : lt a c = true := by
  cases hq : lt a c with
  | true => rfl
  | false => have := h.ntrans a c b hq hcb; rw [hab] at this; cases this

theorem SWO.lt_of_nlt_of_lt {α : Type} {lt : α → α → Bool} (h : SWO lt) {a b c : α}
    (hba : lt b a = false) (hbc : lt b c = true) : lt a c = true := by
  cases hq : lt a c with
  | true => rfl
  | false => have := h.ntrans b a c hba hq; rw [hbc] at this; cases this

/-- the lexicographic combination of two comparisons -/
def lexLt {α : Type} (lt1 lt2 : α → α → Bool) (a b : α) : Bool :=
  if lt1 a b then true else if lt1 b a then false else lt2 a b

/-- lexicographic combination; the second comparison needs to be a strict weak order only among
elements the first one does not separate -/
theorem swo_lex {α : Type} (lt1 lt2 : α → α → Bool) (h1 : SWO lt1)
    (ir : ∀ a, lt2 a a = false)
    (tr : ∀ a b c, lt1 a b = false → lt1 b a = false → lt1 b c = false → lt1 c b = false →
      lt2 a b = true → lt2 b c = true → lt2 a c = true)
    (nt : ∀ a b c, lt1 a b = false → lt1 b a = false → lt1 b c = false → lt1 c b = false →
      lt2 a b = false → lt2 b c = false → lt2 a c = false) :
    SWO (lexLt lt1 lt2) where
  irrefl a := by simp only [lexLt, h1.irrefl, ir, Bool.false_eq_true, ↓reduceIte]
  trans a b c hab hbc := by
    -- "less": the second is not below the first, and the first is below the second or tied and less
    have key : ∀ x y, lexLt lt1 lt2 x y = true →
        lt1 y x = false ∧ (lt1 x y = true ∨ lt1 x y = false ∧ lt2 x y = true) := by
      intro x y h
      cases e1 : lt1 x y with
      | true => exact ⟨h1.asymm e1, Or.inl rfl⟩
      | false =>
        cases e2 : lt1 y x with
        | true => simp only [lexLt, e1, e2, Bool.false_eq_true, ↓reduceIte] at h
        | false => simp only [lexLt, e1, e2, Bool.false_eq_true, ↓reduceIte] at h; exact ⟨rfl, Or.inr ⟨rfl, h⟩⟩
    obtain ⟨ba, hA⟩ := key a b hab
    obtain ⟨cb, hB⟩ := key b c hbc
    rcases hA with ab | ⟨ab, ab2⟩
    · simp only [lexLt, h1.lt_of_lt_of_nlt ab cb, ↓reduceIte]
    rcases hB with bc | ⟨bc, bc2⟩
    · simp only [lexLt, h1.lt_of_nlt_of_lt ba bc, ↓reduceIte]
    · simp only [lexLt, h1.ntrans a b c ab bc, h1.ntrans c b a cb ba, Bool.false_eq_true, ↓reduceIte]
      exact tr a b c ab ba bc cb ab2 bc2
  ntrans a b c hab hbc := by
    -- "not less": the first is not below the second, and the second is below the first or tied and not less
    have key : ∀ x y, lexLt lt1 lt2 x y = false →
        lt1 x y = false ∧ (lt1 y x = true ∨ lt1 y x = false ∧ lt2 x y = false) := by
      intro x y h
      cases e1 : lt1 x y with
      | true => simp only [lexLt, e1, ↓reduceIte, Bool.true_eq_false] at h
      | false =>
        cases e2 : lt1 y x with
        | true => exact ⟨rfl, Or.inl rfl⟩
        | false => simp only [lexLt, e1, e2, Bool.false_eq_true, ↓reduceIte] at h; exact ⟨rfl, Or.inr ⟨rfl, h⟩⟩
    obtain ⟨ab, hA⟩ := key a b hab
    obtain ⟨bc, hB⟩ := key b c hbc
    have ac := h1.ntrans a b c ab bc
    rcases hA with ba | ⟨ba, ab2⟩
    · simp only [lexLt, ac, h1.lt_of_nlt_of_lt bc ba, Bool.false_eq_true, ↓reduceIte]
    rcases hB with cb | ⟨cb, bc2⟩
    · simp only [lexLt, ac, h1.lt_of_lt_of_nlt cb ab, Bool.false_eq_true, ↓reduceIte]
    · simp only [lexLt, ac, h1.ntrans c b a cb ba, Bool.false_eq_true, ↓reduceIte]
      exact nt a b c ab ba bc cb ab2 bc2

/-- lexicographic combination where the second comparison is picked by a key that the first one
does not separate -/
theorem swo_lex_by {α κ : Type} (lt1 : α → α → Bool) (h1 : SWO lt1) (k : α → κ) (sel : κ → α → α → Bool)
    (hsel : ∀ i, SWO (sel i)) (hk : ∀ a b, lt1 a b = false → lt1 b a = false → k a = k b) :
    SWO (lexLt lt1 fun a b => sel (k a) a b) :=
  swo_lex lt1 (fun a b => sel (k a) a b) h1 (fun a => (hsel _).irrefl a)
    (fun a b c x1 x2 _ _ => by rw [← hk a b x1 x2]; exact (hsel _).trans a b c)
    (fun a b c x1 x2 _ _ => by rw [← hk a b x1 x2]; exact (hsel _).ntrans a b c)

/-- `isLess … byVal`: by kind, then within the kind (strings by their decoded bytes, numbers as floats,
everything else by its raw bytes) -/
theorem swo_textLess : SWO textLess := by
  have key := swo_lex_by (fun a b : Text => decide (jtype a < jtype b)) (swo_pullback swo_nat jtype) jtype
    (fun i a b => if i = 3 then ltBytes (parsestr a) (parsestr b) else if i = 2 then fltLt a b else ltBytes a b)
    (fun i => by
      split
      · exact swo_pullback swo_ltBytes parsestr
      split
      · exact swo_pullback swo_int fltKey
      · exact swo_ltBytes)
    (fun a b x y => by simp only [decide_eq_false_iff_not] at x y; omega)
  have e : textLess = lexLt (fun a b => decide (jtype a < jtype b)) fun a b =>
      if jtype a = 3 then ltBytes (parsestr a) (parsestr b) else if jtype a = 2 then fltLt a b
      else ltBytes a b := by
    funext a b; simp only [textLess, lexLt, decide_eq_true_eq, GT.gt]
  rw [e]; exact key

/-- `byKeyVal.Less` is a strict weak order: irreflexive, transitive, and incomparability is
transitive.  Under that condition all stable sorts (Go's insertion sort + SymMerge, the model's
insertion sort) yield the same list; that general fact is not proved here, only what
`sortBy memberLess` does (`sortBy_perm`, `sortBy_sorted`, `sortBy_of_sorted`) -/
theorem swo_memberLess : SWO memberLess := by
  have h1 : SWO (fun a b : Member => ltBytes (sortKey a.key) (sortKey b.key)) :=
    swo_pullback swo_ltBytes (fun m : Member => sortKey m.key)
  have h2 : SWO (fun a b : Member => textLess a.val b.val) := swo_pullback swo_textLess (fun m : Member => m.val)
  have key := swo_lex _ _ h1 h2.irrefl (fun a b c _ _ _ _ => h2.trans a b c) (fun a b c _ _ _ _ => h2.ntrans a b c)
  have e : memberLess = lexLt (fun a b => ltBytes (sortKey a.key) (sortKey b.key))
      fun a b => textLess a.val b.val := by
    funext a b; rfl
  rw [e]; exact key

/-- sorted: no element is strictly less than an earlier one -/
def SortedBy {α : Type} (lt : α → α → Bool) (l : List α) : Prop := l.Pairwise (fun a b => lt b a = false)

theorem insertBy_sorted {α : Type} {lt : α → α → Bool} (h : SWO lt) (x : α) (l : List α)
    (hs : SortedBy lt l) : SortedBy lt (insertBy lt x l) :=
  insertBy_pairwise lt _ x l hs (fun _ _ hyx => h.asymm hyx)
    fun y _ hyx => ⟨hyx, fun z hz => h.ntrans z y x hz hyx⟩

theorem sortBy_sorted {α : Type} {lt : α → α → Bool} (h : SWO lt) : ∀ l : List α, SortedBy lt (sortBy lt l)
  | [] => by simp [sortBy, SortedBy]
  | x :: xs => by
    simp only [sortBy, List.foldr_cons]
    exact insertBy_sorted h x _ (sortBy_sorted h xs)

/-- a sorted list is left as it is (stability: nothing moves unless it must) -/
theorem sortBy_of_sorted {α : Type} {lt : α → α → Bool} : ∀ l : List α, SortedBy lt l → sortBy lt l = l
  | [], _ => rfl
  | x :: xs, hs => by
    simp only [SortedBy, List.pairwise_cons] at hs
    simp only [sortBy, List.foldr_cons]
    have ih := sortBy_of_sorted xs hs.2
    simp only [sortBy] at ih
    rw [ih]
    cases xs with
    | nil => rfl
    | cons y ys => simp [insertBy, hs.1 y (by simp)]



/-! ## printing the sorted tree -/

theorem isEmpty_eq_of_length {α β : Type} {l : List α} {l' : List β} (h : l.length = l'.length) :
    l.isEmpty = l'.isEmpty := by
  cases l <;> cases l' <;> first | rfl | cases h

theorem indentN_sortKeys (o : Opts) (b : Bool) (n : Nat) : indentN { o with sortKeys := b } n = indentN o n := by
  induction n with
  | zero => rfl
  | succ n ih => simp only [indentN, ih]

theorem joinMembers_sortKeys (o : Opts) (b : Bool) (t : Nat) (l : List Member) :
    joinMembers { o with sortKeys := b } t l = joinMembers o t l := by
  induction l with
  | nil => rfl
  | cons m ms ih => simp only [joinMembers, memberLine, ih, indentN_sortKeys]

theorem ppMembers_of_pointwise (o : Opts) (tabs : Nat) :
    ∀ l : List (Member × (Text × JV)),
      (∀ e ∈ l, (⟨e.2.1, ppV o tabs (memberCol o tabs e.2.1) e.2.2⟩ : Member) = e.1) →
      ppMembers o tabs (l.map (·.2)) = l.map (·.1)
  | [], _ => rfl
  | (m, k, v) :: l, h => by
    have h1 := h (m, k, v) (by simp)
    simp only at h1
    simp only [List.map_cons, ppMembers, h1]
    rw [ppMembers_of_pointwise o tabs l (fun e he => h e (by simp [he]))]

mutual
/-- printing the sorted tree gives the print of the tree — without `SortKeys`, because the members
are already sorted; and, where the tree was sorted, with `SortKeys` too, because a
stable sort leaves a sorted list alone -/
theorem ppV_srt_with (o : Opts) (b : Bool) (hb : b = true → o.sortKeys = true) : ∀ (tabs col : Nat) (v : JV),
    ppV { o with sortKeys := b } tabs col (srt o tabs col v) = ppV o tabs col v
  | _, _, .str _ | _, _, .num _ | _, _, .tru | _, _, .fls | _, _, .nul => rfl
  | tabs, col, .arr xs => by
    have h1 : fitsOneLine { o with sortKeys := b } col (.arr (srtL o (tabs + 1) true xs)) =
        fitsOneLine o col (.arr xs) := by
      have := oneLine_srt o tabs col (.arr xs)
      simp only [srt] at this
      simp only [fitsOneLine, this]
    simp only [srt, ppV, h1, isEmpty_eq_of_length (srtL_length o (tabs + 1) true xs), indentN_sortKeys,
      ppElems_srt_with o b hb (tabs + 1) true xs]
  | tabs, col, .obj ms => by
    have hL := srtM_pointwise_with o b hb (tabs + 1) ms
    have he : ∀ l : List (Member × (Text × JV)), l.length = ms.length → (l.map (·.2)).isEmpty = ms.isEmpty :=
      fun l hl => isEmpty_eq_of_length (by rw [List.length_map, hl])
    by_cases hs : o.sortKeys = true
    · have hperm := sortBy_perm pairLess (srtM o (tabs + 1) ms)
      have e1 := ppMembers_of_pointwise { o with sortKeys := b } (tabs + 1) (sortBy pairLess (srtM o (tabs + 1) ms))
        (fun e he' => hL e (hperm.mem_iff.mp he'))
      have e2 : (sortBy pairLess (srtM o (tabs + 1) ms)).map (·.1) = sortMembers (ppMembers o (tabs + 1) ms) := by
        rw [sortBy_map pairLess memberLess (·.1) (fun _ _ => rfl), srtM_fst]; rfl
      have e3 : sortMembers (sortMembers (ppMembers o (tabs + 1) ms)) = sortMembers (ppMembers o (tabs + 1) ms) :=
        sortBy_of_sorted _ (sortBy_sorted swo_memberLess _)
      cases b <;> simp only [srt, hs, ↓reduceIte, ppV, e1, e2, e3, Bool.false_eq_true, joinMembers_sortKeys,
        indentN_sortKeys, he _ (hperm.length_eq.trans (srtM_length o (tabs + 1) ms))]
    · have hb' : b = false := by
        cases b with
        | false => rfl
        | true => exact absurd (hb rfl) hs
      subst hb'
      have e1 := ppMembers_of_pointwise { o with sortKeys := false } (tabs + 1) (srtM o (tabs + 1) ms) hL
      simp only [srt, hs, Bool.false_eq_true, ↓reduceIte, ppV, e1, srtM_fst, joinMembers_sortKeys,
        indentN_sortKeys, he _ (srtM_length o (tabs + 1) ms)]
theorem ppElems_srt_with (o : Opts) (b : Bool) (hb : b = true → o.sortKeys = true) :
    ∀ (tabs : Nat) (first : Bool) (xs : List JV),
      ppElems { o with sortKeys := b } tabs first (srtL o tabs first xs) = ppElems o tabs first xs
  | _, _, [] => rfl
  | tabs, first, x :: xs => by
    have hv := ppV_srt_with o b hb tabs (elemCol o tabs first) x
    simp only [srtL, ppElems, indentN_sortKeys, ppElems_srt_with o b hb tabs false xs]
    rw [← hv]; rfl
theorem srtM_pointwise_with (o : Opts) (b : Bool) (hb : b = true → o.sortKeys = true) :
    ∀ (tabs : Nat) (ms : List (Text × JV)), ∀ e ∈ srtM o tabs ms,
      (⟨e.2.1, ppV { o with sortKeys := b } tabs (memberCol o tabs e.2.1) e.2.2⟩ : Member) = e.1
  | _, [], e, he => by cases he
  | tabs, (k, v) :: ms, e, he => by
    simp only [srtM, List.mem_cons] at he
    rcases he with rfl | he
    · simp only [ppV_srt_with o b hb tabs _ v]
    · exact srtM_pointwise_with o b hb tabs ms e he
end

/-- printing with `SortKeys` is plain printing of the sorted tree -/
theorem ppV_srt (o : Opts) : ∀ (tabs col : Nat) (v : JV),
    ppV o tabs col v = ppV o.unsorted tabs col (srt o tabs col v) :=
  fun tabs col v => (ppV_srt_with o false nofun tabs col v).symm
theorem ppElems_srt (o : Opts) : ∀ (tabs : Nat) (first : Bool) (xs : List JV),
    ppElems o tabs first xs = ppElems o.unsorted tabs first (srtL o tabs first xs) :=
  fun tabs first xs => (ppElems_srt_with o false nofun tabs first xs).symm
theorem srtM_pointwise (o : Opts) : ∀ (tabs : Nat) (ms : List (Text × JV)),
    ∀ e ∈ srtM o tabs ms, (⟨e.2.1, ppV o.unsorted tabs (memberCol o tabs e.2.1) e.2.2⟩ : Member) = e.1 :=
  srtM_pointwise_with o false nofun

/-- printing the sorted tree with `SortKeys` gives the print of the tree -/
theorem ppV_srt_idem (o : Opts) : ∀ (tabs col : Nat) (v : JV), ppV o tabs col (srt o tabs col v) = ppV o tabs col v :=
  ppV_srt_with o o.sortKeys id
theorem ppElems_srt_idem (o : Opts) : ∀ (tabs : Nat) (first : Bool) (xs : List JV),
    ppElems o tabs first (srtL o tabs first xs) = ppElems o tabs first xs :=
  ppElems_srt_with o o.sortKeys id
theorem srtM_pointwise_idem (o : Opts) : ∀ (tabs : Nat) (ms : List (Text × JV)),
    ∀ e ∈ srtM o tabs ms, (⟨e.2.1, ppV o tabs (memberCol o tabs e.2.1) e.2.2⟩ : Member) = e.1 :=
  srtM_pointwise_with o o.sortKeys id

end GoSnaps.Json
