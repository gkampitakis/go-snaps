/- The snapshot file framing: `render` read back through `lines`/`scan`, `getPrevL` on entry lines. -/
import GoSnaps.Format
import GoSnaps.Escape
namespace GoSnaps

/-- a side condition on the generated constant, discharged on its current value -/
theorem endSeq_ne_nil : endSeq ≠ [] := by decide

/-- the tie between the executable `frameFmt` (which interprets the format string read from
    the source) and the `frame` the proofs are about -/
theorem frameFmt_eq (id : Line) (body : Text) : frameFmt id body = some (frame ⟨id, body⟩) := by
  have hp : parseFmt Generated.addFmt =
      some [.lit [nl], .verb 115, .lit [nl], .verb 115, .lit (nl :: (endSeq ++ [nl]))] := by decide +kernel
  simp [frameFmt, sprintf, hp, fmtPieces, fmtVerb, frame]

theorem lines_render (es : List Entry) (hid : ∀ e ∈ es, NoNL e.id) :
    lines (render es) = fileLines es ++ [[]] := by
  induction es with
  | nil => rfl
  | cons e es ih =>
    have : render (e :: es) =
        [] ++ nl :: (e.id ++ nl :: (e.body ++ nl :: (endSeq ++ nl :: render es))) := by
      simp [render, frame]
    rw [this, lines_append_nl, lines_append_nl, lines_append_nl, lines_append_nl,
      lines_of_noNL e.id (hid e List.mem_cons_self), lines_of_noNL endSeq (by decide),
      ih fun x hx => hid x (List.mem_cons_of_mem e hx)]
    simp [fileLines, entryLines, lines]

theorem scan_render (es : List Entry) (hid : ∀ e ∈ es, NoNL e.id)
    (hcr : ∀ l ∈ fileLines es, NoCRLine l) : scan (render es) = fileLines es := by
  unfold scan
  rw [lines_render es hid]
  simp only [List.getLast?_append, List.getLast?_singleton, Option.some_or]
  simp only [↓reduceIte, List.dropLast_concat]
  rw [List.map_congr_left (fun l hl => dropCR_id l (hcr l hl))]
  simp

theorem collect_go (ls : List Line) (rest : List Line) (acc : Text) (h : endSeq ∉ ls) :
    collect (ls ++ endSeq :: rest) acc = some (acc ++ ls.flatMap (· ++ [nl])) := by
  induction ls generalizing acc with
  | nil => simp [collect]
  | cons l ls ih =>
    simp [collect, Ne.symm (List.ne_of_not_mem_cons h), ih _ (List.not_mem_of_not_mem_cons h)]

theorem getPrevL_skip (id : Line) (pre rest : List Line) (n : Nat) (h : id ∉ pre) :
    getPrevL id (pre ++ rest) n = getPrevL id rest (n + pre.length) := by
  induction pre generalizing n with
  | nil => rfl
  | cons l ls ih =>
    rw [List.cons_append, getPrevL, if_neg (Ne.symm (List.ne_of_not_mem_cons h)),
      ih _ (List.not_mem_of_not_mem_cons h), List.length_cons, Nat.add_assoc, Nat.add_comm 1]

theorem getPrevL_none (id : Line) (ls : List Line) (n : Nat) (h : id ∉ ls) :
    getPrevL id ls n = none := by
  rw [← List.append_nil ls, getPrevL_skip id ls [] n h]
  rfl

/-- a stored body is *escaped* when none of its lines is the terminator -/
def Escaped (b : Text) : Prop := endSeq ∉ lines b

instance (b : Text) : Decidable (Escaped b) := by unfold Escaped; infer_instance

theorem getPrevL_hit (e : Entry) (rest : List Line) (n : Nat) (hne : e.id ≠ []) (hesc : Escaped e.body) :
    getPrevL e.id (entryLines e ++ rest) n = some (e.body, n + 1) := by
  unfold entryLines
  simp only [List.cons_append, List.nil_append, getPrevL, hne.symm, ↓reduceIte, List.append_assoc]
  rw [collect_go (lines e.body) rest [] hesc]
  simp [flatMap_lines, trimNL_append]

/-- `escapeEndChars` output never contains the terminator as a line -/
theorem escape_escaped (v : Text) : Escaped (escape v) := by
  unfold Escaped escape mapLines
  rw [lines_unlines_of_noNL _ (by simp [lines_ne_nil])]
  · intro hmem
    obtain ⟨l, _, hl⟩ := List.mem_map.mp hmem
    split at hl
    · exact absurd hl (by decide)
    · rename_i h; exact h (hl.trans (by decide))
  · intro l hl
    obtain ⟨m, hm, rfl⟩ := List.mem_map.mp hl
    split
    · decide
    · exact noNL_of_mem_lines v m hm

end GoSnaps
