/-
Model-level helper lemmas for `Props/Tie/EndToEndSkip.lean` (histories in which some tests call
`snaps.Skip` / `Skipf` / `SkipNow`, then `Clean`, about the transliterated code):

Histories with skip steps (`SStep`, `strip`, `skipNames`, the model's `runS`): the skip list is a FRAME of the
model's flows, so the world after `runS` is the world after `run` of the stripped history with the skip list
`w.skipped ++ skipNames h` (`runS_world`) and every model-level fact about `run` is a fact about `runS`.  The
protection rule on headers `[t - k]` (`protected_header_iff`, `sibling_not_covered`); `clean_keeps_kept`; the
summary prints the number of skips.  `-run`: finite oracle tables read off the functions standing for `regexp` /
`go/parser` (`runOracles`, `cleanOracles`), sound and complete for one `Clean` (`clean_supported_run`,
`clean_keeps_kept_run`, `keptId_run`); the `used` files of `examineFiles` do not depend on the pattern.
-/
import GoSnaps.Lemmas.EndToEndClean2

namespace GoSnaps.SkipHist

open GoSnaps GoSnaps.C06Refine GoSnaps.Wld GoSnaps.C01World GoSnaps.CleanWorld
open GoSnaps.C03 (testID)

/-- which exported wrapper the test calls: `snaps.Skip(t, args...)`, `snaps.Skipf(t, format, args...)`,
    `snaps.SkipNow(t)` -/
inductive SkipKind
  | skip (args : List Text)
  | skipf (format : Text) (args : List Text)
  | skipNow
deriving DecidableEq, Repr

/-- a step of a test process: a step of `C01World.Step` (a Match* call, the end of a `testing.T`), or a call of
    a skip wrapper by the test named `t` on `testing.T` number `x` -/
inductive SStep
  | run (s : Step)
  | skip (t : Text) (x : Nat) (kind : SkipKind)
deriving DecidableEq, Repr

def strip : List SStep → List Step
  | [] => []
  | .run s :: h => s :: strip h
  | .skip _ _ _ :: h => strip h

/-- the names the skip steps record, in order (with repetitions) -/
def skipNames : List SStep → List Text
  | [] => []
  | .run _ :: h => skipNames h
  | .skip t _ _ :: h => t :: skipNames h

def skipCount (h : List SStep) : Nat := (skipNames h).length

theorem strip_map_run (h : List Step) : strip (h.map SStep.run) = h := by
  induction h with
  | nil => rfl
  | cons s h ih => simp [strip, ih]

theorem skipNames_map_run (h : List Step) : skipNames (h.map SStep.run) = [] := by
  induction h with
  | nil => rfl
  | cons s h ih => simp [skipNames, ih]

theorem strip_append (h1 h2 : List SStep) : strip (h1 ++ h2) = strip h1 ++ strip h2 := by
  induction h1 with
  | nil => rfl
  | cons s h1 ih => cases s <;> simp [strip, ih]

theorem skipNames_append (h1 h2 : List SStep) : skipNames (h1 ++ h2) = skipNames h1 ++ skipNames h2 := by
  induction h1 with
  | nil => rfl
  | cons s h1 ih => cases s <;> simp [skipNames, ih]

/-- what a skip wrapper reports to its `testing.T`: the log line of `trackSkip`, then `testing`'s own skip -/
def skipEvents : SkipKind → List TEvent
  | .skip _ => [.log Generated.go_skippedMsg, .skip []]
  | .skipf _ _ => [.log Generated.go_skippedMsg, .skipf []]
  | .skipNow => [.log Generated.go_skippedMsg, .skipNow]

def stepS (c : Cfg) (caller : Text) (w : World) : SStep → World × List Out
  | .run s => C01World.step c caller w s
  | .skip t _ k => (trackSkip w t, [{ events := skipEvents k }])

def runS (c : Cfg) (caller : Text) : World → List SStep → World × List Out
  | w, [] => (w, [])
  | w, s :: h =>
    ((runS c caller (stepS c caller w s).1 h).1,
     (stepS c caller w s).2 ++ (runS c caller (stepS c caller w s).1 h).2)

/-! ### the skip list is a frame of the model's flows -/

theorem entryTail_skipped (w : World) (c : Cfg) (p rel id s : Text) (cmp : Cmp) (sk : List Text) :
    entryTail { w with skipped := sk } c p rel id s cmp =
      ({ (entryTail w c p rel id s cmp).1 with skipped := sk }, (entryTail w c p rel id s cmp).2) := by
  unfold entryTail
  simp only
  cases (fsRead w.fs p).bind (getPrev id) with
  | none =>
    simp only
    split
    · rfl
    · cases frameFmt id s <;> rfl
  | some pl =>
    obtain ⟨prev, line⟩ := pl
    simp only
    -- the diff does not depend on the skip list: one name for it on both sides
    generalize prettyDiff _ _ rel line = diff
    by_cases hd : diff = []
    · simp only [if_pos hd]
    simp only [if_neg hd]
    split
    · rfl
    cases fsRead w.fs p <;> rfl

theorem matchEntry_skipped (w : World) (c : Cfg) (caller t : Text) (x : Nat) (cmp : Cmp)
    (pre : Except Text Text) (sk : List Text) :
    matchEntry { w with skipped := sk } c caller t x cmp pre =
      ({ (matchEntry w c caller t x cmp pre).1 with skipped := sk }, (matchEntry w c caller t x cmp pre).2) := by
  unfold matchEntry
  generalize snapshotPath c caller t false = sp
  obtain ⟨snapPath, rel?⟩ := sp
  simp only [regBump]
  cases sprintf Generated.idFmt [.s t, .d (alGet w.running (snapPath, t) + 1)] with
  | none => rfl
  | some id =>
    cases rel? with
    | none => rfl
    | some rel =>
      cases pre with
      | error msg => rfl
      | ok s => exact entryTail_skipped (bumped w snapPath t x) c snapPath rel id s cmp sk

theorem resetFold_skipped (ps : List (Nat × Pending)) (w : World) (sk : List Text) :
    ps.foldl resetStep { w with skipped := sk } = { ps.foldl resetStep w with skipped := sk } := by
  induction ps generalizing w with
  | nil => rfl
  | cons q ps ih =>
    rw [List.foldl_cons, List.foldl_cons, ← ih]
    congr 1
    unfold resetStep
    split <;> rfl

theorem endTest_skipped (w : World) (x : Nat) (sk : List Text) :
    endTest { w with skipped := sk } x = { endTest w x with skipped := sk } := by
  rw [endTest_eq, endTest_eq]
  simp only [resetFold_skipped]

theorem step_skipped (c : Cfg) (caller : Text) (w : World) (s : Step) (sk : List Text) :
    C01World.step c caller { w with skipped := sk } s =
      ({ (C01World.step c caller w s).1 with skipped := sk }, (C01World.step c caller w s).2) := by
  cases s with
  | call t txt cmp x => simp only [C01World.step, matchEntry_skipped]
  | done x => simp only [C01World.step, endTest_skipped]

theorem run_skipped (c : Cfg) (caller : Text) (h : List Step) : ∀ (w : World) (sk : List Text),
    C01World.run c caller { w with skipped := sk } h =
      ({ (C01World.run c caller w h).1 with skipped := sk }, (C01World.run c caller w h).2) := by
  induction h with
  | nil => intro w sk; rfl
  | cons s h ih =>
    intro w sk
    simp only [C01World.run]
    rw [step_skipped]
    simp only
    rw [ih]

theorem step_keeps_skipped (c : Cfg) (caller : Text) (w : World) (s : Step) :
    (C01World.step c caller w s).1.skipped = w.skipped :=
  congrArg (fun r => r.1.skipped) (step_skipped c caller w s w.skipped)

theorem run_keeps_skipped (c : Cfg) (caller : Text) (w : World) (h : List Step) :
    (C01World.run c caller w h).1.skipped = w.skipped :=
  congrArg (fun r => r.1.skipped) (run_skipped c caller h w w.skipped)

/-- **the world after a history with skip steps** is the world after the history without them, with the
    names of the skip steps appended to the skip list -/
theorem runS_world (c : Cfg) (caller : Text) (h : List SStep) : ∀ w : World,
    (runS c caller w h).1 =
      { (C01World.run c caller w (strip h)).1 with skipped := w.skipped ++ skipNames h } := by
  induction h with
  | nil =>
    intro w
    simp only [runS, strip, skipNames, C01World.run, List.append_nil]
  | cons s h ih =>
    intro w
    cases s with
    | run s =>
      simp only [runS, stepS, strip, skipNames, C01World.run]
      rw [ih, step_keeps_skipped]
    | skip t x k =>
      simp only [runS, stepS, strip, skipNames]
      rw [ih]
      show _ = { (C01World.run c caller w (strip h)).1 with skipped := w.skipped ++ t :: skipNames h }
      have := run_skipped c caller (strip h) w (w.skipped ++ [t])
      rw [show trackSkip w t = { w with skipped := w.skipped ++ [t] } from rfl, this]
      simp only [List.append_assoc, List.cons_append, List.nil_append]

theorem runS_skipped (c : Cfg) (caller : Text) (h : List SStep) (w : World) :
    (runS c caller w h).1.skipped = w.skipped ++ skipNames h := by
  rw [runS_world]

theorem tid_beforeSep {e : Entry} {t : Text} {k : Nat} (hid : e.id = testID t k) (h : (32 : Byte) ∉ t) :
    beforeSep (tidOf e) Generated.skipSep = t := by
  rw [tidOf_of_id hid]; exact C08.beforeSep_testID t k h

/-- **the rule, on headers**: the entry `[t - k]` is protected by the skip list `sk` iff `t` is a skipped name
    or starts with `name/` for a skipped name -/
theorem protected_header_iff (sk : List Text) {e : Entry} {t : Text} {k : Nat} (hid : e.id = testID t k)
    (h : (32 : Byte) ∉ t) :
    C08.Protected sk (tidOf e) ↔ ∃ N ∈ sk, t = N ∨ hasPrefix t (N ++ [slash]) = true := by
  unfold C08.Protected
  rw [tid_beforeSep hid h]

theorem protected_self (sk : List Text) {e : Entry} {N : Text} {k : Nat} (hN : N ∈ sk)
    (hid : e.id = testID N k) (h : (32 : Byte) ∉ N) : C08.Protected sk (tidOf e) :=
  (protected_header_iff sk hid h).mpr ⟨N, hN, Or.inl rfl⟩

theorem protected_descendant (sk : List Text) {e : Entry} {N sub : Text} {k : Nat} (hN : N ∈ sk)
    (hid : e.id = testID (N ++ slash :: sub) k) (h : (32 : Byte) ∉ N) (hs : (32 : Byte) ∉ sub) :
    C08.Protected sk (tidOf e) := by
  have hns : (32 : Byte) ∉ N ++ slash :: sub := by
    simp only [List.mem_append, List.mem_cons, not_or]
    exact ⟨h, by decide, hs⟩
  refine (protected_header_iff sk hid hns).mpr ⟨N, hN, Or.inr ?_⟩
  simp only [hasPrefix, List.isPrefixOf_iff_prefix]
  exact ⟨sub, by simp⟩

/-- a name that extends `N` by bytes that do not start with `/` (`TestAB` for `TestA`, `TestA/x#01` for
    `TestA/x`) is neither `N` nor a descendant of `N` -/
theorem sibling_not_covered (N rest : Text) (c : Byte) (hc : c ≠ slash) :
    ¬ (N ++ c :: rest = N ∨ hasPrefix (N ++ c :: rest) (N ++ [slash]) = true) := by
  rintro (h | h)
  · have := congrArg List.length h
    simp at this
  · simp only [hasPrefix, List.isPrefixOf_iff_prefix] at h
    obtain ⟨t, ht⟩ := h
    simp only [List.append_assoc, List.append_cancel_left_eq, List.cons_append, List.nil_append,
      List.cons.injEq] at ht
    exact hc ht.1.symm

theorem skipListed_false_iff (sk : List Text) (tid : Text) :
    skipListed sk tid = false ↔ ¬ C08.Protected sk tid := by
  rw [← C08.skipListed_iff]; simp

/-- **`clean_keeps_of_kept` for registered slots and skip protection**: every entry of `must` is EITHER `[t - k]` with
`1 ≤ k ≤ n / count` for a registered pair `((p, t), n)` OR protected by the skip list of `w` (`C08.Protected`) -/
theorem clean_keeps_kept (o : Oracles) (w : World) (sortOpt : Bool) (count : Nat) (p : Text)
    (es must : List Entry)
    (hkeys : ∀ kv ∈ w.cleanup, kv.1.1 = p) (hs : w.scleanup = [])
    (hcov : ∀ e ∈ must,
      (∃ t k n, e.id = testID t k ∧ 1 ≤ k ∧ k ≤ n / count ∧ ((p, t), n) ∈ w.cleanup) ∨
      C08.Protected w.skipped (tidOf e))
    (hf : CleanFile es) (hfile : Holds w.fs p es) (hall : ∀ e ∈ must, e ∈ es)
    (sa : List Text) (fr : FilesResult) (obsT : List Text) (fs : FS) (wr : List Text)
    (run : CleanRun o w sortOpt [] count sa fr obsT fs wr) :
    p ∉ fr.removed ∧ (∀ e ∈ must, tidOf e ∉ obsT) ∧
    (∃ es', CleanFile es' ∧ Holds fs p es' ∧ (∀ e ∈ must, e ∈ es') ∧ (∀ e ∈ es', e ∈ es)) ∧
    (∀ q, q ≠ p → q ∉ fr.removed → fsRead fs q = fsRead w.fs q) :=
  clean_keeps_of_kept o w sortOpt [] count p es must hkeys hs
    (fun registered hreg e he => (hcov e he).elim
      (fun ⟨_, _, _, hid, hk1, hk2, hm⟩ =>
        kept_of_covered o w.cleanup w.skipped [] count p registered hreg hid hk1 hk2 hm)
      (C08.protected_kept o registered w.skipped [] _))
    (fun registered _ _ => classified_noRun o registered w.skipped _) hf hfile hall sa fr obsT fs wr run

/-- with at least one skip the summary is not empty and contains the line `printEvent "⟳ " "skipped" n`
    (`⟳ n snapshot(s) skipped`), whatever else there is to report -/
theorem summary_skipped_line (obsF obsT : List Text) (n : Nat) (ev : Events) (anyEvent upd : Bool) (hn : n > 0) :
    ∃ pre post, summary obsF obsT n ev anyEvent upd =
      pre ++ printEvent Generated.go_skipSymbol (ofString "skipped") n ++ post := by
  unfold summary
  rw [if_neg (by simp; omega)]
  rw [List.append_assoc (_ ++ printEvent Generated.go_skipSymbol (ofString "skipped") n),
    List.append_assoc (_ ++ printEvent Generated.go_skipSymbol (ofString "skipped") n)]
  exact ⟨_, _, rfl⟩

/-- the line itself: the symbol, the number, `snapshot` or `snapshots`, `skipped` -/
theorem printEvent_skipped (n : Nat) (hn : n > 0) :
    printEvent Generated.go_skipSymbol (ofString "skipped") n =
      Generated.go_skipSymbol ++ natToText n ++ ofString " " ++
        (if n > 1 then ofString "snapshot" ++ ofString "s" else ofString "snapshot") ++ ofString " " ++
        ofString "skipped" ++ [nl] := by
  unfold printEvent plural
  rw [if_neg (by omega)]

/-! ## `-run`: oracle tables read off the functions standing for `regexp` and `go/parser`

The model of `Clean` consults FINITE tables (`Oracles`); the transliteration calls functions (`re`,
`parseFile`).  For a given pattern, file system and snapshot file the tables below answer every question the
model asks (`cleanOracles_…`), and answer it as the functions do (`runOracles_oracleSound`,
`runOracles_parseSound`): the model covers the call (`clean_supported_run`). -/

section RunFilter
open GoSnaps.GoIO (GoDecl Err)
open GoSnaps.Tie (ParseSound OracleSound SkipConsistent skipPath funcNames)

/-- the tables for the pattern `r`: the regexp answers for the strings `ss`, the parse results for the
    paths `ps` -/
def runOracles (parseFile : Text → List GoDecl × Err) (re : Text → Text → Bool × Bool) (r : Text)
    (ss ps : List Text) : Oracles :=
  { re := ss.map (fun s => ((r, s), (re r s).1)),
    gofuncs := ps.map (fun q =>
      (q, if (parseFile q).2.notNil then none else some (funcNames (parseFile q).1))) }

theorem find?_map_key_some {α κ β : Type} [DecidableEq κ] (l : List α) (k : α → κ) (v : α → β) (key : κ)
    (kv : κ × β) (h : (l.map (fun s => (k s, v s))).find? (·.1 = key) = some kv) :
    ∃ s ∈ l, k s = key ∧ kv = (k s, v s) := by
  have h1 := List.find?_some h
  obtain ⟨s, hs, e⟩ := List.mem_map.mp (List.mem_of_find?_eq_some h)
  subst e
  exact ⟨s, hs, by simpa using h1, rfl⟩

theorem find?_map_key_mem {α κ β : Type} [DecidableEq κ] (l : List α) (k : α → κ) (v : α → β) (a : α)
    (ha : a ∈ l) : ∃ s ∈ l, k s = k a ∧
      (l.map (fun s => (k s, v s))).find? (·.1 = k a) = some (k s, v s) := by
  cases h : (l.map (fun s => (k s, v s))).find? (·.1 = k a) with
  | none =>
    have := List.find?_eq_none.mp h (k a, v a) (List.mem_map.mpr ⟨a, ha, rfl⟩)
    simp at this
  | some kv =>
    obtain ⟨s, hs, e1, e2⟩ := find?_map_key_some l k v (k a) kv h
    exact ⟨s, hs, e1, by rw [e2]⟩

theorem runOracles_reMatch (parseFile : Text → List GoDecl × Err) (re : Text → Text → Bool × Bool) (r : Text)
    (ss ps : List Text) (hr : r ≠ []) (s : Text) (hs : s ∈ ss) :
    (runOracles parseFile re r ss ps).reMatch r s = some (re r s).1 := by
  unfold Oracles.reMatch runOracles
  rw [if_neg hr]
  obtain ⟨s', _, e1, e2⟩ := find?_map_key_mem ss (fun s => (r, s)) (fun s => (re r s).1) s hs
  have : s' = s := (Prod.mk.inj e1).2
  subst this
  rw [e2]; rfl

theorem runOracles_oracleSound (parseFile : Text → List GoDecl × Err) (re : Text → Text → Bool × Bool)
    (r : Text) (ss ps : List Text) (hr : r ≠ []) : OracleSound (runOracles parseFile re r ss ps) re r := by
  intro s b h
  unfold Oracles.reMatch runOracles at h
  rw [if_neg hr] at h
  simp only at h
  cases hf : (ss.map (fun s => ((r, s), (re r s).1))).find? (·.1 = (r, s)) with
  | none => rw [hf] at h; cases h
  | some kv =>
    rw [hf] at h
    obtain ⟨s', _, e1, e2⟩ := find?_map_key_some ss (fun s => (r, s)) (fun s => (re r s).1) (r, s) kv hf
    have : s' = s := (Prod.mk.inj e1).2
    subst this
    rw [e2] at h
    exact Option.some.inj h

theorem runOracles_parseSound (parseFile : Text → List GoDecl × Err) (re : Text → Text → Bool × Bool)
    (r : Text) (ss ps : List Text) : ParseSound (runOracles parseFile re r ss ps) parseFile := by
  intro q key entry h
  obtain ⟨q', _, e1, e2⟩ := find?_map_key_some ps (fun q => q)
    (fun q => if (parseFile q).2.notNil then none else some (funcNames (parseFile q).1)) q (key, entry) h
  have e1' : q' = q := e1
  subst e1'
  exact (Prod.mk.inj e2).2

/-- the tables are consistent for every listed path whose function names are listed -/
theorem runOracles_skipConsistent (parseFile : Text → List GoDecl × Err) (re : Text → Text → Bool × Bool)
    (r : Text) (ss ps : List Text) (hr : r ≠ []) (q : Text) (hq : q ∈ ps)
    (hn : ∀ n ∈ funcNames (parseFile q).1, n ∈ ss) :
    SkipConsistent (runOracles parseFile re r ss ps) parseFile re r q := by
  refine ⟨?_, fun _ n hn' => runOracles_reMatch parseFile re r ss ps hr n (hn n hn')⟩
  obtain ⟨q', _, e1, e2⟩ := find?_map_key_mem ps (fun q => q)
    (fun q => if (parseFile q).2.notNil then none else some (funcNames (parseFile q).1)) q hq
  have e1' : q' = q := e1
  subst e1'
  exact ⟨q', e2⟩

/-- **the tables for one `Clean`**: the ids of the entries of the snapshot file, the test files
    `isFileSkipped` would parse for the names listed in the snapshot directory, and the functions those
    declare -/
def cleanOracles (parseFile : Text → List GoDecl × Err) (re : Text → Text → Bool × Bool) (r : Text)
    (fs : FS) (dir : Text) (es : List Entry) : Oracles :=
  runOracles parseFile re r
    (es.map tidOf ++
      ((readDir fs dir).map (fun x => skipPath dir x.1)).flatMap (fun q => funcNames (parseFile q).1))
    ((readDir fs dir).map (fun x => skipPath dir x.1))

theorem cleanOracles_entry (parseFile : Text → List GoDecl × Err) (re : Text → Text → Bool × Bool) (r : Text)
    (fs : FS) (dir : Text) (es : List Entry) (hr : r ≠ []) (e : Entry) (he : e ∈ es) :
    (cleanOracles parseFile re r fs dir es).reMatch r (tidOf e) = some (re r (tidOf e)).1 :=
  runOracles_reMatch parseFile re r _ _ hr _ (List.mem_append_left _ (List.mem_map_of_mem he))

theorem cleanOracles_file (parseFile : Text → List GoDecl × Err) (re : Text → Text → Bool × Bool) (r : Text)
    (fs : FS) (dir : Text) (es : List Entry) (hr : r ≠ []) (x : Text × Bool) (hx : x ∈ readDir fs dir) :
    isFileSkipped (cleanOracles parseFile re r fs dir es) dir x.1 r =
      some (Generated.FuncsIO.isFileSkipped parseFile re dir x.1 r) := by
  apply Tie.isFileSkipped_tied
  intro _
  refine runOracles_skipConsistent parseFile re r _ _ hr _
    (List.mem_map.mpr ⟨x, hx, rfl⟩) (fun n hn => List.mem_append_right _ ?_)
  exact List.mem_flatMap.mpr ⟨_, List.mem_map.mpr ⟨x, hx, rfl⟩, hn⟩

theorem testSkipped_eq (o : Oracles) (skipped : List Text) (tid r : Text) :
    testSkipped o skipped tid r =
      if skipListed skipped tid then some true else (o.reMatch r tid).map (!·) := rfl

theorem classified_of_reMatch (o : Oracles) (registered skipped : List Text) (r tid : Text) (b : Bool)
    (h : o.reMatch r tid = some b) : Classified o registered skipped r tid := by
  unfold Classified keptId staleId
  rw [testSkipped_eq, h]
  cases registered.contains tid <;> cases b <;> cases skipListed skipped tid <;> simp

/-- **what is kept under `-run r`**: registered, or skip-protected, or the pattern does not match the WHOLE id
    (finding D7: the id, not the name of the test `go test -run` selects) -/
theorem keptId_run (o : Oracles) (registered skipped : List Text) (r tid : Text) (b : Bool)
    (h : o.reMatch r tid = some b) :
    keptId o registered skipped r tid = (registered.contains tid || skipListed skipped tid || !b) := by
  unfold keptId
  rw [testSkipped_eq, h]
  cases registered.contains tid <;> cases b <;> cases skipListed skipped tid <;> simp

/-- `examineFiles` over one snapshot directory has a result with these tables, whatever the pattern -/
theorem examineFiles_run_some (parseFile : Text → List GoDecl × Err) (re : Text → Text → Bool × Bool)
    (r : Text) (hr : r ≠ []) (w : World) (p : Text) (es : List Entry)
    (hkeys : ∀ kv ∈ w.cleanup, kv.1.1 = p) (update : Bool) :
    ∃ fr, examineFiles (cleanOracles parseFile re r w.fs (fpDir p) es) w.fs (cleanRegPaths w) [] r update =
      some fr := by
  by_cases hne : w.cleanup = []
  · rw [cleanRegPaths_nil w hne, examineFiles_eq]
    exact ⟨_, rfl⟩
  · rw [cleanRegPaths_single w p hne hkeys, examineFiles_eq]
    simp only [List.append_nil, List.map_cons, List.map_nil, dedup_single, sortBytes_single, List.foldl_cons,
      List.foldl_nil]
    exact filesOuter_some _ _ _ _ _ _ _
      (fun x hx => ⟨_, cleanOracles_file parseFile re r w.fs (fpDir p) es hr x hx⟩)

/-- one step of the inner loop of `examineFiles`: a registered path is handed on as `used` before
    `isFileSkipped` is consulted -/
theorem filesInner_used (o : Oracles) (p dir r : Text) (update : Bool) (r0 r1 : FilesResult) (x : Text × Bool)
    (h : filesInner o [p] [] r update dir (some r0) x = some r1) :
    r1.used = r0.used ++ (if candM x && (fpJoin [dir, x.1] == p) then [fpJoin [dir, x.1]] else []) := by
  unfold filesInner at h
  unfold candM
  simp only [List.contains_cons, List.contains_nil, Bool.or_false] at h
  cases h1 : (x.2 || !containsSub x.1 Generated.snapsExt) with
  | true =>
    simp only [h1, ↓reduceIte, Option.some.injEq] at h
    subst h; simp
  | false =>
    cases h2 : (fpJoin [dir, x.1] == p) with
    | true =>
      simp only [h1, h2, Bool.false_eq_true, ↓reduceIte, Option.some.injEq] at h
      subst h; simp
    | false =>
      simp only [h1, h2, Bool.false_eq_true, ↓reduceIte] at h
      cases hs : isFileSkipped o dir x.1 r with
      | none => rw [hs] at h; cases h
      | some b =>
        rw [hs] at h
        cases b <;> cases update <;> simp only [Bool.false_eq_true, ↓reduceIte, Option.some.injEq] at h <;>
          subst h <;> simp

/-- which files the inner loop of `examineFiles` hands on as `used` does not depend on the pattern -/
theorem filesInner_fold_used (o : Oracles) (p dir r : Text) (update : Bool) (L : List (Text × Bool)) :
    ∀ r0 fr : FilesResult, L.foldl (filesInner o [p] [] r update dir) (some r0) = some fr →
      fr.used = r0.used ++ filesUsed p dir L := by
  induction L with
  | nil =>
    intro r0 fr h
    simp only [List.foldl_nil, Option.some.injEq] at h
    subst h
    simp [filesUsed]
  | cons x L ih =>
    intro r0 fr h
    rw [List.foldl_cons] at h
    cases hstep : filesInner o [p] [] r update dir (some r0) x with
    | none => rw [hstep, foldl_none _ (fun _ => rfl)] at h; cases h
    | some r1 =>
      rw [hstep] at h
      rw [ih r1 fr h, filesInner_used o p dir r update r0 r1 x hstep]
      unfold filesUsed
      cases hc : (candM x && (fpJoin [dir, x.1] == p)) <;> simp [hc]

/-- `examineFiles` for one registered path under ANY pattern: the used files are those of `examineFiles_one` -/
theorem examineFiles_run_used (o : Oracles) (fs : FS) (p r : Text) (update : Bool) (fr : FilesResult)
    (h : examineFiles o fs [p] [] r update = some fr) :
    fr.used = filesUsed p (fpDir p) (readDir fs (fpDir p)) := by
  rw [examineFiles_eq] at h
  simp only [List.append_nil, List.map_cons, List.map_nil, dedup_single, sortBytes_single, List.foldl_cons,
    List.foldl_nil] at h
  unfold filesOuter at h
  simp only at h
  have := filesInner_fold_used o p (fpDir p) r update _ _ _ h
  simpa using this

/-- **the model covers `Clean` under a `-run` filter** with the tables `cleanOracles` (hypotheses of
    `clean_supported_noRun`) -/
theorem clean_supported_run (parseFile : Text → List GoDecl × Err) (re : Text → Text → Bool × Bool)
    (r : Text) (hr : r ≠ []) (w : World) (sortOpt : Bool) (count : Nat) (p : Text)
    (es : List Entry) (hcnt : count > 0)
    (hkeys : ∀ kv ∈ w.cleanup, kv.1.1 = p) (hs : w.scleanup = [])
    (hf : CleanFile es) (hfile : Holds w.fs p es) (hex : w.cleanup ≠ [] → fsRead w.fs p ≠ none)
    (hto : sortOpt = true → TotalOn (es.map tidOf)) :
    (clean (cleanOracles parseFile re r w.fs (fpDir p) es) w sortOpt r count).2.unsupported = none :=
  clean_supported_of _ w sortOpt r count p es hcnt hkeys hs hf hfile hex hto
    (examineFiles_run_some parseFile re r hr w p es hkeys _)
    (fun registered e he => classified_of_reMatch _ registered w.skipped r _ _
      (cleanOracles_entry parseFile re r w.fs (fpDir p) es hr e he))

/-- **`clean_keeps_kept` under a `-run` filter**: what survives is what is registered, skip-protected, or has
    an id the pattern does not match -/
theorem clean_keeps_kept_run (parseFile : Text → List GoDecl × Err) (re : Text → Text → Bool × Bool)
    (r : Text) (hr : r ≠ []) (w : World) (sortOpt : Bool) (count : Nat) (p : Text)
    (es must : List Entry)
    (hkeys : ∀ kv ∈ w.cleanup, kv.1.1 = p) (hs : w.scleanup = [])
    (hcov : ∀ e ∈ must,
      (∃ t k n, e.id = testID t k ∧ 1 ≤ k ∧ k ≤ n / count ∧ ((p, t), n) ∈ w.cleanup) ∨
      C08.Protected w.skipped (tidOf e) ∨ (re r (tidOf e)).1 = false)
    (hf : CleanFile es) (hfile : Holds w.fs p es) (hall : ∀ e ∈ must, e ∈ es)
    (sa : List Text) (fr : FilesResult) (obsT : List Text) (fs : FS) (wr : List Text)
    (run : CleanRun (cleanOracles parseFile re r w.fs (fpDir p) es) w sortOpt r count sa fr obsT fs wr) :
    p ∉ fr.removed ∧ (∀ e ∈ must, tidOf e ∉ obsT) ∧
    (∃ es', CleanFile es' ∧ Holds fs p es' ∧ (∀ e ∈ must, e ∈ es') ∧ (∀ e ∈ es', e ∈ es)) ∧
    (∀ q, q ≠ p → q ∉ fr.removed → fsRead fs q = fsRead w.fs q) :=
  clean_keeps_of_kept _ w sortOpt r count p es must hkeys hs
    (fun registered hreg e he => by
      rcases hcov e he with ⟨t, k, n, hid, hk1, hk2, hm⟩ | hp | hno
      · exact kept_of_covered _ w.cleanup w.skipped r count p registered hreg hid hk1 hk2 hm
      · exact C08.protected_kept _ registered w.skipped r _ hp
      · rw [keptId_run _ registered w.skipped r _ _
          (cleanOracles_entry parseFile re r w.fs (fpDir p) es hr e (hall e he)), hno]
        simp)
    (fun registered e he => classified_of_reMatch _ registered w.skipped r _ _
      (cleanOracles_entry parseFile re r w.fs (fpDir p) es hr e he)) hf hfile hall sa fr obsT fs wr run

end RunFilter

end GoSnaps.SkipHist
