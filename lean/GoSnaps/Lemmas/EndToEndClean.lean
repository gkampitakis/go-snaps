/-
Model-level helper lemmas for `Props/Tie/EndToEndClean.lean` (a history of Match* calls, then `Clean`,
about the transliterated code):

the model covers `Clean` on one snapshot file (`clean_supported_of`: `examineFiles` has a result whenever
`isFileSkipped` answers, the file loop whenever `Sort` is asked only on totally ordered ids); the snapshot file stays
`Good` through ANY history in ANY mode (`run_keeps_good`); key lists of association lists after an assignment.
-/
import GoSnaps.Lemmas.CleanWorld
import GoSnaps.Props.C07World
import GoSnaps.Props.C08

namespace GoSnaps.CleanWorld

open GoSnaps GoSnaps.C06Refine GoSnaps.Wld GoSnaps.C01World
open GoSnaps.C03 (testID)

section AL
variable {κ : Type} [DecidableEq κ]

theorem keys_alSet (m : List (κ × Nat)) (k : κ) (v : Nat) :
    (alSet m k v).map (·.1) = if k ∈ m.map (·.1) then m.map (·.1) else m.map (·.1) ++ [k] := by
  induction m with
  | nil => simp [alSet]
  | cons q m ih =>
    obtain ⟨k', v'⟩ := q
    by_cases hk : k' = k
    · subst hk; simp [alSet]
    · have hk' : ¬ k = k' := fun e => hk e.symm
      by_cases hm : k ∈ m.map (·.1)
      · simp only [alSet, hk, ↓reduceIte, List.map_cons, ih, hm, List.mem_cons, or_true]
      · simp only [alSet, hk, ↓reduceIte, List.map_cons, ih, hm, List.mem_cons, hk', or_self,
          List.cons_append]

theorem mem_keys_alSet (m : List (κ × Nat)) (k k' : κ) (v : Nat) :
    k' ∈ (alSet m k v).map (·.1) ↔ k' ∈ m.map (·.1) ∨ k' = k := by
  rw [keys_alSet]
  split
  · rename_i h
    constructor
    · exact Or.inl
    · rintro (h' | rfl)
      · exact h'
      · exact h
  · simp

theorem nodup_keys_alSet (m : List (κ × Nat)) (k : κ) (v : Nat) (h : (m.map (·.1)).Nodup) :
    ((alSet m k v).map (·.1)).Nodup := by
  rw [keys_alSet]
  split
  · exact h
  · rename_i hk
    rw [List.nodup_append]
    exact ⟨h, by simp, fun a ha b hb e => by
      simp only [List.mem_singleton] at hb; subst hb; subst e; exact hk ha⟩

theorem alGet_of_mem_nodup (m : List (κ × Nat)) (hnd : (m.map (·.1)).Nodup) (k : κ) (v : Nat)
    (h : (k, v) ∈ m) : alGet m k = v := by
  induction m with
  | nil => cases h
  | cons q m ih =>
    obtain ⟨k', v'⟩ := q
    simp only [List.map_cons, List.nodup_cons] at hnd
    rcases List.mem_cons.mp h with heq | hm
    · obtain ⟨rfl, rfl⟩ := Prod.mk.inj heq
      simp [alGet]
    · have hne : ¬ k' = k := fun e => hnd.1 (e ▸ List.mem_map.mpr ⟨(k, v), hm, rfl⟩)
      simp only [alGet, hne, ↓reduceIte]
      exact ih hnd.2 hm

theorem mem_alGet_of_key (m : List (κ × Nat)) (k : κ) (h : k ∈ m.map (·.1)) : (k, alGet m k) ∈ m := by
  induction m with
  | nil => cases h
  | cons q m ih =>
    obtain ⟨k', v'⟩ := q
    by_cases hk : k' = k
    · subst hk; simp [alGet]
    · have : k ∈ m.map (·.1) := by
        rcases List.mem_cons.mp h with h' | h'
        · exact absurd h'.symm hk
        · exact h'
      simp only [alGet, hk, ↓reduceIte]
      exact List.mem_cons_of_mem _ (ih this)

end AL

/-! ## when the model covers `Clean`

With `runOnly = ""` no oracle table is consulted, `getTestID` never panics and the formats never fail; the
remaining ways in which the model of `Clean` has no answer are: `-count=0`, a listed snapshot file that
cannot be read, and `Sort` on ids on which `natural.Less` is not a total order (where `slices.SortFunc` promises
nothing). -/

theorem foldl_some_of_step {α β : Type} (f : Option α → β → Option α) (l : List β)
    (hstep : ∀ a x, x ∈ l → ∃ a', f (some a) x = some a') :
    ∀ a, ∃ a', l.foldl f (some a) = some a' := by
  induction l with
  | nil => intro a; exact ⟨a, rfl⟩
  | cons x l ih =>
    intro a
    obtain ⟨a1, h1⟩ := hstep a x (by simp)
    rw [List.foldl_cons, h1]
    exact ih (fun a x hx => hstep a x (by simp [hx])) a1

theorem ite_some_of {α : Type} (c : Prop) [Decidable c] (a : α) {e : Option α} (h : ∃ y, e = some y) :
    ∃ y, (if c then some a else e) = some y := by
  split
  · exact ⟨a, rfl⟩
  · exact h

/-- the only way in which one entry step of `examineFiles` has no result: `isFileSkipped` has none -/
theorem filesInner_some (o : Oracles) (regPaths standalone : List Text) (runOnly : Text) (update : Bool)
    (dir : Text) (r : FilesResult) (x : Text × Bool) (b : Bool)
    (h : isFileSkipped o dir x.1 runOnly = some b) :
    ∃ r', filesInner o regPaths standalone runOnly update dir (some r) x = some r' := by
  unfold filesInner
  refine ite_some_of _ _ (ite_some_of _ _ (ite_some_of _ _ ?_))
  rw [h]
  cases b
  · exact ite_some_of _ _ ⟨_, rfl⟩
  · exact ⟨_, rfl⟩

theorem filesOuter_some (o : Oracles) (regPaths standalone : List Text) (runOnly : Text) (update : Bool)
    (dir : Text) (r0 : FilesResult)
    (h : ∀ x ∈ readDir r0.fs dir, ∃ b, isFileSkipped o dir x.1 runOnly = some b) :
    ∃ r', filesOuter o regPaths standalone runOnly update (some r0) dir = some r' :=
  foldl_some_of_step _ _ (fun r x hx => (h x hx).elim
    (filesInner_some o regPaths standalone runOnly update dir r x)) r0

theorem examineFiles_noRun_some (o : Oracles) (fs : FS) (regPaths standalone : List Text) (update : Bool) :
    ∃ fr, examineFiles o fs regPaths standalone [] update = some fr := by
  rw [examineFiles_eq]
  exact foldl_some_of_step _ _ (fun r0 dir _ => filesOuter_some o _ _ _ _ dir r0
    (fun x _ => ⟨false, C08.isFileSkipped_runOnly_empty o dir x.1⟩)) _

theorem ite_ok_of (c : Prop) [Decidable c] (st : List Text) (fs : FS) (w : List Text) {e : SnapsOutcome}
    (h : ∃ st fs1 w1, e = .ok st fs1 w1) : ∃ st' fs1 w1, (if c then .ok st fs w else e) = .ok st' fs1 w1 := by
  split
  · exact ⟨_, _, _, rfl⟩
  · exact h

/-- one file step on a `CleanFile` has a result when `Sort` is asked only on totally ordered ids -/
theorem cleanOutcome_ok_of_total (K : Text → Bool) (es : List Entry) (p : Text) (fs : FS) (update sort : Bool)
    (hto : sort = true → TotalOn (es.map tidOf)) :
    ∃ st fs1 w1, cleanOutcome K es p fs update sort = .ok st fs1 w1 := by
  unfold cleanOutcome
  simp only
  refine ite_ok_of _ _ _ _ ?_
  · by_cases hs : (sort && !(isSortedNat (es.map tidOf))) = true
    · have hsort : sort = true := by
        cases sort with
        | true => rfl
        | false => simp at hs
      simp only [hs, ↓reduceIte, sort_check_passes _ (hto hsort), Bool.not_true, Bool.and_false,
        Bool.false_eq_true]
      exact ⟨_, _, _, rfl⟩
    · simp only [hs, Bool.false_eq_true, ↓reduceIte, Bool.false_and]
      exact ⟨_, _, _, rfl⟩

/-- the file loop over a list of used paths that are all the existing `CleanFile` `p` has a result when the
    tables classify every entry (without a `-run` pattern they always do: `classified_noRun`) and, if `sort`,
    `natural.Less` is total on the ids -/
theorem go_ok_of_total (o : Oracles) (cleanup : List (RegKey × Nat)) (skipped : List Text) (r : Text)
    (count : Nat) (update sort : Bool) (p : Text) :
    ∀ (used : List Text), (∀ q ∈ used, q = p) →
    ∀ (fs : FS) (obs written : List Text) (es : List Entry),
      CleanFile es → fsRead fs p = some (render es) → (sort = true → TotalOn (es.map tidOf)) →
      (∀ registered, ∀ e ∈ es, Classified o registered skipped r (tidOf e)) →
      ∃ obs' fs' w', examineSnaps.go o cleanup skipped r count update sort used fs obs written =
        .ok obs' fs' w' := by
  intro used
  induction used with
  | nil => intro _ fs obs written es _ _ _ _; exact ⟨_, _, _, examineSnaps_go_nil _ _ _ _ _ _ _ _ _ _⟩
  | cons q rest ih =>
    intro hused fs obs written es hf hread hto hcls
    have hq : q = p := hused q (by simp)
    subst hq
    have hrest : ∀ q' ∈ rest, q' = q := fun q' hq' => hused q' (by simp [hq'])
    obtain ⟨registered, hreg⟩ : ∃ r, registeredFor cleanup q count = some r :=
      occurrences_snapshot_total _ count
    rw [examineSnaps_go_cons_clean o registered skipped r fs cleanup q rest count update sort
      obs written es hf hread hreg (hcls registered)]
    obtain ⟨st, fs1, w1, hco⟩ := cleanOutcome_ok_of_total (keptId o registered skipped r) es q fs update
      sort hto
    rw [hco]
    simp only
    obtain ⟨_, hfs⟩ := cleanOutcome_ok _ es q fs update sort st fs1 w1 hco
    rcases hfs with ⟨rfl, rfl⟩ | ⟨ids', hperm, rfl, rfl⟩
    · exact ih hrest fs1 _ _ es hf hread hto hcls
    · obtain ⟨hf2, hsub⟩ := cleanFile_reorder es hf
        (fun e => keptId o registered skipped r (tidOf e) || !update) ids' hperm
      refine ih hrest _ _ _ _ hf2 (C19.fsRead_fsWrite_same _ _ _) (fun hs => (hto hs).mono ?_)
        (fun reg e he => hcls reg e (hsub e he).1)
      intro x hx
      obtain ⟨e, he, rfl⟩ := List.mem_map.mp hx
      exact List.mem_map.mpr ⟨e, (hsub e he).1, rfl⟩

/-- **the model covers `Clean`** of a world whose registry knows only the file `p` (no standalone
snapshot), for any oracle tables and `-run` pattern with which `examineFiles` has a result and every entry of
the file is classified, and `-count > 0`: whenever `p` holds a `CleanFile` `es`, exists if any test registered
it, and — if `Sort` is requested — `natural.Less` is a total order on the ids of `es`. -/
theorem clean_supported_of (o : Oracles) (w : World) (sortOpt : Bool) (r : Text) (count : Nat) (p : Text)
    (es : List Entry) (hcnt : count > 0)
    (hkeys : ∀ kv ∈ w.cleanup, kv.1.1 = p) (hs : w.scleanup = [])
    (hf : CleanFile es) (hfile : Holds w.fs p es) (hex : w.cleanup ≠ [] → fsRead w.fs p ≠ none)
    (hto : sortOpt = true → TotalOn (es.map tidOf))
    (hfiles : ∃ fr, examineFiles o w.fs (cleanRegPaths w) [] r (Generated.cleanFilesUpdate w.env sortOpt) =
      some fr)
    (hcls : ∀ registered, ∀ e ∈ es, Classified o registered w.skipped r (tidOf e)) :
    (clean o w sortOpt r count).2.unsupported = none := by
  have hocc : occurrences w.scleanup count standaloneOccFmt = some [] := by rw [hs]; rfl
  obtain ⟨fr, hfiles⟩ := hfiles
  have hused : ∀ q ∈ fr.used, q = p := used_all_p o w p hkeys [] r _ fr hfiles
  have hnrem : p ∉ fr.removed := regPath_not_removed o w p hkeys r _ fr hfiles
  have hframe := (C09.examineFiles_untouched _ _ _ _ _ _ _ hfiles).2.2.2
  have hsn : ∃ obsT fs wr, examineSnaps o fr.fs w.cleanup w.skipped fr.used r count
      (Generated.cleanSnapsUpdate w.env sortOpt) (Generated.cleanSnapsSort w.env sortOpt) = .ok obsT fs wr := by
    by_cases hu : fr.used = []
    · rw [hu]; exact ⟨_, _, _, rfl⟩
    · have hne : w.cleanup ≠ [] := by
        intro h0
        obtain ⟨q, hq⟩ := List.exists_mem_of_ne_nil _ hu
        have := examineFiles_used_sub _ _ _ _ _ _ _ hfiles q hq
        unfold cleanRegPaths at this
        rw [h0] at this
        exact absurd (mem_dedup _ _ this) (by simp)
      have hread : fsRead fr.fs p = some (render es) := by
        rw [hframe p hnrem]
        rcases hfile with h1 | ⟨h1, _⟩
        · exact h1
        · exact absurd h1 (hex hne)
      refine go_ok_of_total o w.cleanup w.skipped r count _ _ p fr.used hused fr.fs [] [] es hf hread ?_ hcls
      intro hsort
      apply hto
      unfold Generated.cleanSnapsSort at hsort
      simp only [Bool.and_eq_true] at hsort
      exact hsort.1
  obtain ⟨obsT, fs, wr, hsn⟩ := hsn
  exact (CleanRun.of_stages (by omega) hocc hfiles hsn).supported

/-- **the model covers `Clean`** of a world whose registry knows only the file `p` (no standalone
snapshot), with no `-run` filter and `-count > 0`, whenever `p` holds a `CleanFile` `es`, exists if any
test registered it, and — if `Sort` is requested — `natural.Less` is a total order on the ids of `es`. -/
theorem clean_supported_noRun (o : Oracles) (w : World) (sortOpt : Bool) (count : Nat) (p : Text)
    (es : List Entry) (hcnt : count > 0)
    (hkeys : ∀ kv ∈ w.cleanup, kv.1.1 = p) (hs : w.scleanup = [])
    (hf : CleanFile es) (hfile : Holds w.fs p es) (hex : w.cleanup ≠ [] → fsRead w.fs p ≠ none)
    (hto : sortOpt = true → TotalOn (es.map tidOf)) :
    (clean o w sortOpt [] count).2.unsupported = none :=
  clean_supported_of o w sortOpt [] count p es hcnt hkeys hs hf hfile hex hto
    (examineFiles_noRun_some o w.fs (cleanRegPaths w) [] _)
    (fun registered _ _ => classified_noRun o registered w.skipped _)

/-! ## the snapshot file stays `Good` through ANY history, in ANY mode

`C01World.record_run` / `replay_run` follow the file through a history whose calls all record, or all
replay.  Here nothing is assumed about what the calls find: an entry may be created, found equal, found
different and updated, found different and reported, or missing and reported (CI) — in every case the file
holds a `Good` entry list afterwards, whose headers are initial ones or headers of called tests and whose
bodies are initial ones or texts of the history.  NoShadow is asked of everything in play (`NoShadowAll`):
no line of a text is a header of the initial file, and no line of a text or of a body of the initial file is
`[t - k]` for a called test `t` (finding D9 otherwise). -/

theorem entryTail_keeps_good (w : World) (c : Cfg) (p rel id s : Text) (cmp : Cmp) (es : List Entry)
    (hfile : Holds w.fs p es) (hgood : Good es) (hid : GoodId id) (hb : GoodBody s)
    (hold : ∀ o ∈ es, o.id ∉ lines s) (hself : id ∉ lines s) (hnb : ∀ o ∈ es, id ∉ lines o.body) :
    ∃ es', Holds (entryTail w c p rel id s cmp).1.fs p es' ∧ Good es' ∧
      (∀ o ∈ es', o.id = id ∨ o.id ∈ ids es) ∧ (∀ o ∈ es', o.body = s ∨ o.body ∈ es.map (·.body)) ∧
      ((fsRead w.fs p ≠ none ∨ Generated.shouldCreate w.env c.update = true) →
        fsRead (entryTail w c p rel id s cmp).1.fs p ≠ none) ∧
      (∀ o ∈ es, o.id ∈ ids es') := by
  have hidm : ∀ o ∈ es, o.id = id ∨ o.id ∈ ids es := fun o ho => Or.inr (List.mem_map.mpr ⟨o, ho, rfl⟩)
  have hbm : ∀ o ∈ es, o.body = s ∨ o.body ∈ es.map (·.body) :=
    fun o ho => Or.inr (List.mem_map.mpr ⟨o, ho, rfl⟩)
  have hmono : ∀ o ∈ es, o.id ∈ ids es := fun o ho => List.mem_map.mpr ⟨o, ho, rfl⟩
  by_cases hm : id ∈ ids es
  · obtain ⟨e, he, hide⟩ := List.mem_map.mp hm
    obtain ⟨pre, post, hsplit⟩ := List.append_of_mem he
    subst hsplit
    have hlook := good_lookup_split hgood
    have hread : fsRead w.fs p = some (render (pre ++ e :: post)) := hfile.some_of_ne_nil (by simp)
    have hq : (fsRead w.fs p).bind (getPrev id) = some (e.body, (fileLines pre).length + 2) := by
      rw [hfile.lookup id, ← hide]; exact hlook
    have hex : fsRead w.fs p ≠ none := by rw [hread]; simp
    by_cases heq : cmpText cmp e.body = cmpText cmp s
    · rw [entryTail_found_eq w c p rel id s cmp e.body _ hq heq]
      exact ⟨_, hfile, hgood, hidm, hbm, fun _ => hex, hmono⟩
    · cases hu : Generated.shouldUpdate w.env c.update with
      | false =>
        rw [(entryTail_found_ne_ro w c p rel id s cmp e.body _ hq heq hu).1]
        exact ⟨_, hfile, hgood, hidm, hbm, fun _ => hex, hmono⟩
      | true =>
        rw [entryTail_found_ne_upd w c p rel id s cmp e.body _ _ hread (by rw [← hide]; exact hlook) heq hu]
        refine ⟨pre ++ ⟨e.id, s⟩ :: post, Holds.write _ (by rw [← hide]; exact good_update_split hgood s),
          good_replace hgood hb hold, ?_, ?_, fun _ => by simp [C19.fsRead_fsWrite_same], ?_⟩
        · intro o ho
          rcases List.mem_append.mp ho with ho | ho
          · exact hidm o (by simp [ho])
          · rcases List.mem_cons.mp ho with rfl | ho
            · exact Or.inl hide
            · exact hidm o (by simp [ho])
        · intro o ho
          rcases List.mem_append.mp ho with ho | ho
          · exact hbm o (by simp [ho])
          · rcases List.mem_cons.mp ho with rfl | ho
            · exact Or.inl rfl
            · exact hbm o (by simp [ho])
        · intro o ho
          simp only [ids, List.map_append, List.map_cons, List.mem_append, List.mem_cons, List.mem_map]
          rcases List.mem_append.mp ho with ho | ho
          · exact Or.inl ⟨o, ho, rfl⟩
          · rcases List.mem_cons.mp ho with rfl | ho
            · exact Or.inr (Or.inl rfl)
            · exact Or.inr (Or.inr ⟨o, ho, rfl⟩)
  · have hfresh : id ∉ fileLines es := not_mem_fileLines id es hid.2.2.1 hid.2.2.2
      (fun o ho => ⟨fun h => hm (h ▸ List.mem_map.mpr ⟨o, ho, rfl⟩), hnb o ho⟩)
    have hq : (fsRead w.fs p).bind (getPrev id) = none := by
      rw [hfile.lookup id]; exact good_lookup_absent hgood hfresh
    cases hc : Generated.shouldCreate w.env c.update with
    | true =>
      rw [entryTail_absent w c p rel id s cmp hq hc, hfile.fileOf, (add_refines es id s).1]
      refine ⟨es ++ [⟨id, s⟩], Holds.write _ rfl, hgood.add hid hfresh hb hold hself, ?_, ?_,
        fun _ => by simp [C19.fsRead_fsWrite_same],
        fun o ho => List.mem_map.mpr ⟨o, List.mem_append.mpr (Or.inl ho), rfl⟩⟩
      · intro o ho
        rcases List.mem_append.mp ho with ho | ho
        · exact hidm o ho
        · simp only [List.mem_singleton] at ho; subst ho; exact Or.inl rfl
      · intro o ho
        rcases List.mem_append.mp ho with ho | ho
        · exact hbm o ho
        · simp only [List.mem_singleton] at ho; subst ho; exact Or.inl rfl
    | false =>
      rw [entryTail_absent_ro w c p rel id s cmp hq hc]
      refine ⟨_, hfile, hgood, hidm, hbm, fun hor => ?_, hmono⟩
      rcases hor with h' | h'
      · exact h'
      · cases h'

/-- NoShadow for everything in play: initial entries `es₀`, called test names `N`, texts `T` -/
structure NoShadowAll (es₀ : List Entry) (N T : List Text) : Prop where
  names : ∀ t ∈ N, NoNL t
  bodies : ∀ s ∈ T, GoodBody s
  oldIds : ∀ s ∈ T, ∀ o ∈ es₀, o.id ∉ lines s
  newIds : ∀ s ∈ T, ∀ t ∈ N, ∀ k, testID t k ∉ lines s
  oldBodies : ∀ o ∈ es₀, ∀ t ∈ N, ∀ k, testID t k ∉ lines o.body

structure FileInv (es₀ : List Entry) (N T : List Text) (es : List Entry) : Prop where
  good : Good es
  ids : ∀ o ∈ es, o.id ∈ ids es₀ ∨ ∃ t ∈ N, ∃ k, o.id = testID t k
  bodies : ∀ o ∈ es, o.body ∈ es₀.map (·.body) ∨ o.body ∈ T

theorem FileInv.init {es₀ : List Entry} (N T : List Text) (h : Good es₀) : FileInv es₀ N T es₀ :=
  ⟨h, fun o ho => Or.inl (List.mem_map.mpr ⟨o, ho, rfl⟩), fun o ho => Or.inl (List.mem_map.mpr ⟨o, ho, rfl⟩)⟩

theorem run_keeps_good (c : Cfg) (caller p rel : Text)
    (hsp : ∀ t, snapshotPath c caller t false = (p, some rel)) (es₀ : List Entry) (N T : List Text)
    (hns : NoShadowAll es₀ N T) (h : List Step) :
    ∀ (w : World) (es : List Entry), (∀ t ∈ calledNames h, t ∈ N) → (∀ s ∈ texts h, s ∈ T) →
      Holds w.fs p es → FileInv es₀ N T es →
      ∃ es', Holds (run c caller w h).1.fs p es' ∧ FileInv es₀ N T es' ∧
        ((fsRead w.fs p ≠ none ∨ (Generated.shouldCreate w.env c.update = true ∧ calledNames h ≠ [])) →
          fsRead (run c caller w h).1.fs p ≠ none) ∧
        (∀ o ∈ es, o.id ∈ ids es') := by
  induction h with
  | nil =>
    intro w es _ _ hfile hinv
    refine ⟨es, hfile, hinv, fun hor => ?_, fun o ho => List.mem_map.mpr ⟨o, ho, rfl⟩⟩
    rcases hor with h' | ⟨_, h'⟩
    · exact h'
    · exact absurd rfl h'
  | cons st h ih =>
    intro w es hN hT hfile hinv
    cases st with
    | call t s cmp x =>
      have ht : t ∈ N := hN t (by simp [calledNames])
      have hs : s ∈ T := hT s (by simp [texts])
      rw [run_call, matchEntry_eq w c caller t x cmp s p rel (hsp t)]
      obtain ⟨es1, h1, g1, i1, b1, x1, mo1⟩ := entryTail_keeps_good (bumped w p t x) c p rel
        (testID t (alGet w.running (p, t) + 1)) s cmp es hfile hinv.good
        (goodId_testID t _ (hns.names t ht)) (hns.bodies s hs)
        (fun o ho => by
          rcases hinv.ids o ho with hi | ⟨t', ht', k', hi⟩
          · obtain ⟨o₀, ho₀, e⟩ := List.mem_map.mp hi
            rw [← e]; exact hns.oldIds s hs o₀ ho₀
          · rw [hi]; exact hns.newIds s hs t' ht' k')
        (hns.newIds s hs t ht _)
        (fun o ho => by
          rcases hinv.bodies o ho with hb | hb
          · obtain ⟨o₀, ho₀, e⟩ := List.mem_map.mp hb
            rw [← e]; exact hns.oldBodies o₀ ho₀ t ht _
          · exact hns.newIds _ hb t ht _)
      have hinv1 : FileInv es₀ N T es1 := by
        refine ⟨g1, fun o ho => ?_, fun o ho => ?_⟩
        · rcases i1 o ho with e | e
          · exact Or.inr ⟨t, ht, _, e⟩
          · obtain ⟨o', ho', e'⟩ := List.mem_map.mp e
            rw [← e']; exact hinv.ids o' ho'
        · rcases b1 o ho with e | e
          · rw [e]; exact Or.inr hs
          · obtain ⟨o', ho', e'⟩ := List.mem_map.mp e
            rw [← e']; exact hinv.bodies o' ho'
      obtain ⟨es2, h2, g2, x2, mo2⟩ := ih _ es1 (fun t' ht' => hN t' (by simp [calledNames, ht']))
        (fun s' hs' => hT s' (by simp [texts, hs'])) h1 hinv1
      refine ⟨es2, h2, g2, fun hor => x2 (Or.inl (x1 ?_)), fun o ho => ?_⟩
      · rcases hor with h' | ⟨h', _⟩
        · exact Or.inl h'
        · exact Or.inr h'
      · obtain ⟨o1, ho1, e1⟩ := List.mem_map.mp (mo1 o ho)
        rw [← e1]; exact mo2 o1 ho1
    | done x =>
      rw [run_done]
      obtain ⟨es2, h2, g2, x2, mo2⟩ := ih (endTest w x) es
        (fun t' ht' => hN t' (by simpa [calledNames] using ht'))
        (fun s' hs' => hT s' (by simpa [texts] using hs')) (by rw [endTest_fs]; exact hfile) hinv
      refine ⟨es2, h2, g2, fun hor => x2 ?_, mo2⟩
      rw [endTest_fs, endTest_env]
      rcases hor with h' | ⟨h', h''⟩
      · exact Or.inl h'
      · exact Or.inr ⟨h', by simpa [calledNames] using h''⟩

end GoSnaps.CleanWorld
