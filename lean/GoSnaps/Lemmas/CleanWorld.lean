/-
Helper lemmas for Props/C07World and the end-to-end layer: what the cleanup registry looks like after a run
of a history (`RegInv`), `Good` + `Recognised` ⇒ `CleanFile`, and `Clean` on a world whose registry knows
only the snapshot file `p`: every entry the scan keeps (`keptId`: registered or skip-protected) stays in the
file, with its body, and is never reported — the file loop of `examineSnaps` (`go_keeps_kept`) and the whole
`Clean` (`clean_keeps_of_kept`), for any oracle tables, `-run` pattern and `-count`.
-/
import GoSnaps.Props.C01World
import GoSnaps.Lemmas.CleanTop
import GoSnaps.Props.C07
import GoSnaps.Props.C09

namespace GoSnaps.CleanWorld

open GoSnaps GoSnaps.C06Refine GoSnaps.Wld GoSnaps.C01World
open GoSnaps.C03 (testID)

section AL
variable {κ : Type} [DecidableEq κ]

theorem mem_alSet_self (m : List (κ × Nat)) (k : κ) (v : Nat) : (k, v) ∈ alSet m k v := by
  induction m with
  | nil => simp [alSet]
  | cons q m ih =>
    obtain ⟨k', v'⟩ := q
    simp only [alSet]
    split
    · simp
    · simp [ih]

theorem mem_alSet_of_mem (m : List (κ × Nat)) (k k' : κ) (v v' : Nat) (h : (k', v') ∈ m)
    (hne : k' ≠ k) : (k', v') ∈ alSet m k v := by
  induction m with
  | nil => cases h
  | cons q m ih =>
    obtain ⟨k'', v''⟩ := q
    simp only [alSet]
    split
    · rename_i hk
      rcases List.mem_cons.mp h with heq | hm
      · obtain ⟨h1, _⟩ := Prod.mk.inj heq
        exact absurd (h1.trans hk) hne
      · exact List.mem_cons_of_mem _ hm
    · rcases List.mem_cons.mp h with heq | hm
      · rw [heq]; exact List.mem_cons_self
      · exact List.mem_cons_of_mem _ (ih hm)

theorem mem_alSet_imp (m : List (κ × Nat)) (k : κ) (v : Nat) (x : κ × Nat)
    (h : x ∈ alSet m k v) : x = (k, v) ∨ x ∈ m := by
  induction m with
  | nil => left; simpa [alSet] using h
  | cons q m ih =>
    obtain ⟨k'', v''⟩ := q
    simp only [alSet] at h
    split at h
    · rcases List.mem_cons.mp h with heq | hm
      · exact Or.inl heq
      · exact Or.inr (List.mem_cons_of_mem _ hm)
    · rcases List.mem_cons.mp h with heq | hm
      · right; rw [heq]; exact List.mem_cons_self
      · rcases ih hm with h' | h'
        · exact Or.inl h'
        · exact Or.inr (List.mem_cons_of_mem _ h')

end AL

theorem calledNames_append (h1 h2 : List Step) :
    calledNames (h1 ++ h2) = calledNames h1 ++ calledNames h2 := by
  induction h1 with
  | nil => rfl
  | cons st h1 ih => cases st <;> simp [calledNames, ih]

theorem texts_append (h1 h2 : List Step) : texts (h1 ++ h2) = texts h1 ++ texts h2 := by
  induction h1 with
  | nil => rfl
  | cons st h1 ih => cases st <;> simp [texts, ih]

theorem run_call (c : Cfg) (caller : Text) (w : World) (t s : Text) (cmp : Cmp) (x : Nat) (h : List Step) :
    (run c caller w (.call t s cmp x :: h)).1 = (run c caller (matchEntry w c caller t x cmp (.ok s)).1 h).1 := by
  simp only [run, step]

theorem run_done (c : Cfg) (caller : Text) (w : World) (x : Nat) (h : List Step) :
    (run c caller w (.done x :: h)).1 = (run c caller (endTest w x) h).1 := by
  simp only [run, step]

theorem run_append (c : Cfg) (caller : Text) (h1 h2 : List Step) : ∀ w : World,
    (run c caller w (h1 ++ h2)).1 = (run c caller (run c caller w h1).1 h2).1 := by
  induction h1 with
  | nil => intro w; rfl
  | cons st h1 ih => intro w; simp only [List.cons_append, run]; exact ih _

theorem run_append_outs (c : Cfg) (caller : Text) (h1 h2 : List Step) : ∀ w : World,
    (run c caller w (h1 ++ h2)).2 = (run c caller w h1).2 ++ (run c caller (run c caller w h1).1 h2).2 := by
  induction h1 with
  | nil => intro w; rfl
  | cons st h1 ih => intro w; simp only [List.cons_append, run, ih, List.append_assoc]

/-- the calls made so far, after a part of a history -/
def pastAfter : List (Text × Nat) → List Step → List (Text × Nat)
  | past, [] => past
  | past, .call t _ _ x :: h => pastAfter ((t, x) :: past) h
  | past, .done _ :: h => pastAfter past h

theorem pastAfter_names (h : List Step) : ∀ past : List (Text × Nat),
    (pastAfter past h).map Prod.fst = (calledNames h).reverse ++ past.map Prod.fst := by
  induction h with
  | nil => intro past; rfl
  | cons st h ih =>
    intro past
    cases st with
    | call t s cmp x => simp [pastAfter, calledNames, ih]
    | done x => simp [pastAfter, calledNames, ih]

/-- **replaying the first part of a `Scoped` history** whose entries the `Good` file holds: silent, the file
    system and the environment are untouched, and `C01World.Inv` / `Scoped` hold for the rest -/
theorem replay_prefix (c : Cfg) (caller p rel : Text)
    (hsp : ∀ t, snapshotPath c caller t false = (p, some rel)) (esAll : List Entry) (hgood : Good esAll)
    (h1 rest : List Step) :
    ∀ (w : World) (past : List (Text × Nat)), Inv p w past (h1 ++ rest) → Scoped past (h1 ++ rest) →
      Holds w.fs p esAll → (∀ e ∈ entriesFrom (past.map Prod.fst) h1, e ∈ esAll) →
      (run c caller w h1).1.fs = w.fs ∧ (run c caller w h1).1.env = w.env ∧
      (∀ o ∈ (run c caller w h1).2, Silent o) ∧
      Inv p (run c caller w h1).1 (pastAfter past h1) rest ∧ Scoped (pastAfter past h1) rest := by
  induction h1 with
  | nil => intro w past hi hs _ _; exact ⟨rfl, rfl, fun _ ho => (nomatch ho), hi, hs⟩
  | cons st h1 ih =>
    intro w past hi hs hfile hall
    simp only [List.cons_append] at hi hs
    cases st with
    | call t s cmp x =>
      have hn : alGet w.running (p, t) = (past.map Prod.fst).count t := hi.ord t (by simp [calledNames])
      obtain ⟨e1, e2, e3, e4, e5, e6⟩ := matchEntry_replay w c caller t x cmp s p rel esAll (hsp t) hfile hgood
        (by rw [hn]; exact hall _ (by simp [entriesFrom]))
      obtain ⟨r1, r2, r3, r4, r5⟩ := ih _ ((t, x) :: past) (hi.call c caller _ (hsp t)) hs
        (by rw [e5]; exact hfile)
        (fun e he => hall e (by simp only [entriesFrom]; exact List.mem_cons_of_mem _ he))
      simp only [run, step, pastAfter]
      refine ⟨r1.trans e5, r2.trans e6, fun o ho => ?_, r4, r5⟩
      rcases List.mem_append.mp ho with ho | ho
      · rw [List.mem_singleton.mp ho]; exact ⟨e1, e2, e3, e4⟩
      · exact r3 o ho
    | done x =>
      obtain ⟨r1, r2, r3, r4, r5⟩ := ih (endTest w x) past (hi.done hs.1) hs.2
        (by rw [endTest_fs]; exact hfile) (fun e he => hall e (by simpa only [entriesFrom] using he))
      simp only [run, step, pastAfter, List.nil_append]
      exact ⟨r1.trans (endTest_fs w x), r2.trans (endTest_env w x), r3, r4, r5⟩

theorem matchEntry_scleanup (w : World) (c : Cfg) (caller tName : Text) (texec : Nat) (cmp : Cmp)
    (pre : Except Text Text) :
    (matchEntry w c caller tName texec cmp pre).1.scleanup = w.scleanup :=
  (matchEntry_touches w c caller tName texec cmp pre).regs.scleanup

theorem endTest_scleanup (w : World) (texec : Nat) : (endTest w texec).scleanup = w.scleanup := by
  obtain ⟨r, sr, h⟩ := endTest_frame w texec
  rw [h]

/-! ## the cleanup registry after a run

`seen` = the names of the calls made so far in this process (most recent first).  With
`-count=1` the cumulative counter of `(p, t)` is the total number of calls of `t`. -/

structure RegInv (p : Text) (w : World) (seen : List Text) : Prop where
  get : ∀ t, alGet w.cleanup (p, t) = seen.count t
  mem : ∀ t ∈ seen, ((p, t), seen.count t) ∈ w.cleanup
  keys : ∀ kv ∈ w.cleanup, kv.1.1 = p
  sclean : w.scleanup = []

theorem RegInv.fresh (p : Text) (env : Generated.Env) (fs : FS) :
    RegInv p { env := env, fs := fs } [] :=
  ⟨fun _ => rfl, fun _ h => (by cases h), fun _ h => (by cases h), rfl⟩

theorem RegInv.call {p : Text} {w : World} {seen : List Text} (hi : RegInv p w seen)
    (c : Cfg) (caller t : Text) (x : Nat) (cmp : Cmp) (pre : Except Text Text)
    (hsp : (snapshotPath c caller t false).1 = p) :
    RegInv p (matchEntry w c caller t x cmp pre).1 (t :: seen) := by
  obtain ⟨_, h2, _⟩ := matchEntry_regs w c caller t x cmp pre
  simp only [hsp] at h2
  have hcl : (matchEntry w c caller t x cmp pre).1.cleanup =
      alSet w.cleanup (p, t) (seen.count t + 1) := by
    rw [h2]; simp only [regBump, hi.get t]
  constructor
  · intro t'
    rw [hcl, alGet_alSet]
    by_cases hcase : t' = t
    · subst hcase; simp
    · have hk : (p, t') ≠ (p, t) := fun e => hcase (Prod.mk.inj e).2
      rw [if_neg hk, hi.get t']
      simp [Ne.symm hcase]
  · intro t' ht'
    rw [hcl]
    by_cases hcase : t' = t
    · subst hcase
      have : (t' :: seen).count t' = seen.count t' + 1 := by simp
      rw [this]; exact mem_alSet_self _ _ _
    · have hk : (p, t') ≠ (p, t) := fun e => hcase (Prod.mk.inj e).2
      have hm : t' ∈ seen := by
        rcases List.mem_cons.mp ht' with h | h
        · exact absurd h hcase
        · exact h
      have : (t :: seen).count t' = seen.count t' := by simp [Ne.symm hcase]
      rw [this]
      exact mem_alSet_of_mem _ _ _ _ _ (hi.mem t' hm) hk
  · intro kv hkv
    rw [hcl] at hkv
    rcases mem_alSet_imp _ _ _ _ hkv with h | h
    · rw [h]
    · exact hi.keys kv h
  · rw [matchEntry_scleanup]; exact hi.sclean

theorem RegInv.done {p : Text} {w : World} {seen : List Text} (hi : RegInv p w seen) (x : Nat) :
    RegInv p (endTest w x) seen := by
  constructor
  · intro t; rw [endTest_cleanup]; exact hi.get t
  · intro t ht; rw [endTest_cleanup]; exact hi.mem t ht
  · intro kv hkv; rw [endTest_cleanup] at hkv; exact hi.keys kv hkv
  · rw [endTest_scleanup]; exact hi.sclean

/-- **the cleanup registry after a run**: whatever the calls did to the file (record, compare,
fail), every name called has its total number of calls as cumulative counter -/
theorem run_regInv (c : Cfg) (caller p : Text)
    (hsp : ∀ t, (snapshotPath c caller t false).1 = p) (h : List Step) :
    ∀ (w : World) (seen : List Text), RegInv p w seen →
      RegInv p (run c caller w h).1 ((calledNames h).reverse ++ seen) := by
  induction h with
  | nil => intro w seen hi; simpa [run, calledNames] using hi
  | cons st h ih =>
    intro w seen hi
    cases st with
    | call t s cmp x =>
      have := ih _ _ (hi.call c caller t x cmp (.ok s) (hsp t))
      simpa [run, step, calledNames] using this
    | done x =>
      have := ih _ _ (hi.done x)
      simpa [run, step, calledNames] using this

/-- a slot `[t - k]`, `1 ≤ k ≤ (calls of t) / cnt`, of a test called at least once is covered by a registered
    pair (the form `kept_of_covered` takes) -/
theorem RegInv.covered {p : Text} {w : World} {names : List Text} (hi : RegInv p w names.reverse) {e : Entry}
    {cnt : Nat} (h : ∃ t k, e.id = testID t k ∧ 1 ≤ k ∧ k ≤ names.count t / cnt) :
    ∃ t k n, e.id = testID t k ∧ 1 ≤ k ∧ k ≤ n / cnt ∧ ((p, t), n) ∈ w.cleanup := by
  obtain ⟨t, k, hid, hk1, hk2⟩ := h
  have hpos : 0 < names.count t := by
    rcases Nat.eq_zero_or_pos (names.count t) with h0 | h0
    · rw [h0, Nat.zero_div] at hk2; omega
    · exact h0
  have hm := hi.mem t (List.mem_reverse.mpr (List.count_pos_iff.mp hpos))
  rw [List.count_reverse] at hm
  exact ⟨t, k, _, hid, hk1, hk2, hm⟩

/-- every header of a history is `[t - k]` with `1 ≤ k ≤` the number of calls of `t` -/
theorem entriesFrom_bound (h : List Step) : ∀ seen, ∀ e ∈ entriesFrom seen h,
    ∃ t k, e.id = testID t k ∧ 1 ≤ k ∧ k ≤ seen.count t + (calledNames h).count t ∧
      t ∈ calledNames h := by
  induction h with
  | nil => intro _ e he; simp [entriesFrom] at he
  | cons st h ih =>
    intro seen e he
    cases st with
    | call t s cmp x =>
      simp only [entriesFrom, List.mem_cons] at he
      rcases he with rfl | he
      · refine ⟨t, _, rfl, by omega, ?_, by simp [calledNames]⟩
        simp [calledNames]
      · obtain ⟨t', k', h1, h2, h3, h4⟩ := ih (t :: seen) e he
        refine ⟨t', k', h1, h2, ?_, by simp [calledNames, h4]⟩
        simp only [calledNames, List.count_cons] at h3 ⊢
        omega
    | done x =>
      simp only [entriesFrom] at he
      obtain ⟨t', k', h1, h2, h3, h4⟩ := ih seen e he
      exact ⟨t', k', h1, h2, by simpa [calledNames] using h3, by simpa [calledNames] using h4⟩

theorem tidOf_testID (t s : Text) (k : Nat) :
    tidOf ⟨testID t k, s⟩ = t ++ [32, 45, 32] ++ natToText k := by
  have h : testID t k = 91 :: ((t ++ [32, 45, 32] ++ natToText k) ++ [93]) := by simp [testID]
  unfold tidOf
  simp only [h, List.drop_succ_cons, List.drop_zero, List.length_cons, List.length_append,
    List.length_nil]
  have : (t.length + (0 + 1 + 1 + 1) + (natToText k).length + (0 + 1) + 1 - 2) =
      (t ++ [32, 45, 32] ++ natToText k).length := by
    simp only [List.length_append, List.length_cons, List.length_nil]; omega
  rw [this, List.take_left']
  rfl

theorem tidOf_of_id {e : Entry} {t : Text} {k : Nat} (h : e.id = testID t k) :
    tidOf e = t ++ [32, 45, 32] ++ natToText k := by
  rw [← tidOf_testID t e.body k]; unfold tidOf; rw [h]

theorem tidOf_congr {a b : Entry} (h : a.id = b.id) : tidOf a = tidOf b := by
  unfold tidOf; rw [h]

theorem nodup_tid_of_ids (es : List Entry) (hrec : ∀ e ∈ es, Recognised e)
    (hnd : (ids es).Nodup) : (es.map tidOf).Nodup := by
  induction es with
  | nil => simp
  | cons e es ih =>
    simp only [ids, List.map_cons, List.nodup_cons] at hnd ⊢
    refine ⟨?_, ih (fun x hx => hrec x (by simp [hx])) hnd.2⟩
    intro hm
    obtain ⟨x, hx, hxe⟩ := List.mem_map.mp hm
    apply hnd.1
    have h1 := (hrec e (by simp)).id_eq
    have h2 := (hrec x (by simp [hx])).id_eq
    rw [h1, ← hxe, ← h2]
    exact List.mem_map.mpr ⟨x, hx, rfl⟩

theorem nodup_ids_of_tid (es : List Entry) (hnd : (es.map tidOf).Nodup) : (ids es).Nodup := by
  induction es with
  | nil => simp [ids]
  | cons e es ih =>
    simp only [ids, List.map_cons, List.nodup_cons] at hnd ⊢
    refine ⟨?_, ih hnd.2⟩
    intro hm
    obtain ⟨x, hx, hxe⟩ := List.mem_map.mp hm
    apply hnd.1
    rw [← tidOf_congr hxe]
    exact List.mem_map.mpr ⟨x, hx, rfl⟩

/-- a `Good` file all of whose headers are recognised by `getTestID` is a `CleanFile` -/
theorem cleanFile_of_good {es : List Entry} (hg : Good es) (hrec : ∀ e ∈ es, Recognised e) :
    CleanFile es where
  idNoNL := hg.wf.idNoNL
  noCR := hg.wf.noCR
  recognised := hrec
  escaped e he := (hg.1.1 e he).2.1
  distinct := nodup_tid_of_ids es hrec hg.2

/-- `Good` is inherited by any selection of the entries with pairwise distinct ids (any order) -/
theorem good_of_subset {es es' : List Entry} (hg : Good es) (hsub : ∀ e ∈ es', e ∈ es)
    (hnd : (es'.map tidOf).Nodup) : Good es' :=
  ⟨⟨fun e he => hg.1.1 e (hsub e he), fun e he o ho => hg.1.2 e (hsub e he) o (hsub o ho)⟩,
    nodup_ids_of_tid es' hnd⟩

theorem holds_congr {fs fs' : FS} {p : Text} {es : List Entry} (h : fsRead fs' p = fsRead fs p)
    (hh : Holds fs p es) : Holds fs' p es := by
  unfold Holds at *; rw [h]; exact hh

/-- **the file loop of `examineSnaps`** over a list of used paths that are all `p`, for ANY `-run` pattern
whose oracle tables classify every entry of the file (`Classified`; without a pattern they always do:
`classified_noRun`): if `p` holds the `CleanFile` `es` and every entry of `must` is in it and is one the scan
KEEPS (`keptId`: registered or skip-protected), then after the loop `p` holds a `CleanFile` `es'` made of
entries of `es` that still contains every entry of `must` (same header, same body); none of their ids was
reported; no other path changed. -/
theorem go_keeps_kept (o : Oracles) (cleanup : List (RegKey × Nat)) (skipped : List Text) (runOnly : Text)
    (count : Nat) (update sort : Bool) (p : Text) (registered : List Text)
    (hreg : registeredFor cleanup p count = some registered)
    (must : List Entry) (hK : ∀ e ∈ must, keptId o registered skipped runOnly (tidOf e) = true) :
    ∀ (used : List Text), (∀ q ∈ used, q = p) →
    ∀ (fs : FS) (obs written : List Text) (es : List Entry),
      CleanFile es → Holds fs p es → (∀ e ∈ es, Classified o registered skipped runOnly (tidOf e)) →
      (∀ e ∈ must, e ∈ es) → (∀ e ∈ must, tidOf e ∉ obs) →
      ∀ (obs' : List Text) (fs' : FS) (w' : List Text),
        examineSnaps.go o cleanup skipped runOnly count update sort used fs obs written =
          .ok obs' fs' w' →
        ∃ es', CleanFile es' ∧ Holds fs' p es' ∧ (∀ e ∈ must, e ∈ es') ∧ (∀ e ∈ es', e ∈ es) ∧
          (∀ e ∈ must, tidOf e ∉ obs') ∧ (∀ q, q ≠ p → fsRead fs' q = fsRead fs q) := by
  intro used
  induction used with
  | nil =>
    intro _ fs obs written es hf hh _ hall hobs obs' fs' w' h
    rw [examineSnaps_go_nil] at h
    simp only [SnapsOutcome.ok.injEq] at h
    obtain ⟨rfl, rfl, _⟩ := h
    exact ⟨es, hf, hh, hall, fun _ he => he, hobs, fun _ _ => rfl⟩
  | cons q rest ih =>
    intro hused fs obs written es hf hh hcls hall hobs obs' fs' w' h
    have hq : q = p := hused q (by simp)
    subst hq
    have hrest : ∀ q' ∈ rest, q' = q := fun q' hq' => hused q' (by simp [hq'])
    rcases hh with hread | ⟨hnone, _⟩
    · rw [examineSnaps_go_cons_clean o registered skipped runOnly fs cleanup q rest count update sort
        obs written es hf hread hreg hcls] at h
      cases hco : cleanOutcome (keptId o registered skipped runOnly) es q fs update sort with
      | ok st fs1 w1 =>
        rw [hco] at h
        simp only at h
        obtain ⟨hst, hfs⟩ := cleanOutcome_ok _ es q fs update sort st fs1 w1 hco
        have hobs1 : ∀ e ∈ must, tidOf e ∉ obs ++ st := by
          intro e he hm
          rcases List.mem_append.mp hm with hm | hm
          · exact hobs e he hm
          · rw [hst] at hm
            obtain ⟨x, hx, hxe⟩ := List.mem_map.mp hm
            have := (List.mem_filter.mp hx).2
            rw [hxe, hK e he] at this
            cases this
        rcases hfs with ⟨rfl, rfl⟩ | ⟨ids', hperm, rfl, rfl⟩
        · exact ih hrest fs1 _ _ es hf (Or.inl hread) hcls hall hobs1 obs' fs' w' h
        · obtain ⟨hf2, hsub⟩ := cleanFile_reorder es hf
            (fun e => keptId o registered skipped runOnly (tidOf e) || !update) ids' hperm
          have hp2 := reorder_perm es (fun e => keptId o registered skipped runOnly (tidOf e) || !update)
            ids' hf.distinct hperm
          have hall2 : ∀ e ∈ must, e ∈ reorder
              (es.filter (fun e => keptId o registered skipped runOnly (tidOf e) || !update)) ids' := by
            intro e he
            exact hp2.mem_iff.mpr (List.mem_filter.mpr ⟨hall e he, by simp [hK e he]⟩)
          obtain ⟨es', h1, h2, h3, h4, h5, h6⟩ := ih hrest _ _ _ _ hf2
            (Or.inl (C19.fsRead_fsWrite_same _ _ _)) (fun e he => hcls e (hsub e he).1) hall2 hobs1 obs' fs' w' h
          refine ⟨es', h1, h2, h3, fun e he => (hsub e (h4 e he)).1, h5, ?_⟩
          intro q' hq'
          rw [h6 q' hq']
          exact C19.fsRead_fsWrite_other _ _ _ _ hq'
      | missingOracle => rw [hco] at h; cases h
      | unsupportedOrder => rw [hco] at h; cases h
      | panics => rw [hco] at h; cases h
      | badFormat => rw [hco] at h; cases h
    · rw [examineSnaps_go_cons, hnone] at h
      cases h

theorem occurrences_nil (count : Nat) (fmt : Text → Nat → Option Text) :
    occurrences [] count fmt = some [] := rfl

theorem standalone_nil {o : Oracles} {w : World} {sortOpt : Bool} {runOnly : Text} {count : Nat}
    {sa : List Text} {fr : FilesResult} {obsT : List Text} {fs : FS} {wr : List Text}
    (run : CleanRun o w sortOpt runOnly count sa fr obsT fs wr) (hs : w.scleanup = []) : sa = [] := by
  have := run.occ
  rw [hs, occurrences_nil] at this
  exact (Option.some.inj this).symm

theorem used_all_p (o : Oracles) (w : World) (p : Text) (hkeys : ∀ kv ∈ w.cleanup, kv.1.1 = p)
    (sa : List Text) (runOnly : Text) (upd : Bool) (fr : FilesResult)
    (h : examineFiles o w.fs (cleanRegPaths w) sa runOnly upd = some fr) : ∀ q ∈ fr.used, q = p := by
  intro q hq
  have := examineFiles_used_sub _ _ _ _ _ _ _ h q hq
  obtain ⟨kv, hkv, rfl⟩ := List.mem_map.mp (mem_dedup _ _ this)
  exact hkeys kv hkv

/-- a registered snapshot file is never removed by `examineFiles` (no standalone snapshot registered) -/
theorem regPath_not_removed (o : Oracles) (w : World) (p : Text) (hkeys : ∀ kv ∈ w.cleanup, kv.1.1 = p)
    (runOnly : Text) (upd : Bool) (fr : FilesResult)
    (h : examineFiles o w.fs (cleanRegPaths w) [] runOnly upd = some fr) : p ∉ fr.removed := by
  have inv := examineFiles_inv _ _ _ _ _ _ _ h
  intro hp
  have hobs : p ∈ fr.obsolete := by
    rw [inv.removed_eq] at hp
    split at hp
    · exact hp
    · cases hp
  obtain ⟨dir, hdir, name, _, _, _, _, hnreg, _⟩ := inv.orphan p hobs
  obtain ⟨q, hq, _⟩ := List.mem_map.mp hdir
  rw [List.append_nil] at hq
  have : q = p := by
    obtain ⟨kv, hkv, rfl⟩ := List.mem_map.mp (mem_dedup _ _ hq)
    exact hkeys kv hkv
  exact hnreg (this ▸ hq)

theorem kept_of_covered (o : Oracles) (cleanup : List (RegKey × Nat)) (skipped : List Text) (runOnly : Text)
    (count : Nat) (p : Text) (registered : List Text) (hreg : registeredFor cleanup p count = some registered)
    {e : Entry} {t : Text} {k n : Nat} (hid : e.id = testID t k) (hk1 : 1 ≤ k) (hk2 : k ≤ n / count)
    (hm : ((p, t), n) ∈ cleanup) : keptId o registered skipped runOnly (tidOf e) = true := by
  have hmem : (t, n) ∈ (cleanup.filter (·.1.1 = p)).map (fun (k, n) => (k.2, n)) :=
    List.mem_map.mpr ⟨((p, t), n), List.mem_filter.mpr ⟨hm, by simp⟩, rfl⟩
  obtain ⟨x, hx, hxm⟩ := C07.occurrences_cover_div _ count snapshotOccFmt registered t n hmem hreg k hk1 hk2
  rw [snapshotOccFmt_eq] at hx
  cases hx
  rw [tidOf_of_id hid]
  have hc : registered.contains (t ++ [32, 45, 32] ++ natToText k) = true := by simpa using hxm
  unfold keptId
  rw [hc]
  rfl

/-- **`Clean` keeps what the scan keeps**, for any oracle tables, `-run` pattern and `-count`.  World `w`:
every cleanup key addresses the file `p`, no standalone snapshot is registered; `p` holds the `CleanFile` `es`,
every entry of which the tables classify; every entry of `must` is in the file and is kept by the scan
(`keptId`) whatever ids are registered for `p`.  Then for a supported `Clean`, in every mode: `p` is not
removed, no id of `must` is reported obsolete, and afterwards `p` holds a `CleanFile` made of entries of `es`
that contains every entry of `must`; every other path that was not removed reads as before. -/
theorem clean_keeps_of_kept (o : Oracles) (w : World) (sortOpt : Bool) (runOnly : Text) (count : Nat)
    (p : Text) (es must : List Entry)
    (hkeys : ∀ kv ∈ w.cleanup, kv.1.1 = p) (hs : w.scleanup = [])
    (hK : ∀ registered, registeredFor w.cleanup p count = some registered →
      ∀ e ∈ must, keptId o registered w.skipped runOnly (tidOf e) = true)
    (hcls : ∀ registered, ∀ e ∈ es, Classified o registered w.skipped runOnly (tidOf e))
    (hf : CleanFile es) (hfile : Holds w.fs p es) (hall : ∀ e ∈ must, e ∈ es)
    (sa : List Text) (fr : FilesResult) (obsT : List Text) (fs : FS) (wr : List Text)
    (run : CleanRun o w sortOpt runOnly count sa fr obsT fs wr) :
    p ∉ fr.removed ∧ (∀ e ∈ must, tidOf e ∉ obsT) ∧
    (∃ es', CleanFile es' ∧ Holds fs p es' ∧ (∀ e ∈ must, e ∈ es') ∧ (∀ e ∈ es', e ∈ es)) ∧
    (∀ q, q ≠ p → q ∉ fr.removed → fsRead fs q = fsRead w.fs q) := by
  have hsa := standalone_nil run hs
  subst hsa
  have hnrem : p ∉ fr.removed := regPath_not_removed o w p hkeys runOnly _ fr run.files
  have hframe := (C09.examineFiles_untouched _ _ _ _ _ _ _ run.files).2.2.2
  obtain ⟨registered, hreg⟩ : ∃ r, registeredFor w.cleanup p count = some r :=
    occurrences_snapshot_total _ count
  obtain ⟨es', h1, h2, h3, h4, h5, h6⟩ := go_keeps_kept o w.cleanup w.skipped runOnly count _ _ p registered
    hreg must (hK registered hreg) fr.used (used_all_p o w p hkeys [] runOnly _ fr run.files) fr.fs [] [] es hf
    (holds_congr (hframe p hnrem) hfile) (hcls registered) hall (fun _ _ h => by cases h) obsT fs wr run.snaps
  refine ⟨hnrem, h5, ⟨es', h1, h2, h3, h4⟩, ?_⟩
  intro q hq hqr
  rw [h6 q hq, hframe q hqr]

end GoSnaps.CleanWorld
