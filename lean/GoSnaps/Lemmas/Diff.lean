/-
Lemmas about the model of snaps/diff.go (`GoSnaps/Diff.lean`) and of the escaping functions
(`GoSnaps/Escape.lean`).  The unified diff is read as a list of structured rows (`Row`, `diffRows`);
the statements of Props/C13 are about that list.
-/
import GoSnaps.Diff
import GoSnaps.Escape
import GoSnaps.DifflibSpec
import GoSnaps.Lemmas.Difflib
import GoSnaps.Props.C13Difflib
namespace GoSnaps
open Difflib


theorem ByteArray_toList_loop (bs : ByteArray) (i : Nat) (r : List UInt8) :
    ByteArray.toList.loop bs i r = r.reverse ++ bs.data.toList.drop i := by
  fun_induction ByteArray.toList.loop bs i r with
  | case1 i r h ih =>
    rw [ih]
    have hs : bs.size = bs.data.toList.length := by
      rw [Array.length_toList]; rfl
    have hi : i < bs.data.toList.length := by omega
    rw [List.drop_eq_getElem_cons hi]
    have : bs.get! i = bs.data.toList[i] := by
      show bs.data[i]! = _
      rw [getElem!_pos bs.data i (by simpa using hi)]
      simp
    simp [this]
  | case2 i r h =>
    have hs : bs.size = bs.data.toList.length := by
      rw [Array.length_toList]; rfl
    have : bs.data.toList.length ≤ i := by omega
    simp [List.drop_eq_nil_of_le this]

theorem ByteArray_toList (bs : ByteArray) : bs.toList = bs.data.toList := by
  simp [ByteArray.toList, ByteArray_toList_loop]

theorem ofString_eq (s : String) : ofString s = s.toList.flatMap String.utf8EncodeChar := by
  unfold ofString
  rw [ByteArray_toList, String.toUTF8_eq_toByteArray, ← String.utf8Encode_toList, List.utf8Encode,
    List.toList_data_toByteArray]

theorem ofString_append (s t : String) : ofString (s ++ t) = ofString s ++ ofString t := by
  simp [ofString_eq, String.toList_append]

theorem ofString_minus : ofString "- " = [45, 32] := by decide +kernel
theorem ofString_plus : ofString "+ " = [43, 32] := by decide +kernel
theorem ofString_blank : ofString "  " = [32, 32] := by decide +kernel

theorem rowDelete_eq (l : Text) : rowDelete l = 45 :: 32 :: l := by
  simp [rowDelete, ofString_minus]
theorem rowInsert_eq (l : Text) : rowInsert l = 43 :: 32 :: l := by
  simp [rowInsert, ofString_plus]
theorem rowEqual_eq (l : Text) :
    rowEqual l = 32 :: 32 :: (if l = [nl] then Generated.go_newLineSymbol ++ [nl] else l) := by
  simp [rowEqual, ofString_blank]


namespace Tie

/-- the bytes of Lean's decimal rendering -/
def digitsB (n : Nat) : Text := (Nat.toDigits 10 n).flatMap String.utf8EncodeChar

theorem digitChar_bytes : ∀ n < 10, String.utf8EncodeChar (Nat.digitChar n) = [UInt8.ofNat (48 + n % 10)] := by
  decide

theorem digitsB_lt (n : Nat) (h : n < 10) : digitsB n = [UInt8.ofNat (48 + n % 10)] := by
  unfold digitsB
  rw [Nat.toDigits_of_lt_base h]
  simp [digitChar_bytes n h]

theorem digitsB_ge (n : Nat) (h : ¬ n < 10) : digitsB n = digitsB (n / 10) ++ [UInt8.ofNat (48 + n % 10)] := by
  unfold digitsB
  rw [Nat.toDigits_of_base_le (by decide) (by omega)]
  have : n % 10 < 10 := Nat.mod_lt _ (by decide)
  have e := digitChar_bytes (n % 10) this
  rw [Nat.mod_mod] at e
  simp [e]

theorem natToTextAux_eq (fuel n : Nat) (acc : Text) (h : n < fuel) :
    natToTextAux fuel n acc = digitsB n ++ acc := by
  induction fuel generalizing n acc with
  | zero => omega
  | succ f ih =>
    simp only [natToTextAux]
    split
    · rename_i hn; rw [digitsB_lt n hn]; rfl
    · rename_i hn
      rw [ih (n / 10) _ (by omega), digitsB_ge n hn]; simp

theorem ofString_toString_nat (n : Nat) : ofString (toString n) = natToText n := by
  rw [ofString_eq, Nat.toString_eq_repr, Nat.toList_repr]
  unfold natToText
  rw [natToTextAux_eq _ _ _ (by omega)]
  simp [digitsB]

end Tie

theorem splitNewlines_inj {a b : Text} (h : splitNewlines a = splitNewlines b) : a = b := by
  have := (List.map_inj_right fun _ _ => List.append_cancel_right).mp h
  rw [← unlines_lines a, ← unlines_lines b, this]

theorem mem_splitNewlines_ne_nil {a l : Text} (h : l ∈ splitNewlines a) : l ≠ [] := by
  simp only [splitNewlines, List.mem_map] at h
  obtain ⟨x, _, rfl⟩ := h
  simp


/-- one printed row of the unified diff: context line, deleted line, inserted line, or the
`@@ -x,y +z,w @@` range header (carried verbatim) -/
inductive Row where
  | eq (l : Text)
  | del (l : Text)
  | ins (l : Text)
  | range (t : Text)
deriving DecidableEq, Repr

namespace Row
def render : Row → Text
  | eq l => rowEqual l
  | del l => rowDelete l
  | ins l => rowInsert l
  | range t => t
def isDel : Row → Bool
  | del _ => true
  | _ => false
def isIns : Row → Bool
  | ins _ => true
  | _ => false
def delLine? : Row → Option Text
  | del l => some l
  | _ => none
def insLine? : Row → Option Text
  | ins l => some l
  | _ => none
end Row

def renderRows (rs : List Row) : Text := (rs.map Row.render).flatten
/-- the deleted lines, in order -/
def delLines (rs : List Row) : List Text := rs.filterMap Row.delLine?
/-- the inserted lines, in order -/
def insLines (rs : List Row) : List Text := rs.filterMap Row.insLine?

theorem length_filterMap_rows {p : Row → Option Text} {q : Row → Bool} (h : ∀ r, (p r).isSome = q r)
    (rs : List Row) : (rs.filterMap p).length = (rs.filter q).length := by
  rw [List.length_filterMap_eq_countP, List.countP_eq_length_filter, funext h]

/-- lines of `a` printed with `-` for one opcode (Delete and Replace only) -/
def delSlice (aL : List Text) (c : OpCode) : List Text :=
  if c.tag = opDelete ∨ c.tag = opReplace then sliceL aL c.i1 c.i2 else []
/-- lines of `b` printed with `+` for one opcode (Insert and Replace only) -/
def insSlice (bL : List Text) (c : OpCode) : List Text :=
  if c.tag = opInsert ∨ c.tag = opReplace then sliceL bL c.j1 c.j2 else []

/-- rows printed for one opcode -/
def opRowsS (aL bL : List Text) (c : OpCode) : List Row :=
  if c.tag = opEqual then (sliceL aL c.i1 c.i2).map Row.eq
  else (delSlice aL c).map Row.del ++ (insSlice bL c).map Row.ins

/-- rows printed for one group (hunk) -/
def groupRowsS (aL bL : List Text) (g : List OpCode) : List Row :=
  (if aL.length > 10 ∨ bL.length > 10 then [Row.range (rangeRow g)] else []) ++
    g.flatMap (opRowsS aL bL)

/-- all rows of the unified diff of `a` and `b` -/
def diffRows (a b : Text) : List Row :=
  (getGroupedOpCodes (splitNewlines a) (splitNewlines b) Generated.diffContext).flatMap
    (groupRowsS (splitNewlines a) (splitNewlines b))

/-- appending rows to an accumulator: text grows by the rendering, counters by the number of
`+` / `-` rows -/
def addRows (acc : DiffAcc) (rs : List Row) : DiffAcc :=
  { text := acc.text ++ renderRows rs,
    inserted := acc.inserted + (insLines rs).length,
    deleted := acc.deleted + (delLines rs).length }

theorem addRows_nil (acc : DiffAcc) : addRows acc [] = acc := by
  cases acc; simp [addRows, renderRows, insLines, delLines]

theorem addRows_addRows (acc : DiffAcc) (r1 r2 : List Row) :
    addRows (addRows acc r1) r2 = addRows acc (r1 ++ r2) := by
  simp [addRows, renderRows, insLines, delLines, Nat.add_assoc]

theorem foldl_addRows {β : Type} (step : DiffAcc → β → DiffAcc) (rows : β → List Row)
    (h : ∀ acc x, step acc x = addRows acc (rows x)) (l : List β) (acc : DiffAcc) :
    l.foldl step acc = addRows acc (l.flatMap rows) := by
  induction l generalizing acc with
  | nil => exact (addRows_nil acc).symm
  | cons x l ih => rw [List.foldl_cons, ih, h, addRows_addRows, List.flatMap_cons]

theorem filterMap_map_none {f : Text → Row} {p : Row → Option Text} (h : ∀ l, p (f l) = none)
    (ls : List Text) : (ls.map f).filterMap p = [] := by
  induction ls with
  | nil => rfl
  | cons l _ ih => rw [List.map_cons, List.filterMap_cons, h]; exact ih
theorem filterMap_map_some {f : Text → Row} {p : Row → Option Text} (h : ∀ l, p (f l) = some l)
    (ls : List Text) : (ls.map f).filterMap p = ls := by
  induction ls with
  | nil => rfl
  | cons l _ ih => rw [List.map_cons, List.filterMap_cons, h]; exact congrArg (l :: ·) ih

theorem delSlice_equal {aL : List Text} {c : OpCode} (h : c.tag = opEqual) : delSlice aL c = [] := by
  simp [delSlice, h]
theorem insSlice_equal {bL : List Text} {c : OpCode} (h : c.tag = opEqual) : insSlice bL c = [] := by
  simp [insSlice, h]

theorem delLines_opRowsS (aL bL : List Text) (c : OpCode) :
    delLines (opRowsS aL bL c) = delSlice aL c := by
  unfold opRowsS delLines
  split
  · rename_i h; rw [filterMap_map_none (fun _ => rfl), delSlice_equal h]
  · rw [List.filterMap_append, filterMap_map_some (fun _ => rfl), filterMap_map_none (fun _ => rfl),
      List.append_nil]

theorem insLines_opRowsS (aL bL : List Text) (c : OpCode) :
    insLines (opRowsS aL bL c) = insSlice bL c := by
  unfold opRowsS insLines
  split
  · rename_i h; rw [filterMap_map_none (fun _ => rfl), insSlice_equal h]
  · rw [List.filterMap_append, filterMap_map_none (fun _ => rfl), filterMap_map_some (fun _ => rfl),
      List.nil_append]

theorem opRows_eq (aL bL : List Text) (c : OpCode) (acc : DiffAcc) :
    opRows aL bL c acc = addRows acc (opRowsS aL bL c) := by
  unfold addRows
  rw [delLines_opRowsS, insLines_opRowsS]
  unfold opRows opRowsS delSlice insSlice renderRows
  split
  · rename_i h
    simp [Row.render, h, Function.comp_def]
  · simp [Row.render, Function.comp_def, List.append_assoc]

/-- **the executable fold is the structured row list**: text = rendering of the rows,
`inserted` = number of `+` rows, `deleted` = number of `-` rows -/
theorem getUnifiedDiff_eq (a b : Text) : getUnifiedDiff a b = addRows {} (diffRows a b) := by
  unfold getUnifiedDiff diffRows
  refine foldl_addRows _ _ (fun acc g => ?_) _ _
  rw [foldl_addRows _ _ (fun acc c => opRows_eq _ _ c acc), groupRowsS, ← addRows_addRows]
  congr 1
  split
  · cases acc; simp [addRows, renderRows, Row.render, insLines, delLines, Row.insLine?, Row.delLine?]
  · exact (addRows_nil acc).symm

theorem getUnifiedDiff_text (a b : Text) : (getUnifiedDiff a b).text = renderRows (diffRows a b) := by
  rw [getUnifiedDiff_eq]; simp [addRows]


theorem sliceL_eq_slice (l : List Text) (i1 i2 : Nat) : sliceL l i1 i2 = slice l i1 i2 := rfl

theorem sliceL_ne_nil {l : List Text} {i1 i2 : Nat} (h1 : i1 < i2) (h2 : i2 ≤ l.length) :
    sliceL l i1 i2 ≠ [] := by
  intro h
  have := congrArg List.length h
  simp only [sliceL, List.length_take, List.length_drop, List.length_nil] at this
  omega

theorem mem_of_mem_sliceL {l : List Text} {x : Text} {i1 i2 : Nat} (h : x ∈ sliceL l i1 i2) : x ∈ l :=
  List.mem_of_mem_drop (List.mem_of_mem_take h)

theorem mem_diffRows {a b : Text} {r : Row} {g : List OpCode} {c : OpCode}
    (hg : g ∈ getGroupedOpCodes (splitNewlines a) (splitNewlines b) Generated.diffContext)
    (hc : c ∈ g) (hr : r ∈ opRowsS (splitNewlines a) (splitNewlines b) c) : r ∈ diffRows a b := by
  unfold diffRows
  rw [List.mem_flatMap]
  refine ⟨g, hg, ?_⟩
  unfold groupRowsS
  rw [List.mem_append, List.mem_flatMap]
  exact Or.inr ⟨c, hc, hr⟩

theorem change_opcode_rows {aL bL : List Text} {c : OpCode} (hc : c ∈ getOpCodes aL bL)
    (ht : c.tag ≠ opEqual) :
    (∃ l, l ∈ aL ∧ Row.del l ∈ opRowsS aL bL c) ∨ (∃ l, l ∈ bL ∧ Row.ins l ∈ opRowsS aL bL c) := by
  obtain ⟨_, _, hi, hj, hcase⟩ := (opcodes_tile aL bL).2.2.2.2 c hc
  have hdel : c.tag = opDelete ∨ c.tag = opReplace → c.i1 < c.i2 →
      ∃ l, l ∈ aL ∧ Row.del l ∈ opRowsS aL bL c := by
    intro htag hlt
    obtain ⟨l, hl⟩ := List.exists_mem_of_ne_nil _ (sliceL_ne_nil hlt hi)
    refine ⟨l, mem_of_mem_sliceL hl, ?_⟩
    simp only [opRowsS, ht, ↓reduceIte, List.mem_append, List.mem_map]
    exact Or.inl ⟨l, by simpa [delSlice, htag] using hl, rfl⟩
  have hins : c.tag = opInsert ∨ c.tag = opReplace → c.j1 < c.j2 →
      ∃ l, l ∈ bL ∧ Row.ins l ∈ opRowsS aL bL c := by
    intro htag hlt
    obtain ⟨l, hl⟩ := List.exists_mem_of_ne_nil _ (sliceL_ne_nil hlt hj)
    refine ⟨l, mem_of_mem_sliceL hl, ?_⟩
    simp only [opRowsS, ht, ↓reduceIte, List.mem_append, List.mem_map]
    exact Or.inr ⟨l, by simpa [insSlice, htag] using hl, rfl⟩
  rcases hcase with ⟨h, _⟩ | ⟨h, _, h2⟩ | ⟨h, h1, _⟩ | ⟨h, h1, _⟩
  · exact absurd h ht
  · exact Or.inr (hins (Or.inl h) h2)
  · exact Or.inl (hdel (Or.inl h) h1)
  · exact Or.inl (hdel (Or.inr h) h1)

theorem diffRows_change_row {a b : Text} (h : a ≠ b) :
    (∃ l, l ∈ splitNewlines a ∧ Row.del l ∈ diffRows a b) ∨
    (∃ l, l ∈ splitNewlines b ∧ Row.ins l ∈ diffRows a b) := by
  have hne : splitNewlines a ≠ splitNewlines b := fun e => h (splitNewlines_inj e)
  have hgs := grouped_nonempty_of_ne _ _ Generated.diffContext hne
  obtain ⟨g, hg⟩ := List.exists_mem_of_ne_nil _ hgs
  obtain ⟨c, hc, ht⟩ := grouped_groups_have_change _ _ _ g hg
  have hc' := grouped_nonEqual_unchanged _ _ _ g hg c hc ht
  rcases change_opcode_rows hc' ht with ⟨l, hl, hr⟩ | ⟨l, hl, hr⟩
  · exact Or.inl ⟨l, hl, mem_diffRows hg hc hr⟩
  · exact Or.inr ⟨l, hl, mem_diffRows hg hc hr⟩

theorem renderRows_ne_nil {rs : List Row} {r : Row} (hr : r ∈ rs) (hne : r.render ≠ []) :
    renderRows rs ≠ [] := by
  intro h
  simp only [renderRows, List.flatten_eq_nil_iff, List.mem_map, forall_exists_index, and_imp,
    forall_apply_eq_imp_iff₂] at h
  exact hne (h r hr)

theorem getUnifiedDiff_text_ne_nil {a b : Text} (h : a ≠ b) : (getUnifiedDiff a b).text ≠ [] := by
  rw [getUnifiedDiff_text]
  rcases diffRows_change_row h with ⟨l, _, hr⟩ | ⟨l, _, hr⟩
  · exact renderRows_ne_nil hr (by simp [Row.render, rowDelete_eq])
  · exact renderRows_ne_nil hr (by simp [Row.render, rowInsert_eq])

theorem buildDiffReport_eq_nil_iff (i d : Nat) (diff name : Text) (line : Nat) :
    buildDiffReport i d diff name line = [] ↔ diff = [] := by
  unfold buildDiffReport
  split
  · simp [*]
  · rename_i h
    simp [h]


theorem flatMap_changes {β : Type} (f : OpCode → List β) (hf : ∀ c, c.tag = opEqual → f c = [])
    (ops : List OpCode) : ops.flatMap f = (changes ops).flatMap f := by
  induction ops with
  | nil => rfl
  | cons c ops ih =>
    by_cases h : c.tag = opEqual
    · rw [changes_cons_equal h, List.flatMap_cons, hf c h, List.nil_append, ih]
    · have : changes (c :: ops) = c :: changes ops := by simp [changes, h]
      rw [this, List.flatMap_cons, List.flatMap_cons, ih]

/-- the rows of one kind (`p` picks the `-` lines, or the `+` lines): what each opcode of the FULL
opcode list contributes (`sl`), in order — grouping into hunks loses none and adds none -/
theorem filterMap_diffRows (p : Row → Option Text) (sl : OpCode → List Text) (a b : Text)
    (hrange : ∀ t, p (.range t) = none)
    (hop : ∀ c, (opRowsS (splitNewlines a) (splitNewlines b) c).filterMap p = sl c)
    (heq : ∀ c, c.tag = opEqual → sl c = []) :
    (diffRows a b).filterMap p = (getOpCodes (splitNewlines a) (splitNewlines b)).flatMap sl := by
  have hgroup : ∀ g, (groupRowsS (splitNewlines a) (splitNewlines b) g).filterMap p = g.flatMap sl := by
    intro g
    unfold groupRowsS
    rw [List.filterMap_append, List.filterMap_flatMap]
    have : (if (splitNewlines a).length > 10 ∨ (splitNewlines b).length > 10
        then [Row.range (rangeRow g)] else []).filterMap p = [] := by
      split
      · rw [List.filterMap_cons, hrange]; rfl
      · rfl
    rw [this, List.nil_append, funext hop]
  unfold diffRows
  rw [List.filterMap_flatMap, flatMap_changes sl heq (getOpCodes _ _), ← grouped_changes _ _ Generated.diffContext,
    ← flatMap_changes sl heq, List.flatten_eq_flatMap, List.flatMap_assoc, funext hgroup]
  rfl

theorem delSlice_sublist_aParts (aL : List Text) (ops : List OpCode) :
    (ops.flatMap (delSlice aL)).Sublist (aParts aL ops) := by
  induction ops with
  | nil => simp [aParts]
  | cons c ops ih =>
    rw [List.flatMap_cons, aParts]
    refine List.Sublist.append ?_ ih
    unfold delSlice
    split
    · exact List.Sublist.refl _
    · exact List.nil_sublist _

theorem insSlice_sublist_bParts (bL : List Text) (ops : List OpCode) :
    (ops.flatMap (insSlice bL)).Sublist (bParts bL ops) := by
  induction ops with
  | nil => simp [bParts]
  | cons c ops ih =>
    rw [List.flatMap_cons, bParts]
    refine List.Sublist.append ?_ ih
    unfold insSlice
    split
    · exact List.Sublist.refl _
    · exact List.nil_sublist _


/-- the parts of `a` lying in Equal opcodes -/
def residueA {α : Type} (a : List α) (ops : List OpCode) : List α :=
  ops.flatMap fun c => if c.tag = opEqual then slice a c.i1 c.i2 else []
/-- the parts of `b` lying in Equal opcodes -/
def residueB {α : Type} (b : List α) (ops : List OpCode) : List α :=
  ops.flatMap fun c => if c.tag = opEqual then slice b c.j1 c.j2 else []

theorem residue_eq_of_forall {α : Type} (a b : List α) (ops : List OpCode)
    (h : ∀ c ∈ ops, c.tag = opEqual → slice a c.i1 c.i2 = slice b c.j1 c.j2) :
    residueA a ops = residueB b ops := by
  induction ops with
  | nil => rfl
  | cons c ops ih =>
    simp only [residueA, residueB, List.flatMap_cons] at ih ⊢
    rw [ih (fun x hx => h x (by simp [hx]))]
    congr 1
    split
    · rename_i ht; exact h c (by simp) ht
    · rfl

theorem flatMap_eq_aParts {α : Type} (a : List α) (ops : List OpCode) (f : OpCode → List α)
    (h : ∀ c ∈ ops, f c = slice a c.i1 c.i2) : ops.flatMap f = aParts a ops := by
  induction ops with
  | nil => rfl
  | cons c ops ih =>
    rw [List.flatMap_cons, aParts, ih (fun x hx => h x (by simp [hx])), h c (by simp)]

theorem flatMap_eq_bParts {α : Type} (b : List α) (ops : List OpCode) (f : OpCode → List α)
    (h : ∀ c ∈ ops, f c = slice b c.j1 c.j2) : ops.flatMap f = bParts b ops := by
  induction ops with
  | nil => rfl
  | cons c ops ih =>
    rw [List.flatMap_cons, bParts, ih (fun x hx => h x (by simp [hx])), h c (by simp)]


/-- position `p` of `a` lies in the `a`-range of some change (non-Equal) opcode -/
def covA (ops : List OpCode) (p : Nat) : Bool :=
  ops.any fun c => decide (c.tag ≠ opEqual) && (decide (c.i1 ≤ p) && decide (p < c.i2))
/-- position `p` of `b` lies in the `b`-range of some change (non-Equal) opcode -/
def covB (ops : List OpCode) (p : Nat) : Bool :=
  ops.any fun c => decide (c.tag ≠ opEqual) && (decide (c.j1 ≤ p) && decide (p < c.j2))

/-- delete from `l` (whose first element has position `p`) the elements at covered positions -/
def keepUncovered {α : Type} (cov : Nat → Bool) : List α → Nat → List α
  | [], _ => []
  | x :: xs, p => if cov p then keepUncovered cov xs (p + 1) else x :: keepUncovered cov xs (p + 1)

theorem keepUncovered_append {α : Type} (cov : Nat → Bool) (l1 l2 : List α) (p : Nat) :
    keepUncovered cov (l1 ++ l2) p = keepUncovered cov l1 p ++ keepUncovered cov l2 (p + l1.length) := by
  induction l1 generalizing p with
  | nil => simp [keepUncovered]
  | cons x xs ih =>
    simp only [List.cons_append, keepUncovered, ih, List.length_cons]
    have : p + 1 + xs.length = p + (xs.length + 1) := by omega
    rw [this]
    split <;> simp

theorem keepUncovered_all {α : Type} (cov : Nat → Bool) (l : List α) (p : Nat)
    (h : ∀ q, p ≤ q → q < p + l.length → cov q = true) : keepUncovered cov l p = [] := by
  induction l generalizing p with
  | nil => rfl
  | cons x xs ih =>
    simp only [keepUncovered, h p (Nat.le_refl _) (by simp), ↓reduceIte]
    exact ih _ (fun q h1 h2 => h q (by omega) (by simp only [List.length_cons]; omega))

theorem keepUncovered_none {α : Type} (cov : Nat → Bool) (l : List α) (p : Nat)
    (h : ∀ q, p ≤ q → q < p + l.length → cov q = false) : keepUncovered cov l p = l := by
  induction l generalizing p with
  | nil => rfl
  | cons x xs ih =>
    simp only [keepUncovered, h p (Nat.le_refl _) (by simp), Bool.false_eq_true, ↓reduceIte]
    rw [ih _ (fun q h1 h2 => h q (by omega) (by simp only [List.length_cons]; omega))]

theorem keepUncovered_congr {α : Type} (cov cov' : Nat → Bool) (l : List α) (p : Nat)
    (h : ∀ q, p ≤ q → cov q = cov' q) : keepUncovered cov l p = keepUncovered cov' l p := by
  induction l generalizing p with
  | nil => rfl
  | cons x xs ih =>
    simp only [keepUncovered, h p (Nat.le_refl _)]
    rw [ih _ (fun q hq => h q (by omega))]

theorem length_slice {α : Type} {l : List α} {i1 i2 : Nat} (h1 : i1 ≤ i2) (h2 : i2 ≤ l.length) :
    (slice l i1 i2).length = i2 - i1 := by
  simp only [slice, List.length_take, List.length_drop]; omega

/-- one side of a tiling: the ranges `[lo c, hi c)` follow each other from `i` up to `n` -/
def Chain (lo hi : OpCode → Nat) (n : Nat) : Nat → List OpCode → Prop
  | i, [] => i = n
  | i, c :: cs => lo c = i ∧ lo c ≤ hi c ∧ hi c ≤ n ∧ Chain lo hi n (hi c) cs

theorem Tile_chain {α : Type} {a b : List α} : ∀ (ops : List OpCode) (i j : Nat), Tile a b i j ops →
    Chain (·.i1) (·.i2) a.length i ops ∧ Chain (·.j1) (·.j2) b.length j ops
  | [], _, _, h => h
  | _ :: cs, _, _, ⟨h1, h2, h3, h4⟩ =>
    ⟨⟨h1, h3.1, h3.2.2.1, (Tile_chain cs _ _ h4).1⟩, ⟨h2, h3.2.1, h3.2.2.2.1, (Tile_chain cs _ _ h4).2⟩⟩

theorem Chain_lower {lo hi : OpCode → Nat} {n : Nat} : ∀ (ops : List OpCode) (i : Nat),
    Chain lo hi n i ops → ∀ c ∈ ops, i ≤ lo c
  | c0 :: cs, i, ⟨h1, h2, _, h4⟩, c, hc => by
    rcases List.mem_cons.mp hc with rfl | hc
    · omega
    · have := Chain_lower cs _ h4 c hc
      omega

/-- the Equal ranges of one side of a tiling are what is left of the list when the positions in
    the ranges of the change opcodes are deleted -/
theorem residue_chain {α : Type} [DecidableEq α] (l : List α) (lo hi : OpCode → Nat) : ∀ (ops : List OpCode) (i : Nat),
    Chain lo hi l.length i ops →
    (ops.flatMap fun c => if c.tag = opEqual then slice l (lo c) (hi c) else []) =
      keepUncovered (fun p => ops.any fun c =>
        decide (c.tag ≠ opEqual) && (decide (lo c ≤ p) && decide (p < hi c))) (l.drop i) i := by
  intro ops
  induction ops with
  | nil =>
    intro i h
    rw [show i = l.length from h, List.drop_length]
    rfl
  | cons c cs ih =>
    intro i ⟨h1, g1, g3, h4⟩
    have hlow := Chain_lower cs _ h4
    subst h1
    rw [← slice_append_drop l g1, keepUncovered_append, length_slice g1 g3,
      show lo c + (hi c - lo c) = hi c by omega, List.flatMap_cons, ih _ h4]
    congr 1
    · by_cases ht : c.tag = opEqual
      · rw [if_pos ht, keepUncovered_none]
        intro q hq1 hq2
        rw [length_slice g1 g3] at hq2
        have : cs.any (fun c => decide (c.tag ≠ opEqual) && (decide (lo c ≤ q) && decide (q < hi c))) = false := by
          simp only [List.any_eq_false, Bool.and_eq_true, decide_eq_true_eq, not_and]
          intro c' hc' _ h2
          have := hlow c' hc'
          omega
        rw [List.any_cons, this]
        simp [ht]
      · rw [if_neg ht, keepUncovered_all]
        intro q hq1 hq2
        rw [length_slice g1 g3] at hq2
        have : q < hi c := by omega
        rw [List.any_cons]
        simp [ht, hq1, this]
    · apply keepUncovered_congr
      intro q hq
      have : ¬ q < hi c := by omega
      rw [List.any_cons]
      simp [this]


/-- what `mapLines` does to one line -/
def lineMap (src dst l : Line) : Line := if l = src then dst else l

/-- mapping `b` to `a` and then `a` back to `b` leaves only the second substitution visible -/
theorem lineMap_swap (a b l : Line) : lineMap a b (lineMap b a l) = lineMap a b l := by
  unfold lineMap
  by_cases h1 : l = b
  · subst h1; simp
  · by_cases h2 : l = a <;> simp [h1, h2]

theorem mapLines_eq (src dst : Line) (s : Text) :
    mapLines src dst s = unlines ((lines s).map (lineMap src dst)) := rfl

theorem lines_mapLines (src dst : Line) (hd : NoNL dst) (s : Text) :
    lines (mapLines src dst s) = (lines s).map (lineMap src dst) := by
  rw [mapLines_eq, lines_unlines_of_noNL]
  · simp [lines_ne_nil]
  · intro l hl
    simp only [List.mem_map] at hl
    obtain ⟨m, hm, rfl⟩ := hl
    unfold lineMap
    split
    · exact hd
    · exact noNL_of_mem_lines s m hm

theorem mapLines_mapLines (s1 d1 s2 d2 : Line) (hd : NoNL d1) (v : Text) :
    mapLines s2 d2 (mapLines s1 d1 v) =
      unlines ((lines v).map (fun l => lineMap s2 d2 (lineMap s1 d1 l))) := by
  rw [mapLines_eq s2 d2, lines_mapLines s1 d1 hd, List.map_map]
  rfl

theorem mapLines_congr (src dst : Line) (f : Line → Line) (v : Text)
    (h : ∀ l ∈ lines v, f l = lineMap src dst l) :
    unlines ((lines v).map f) = mapLines src dst v := by
  rw [mapLines_eq, List.map_congr_left h]

theorem mapLines_id_of_not_mem (src dst : Line) (v : Text) (h : src ∉ lines v) :
    mapLines src dst v = v := by
  rw [mapLines_eq]
  have : (lines v).map (lineMap src dst) = lines v := by
    conv => rhs; rw [← List.map_id (lines v)]
    apply List.map_congr_left
    intro l hl
    have : l ≠ src := fun e => h (e ▸ hl)
    simp [lineMap, this]
  rw [this, unlines_lines]

theorem mapLines_eq_iff (src dst : Line) (hd : NoNL dst) (a b : Text) :
    mapLines src dst a = mapLines src dst b ↔
      (lines a).map (lineMap src dst) = (lines b).map (lineMap src dst) := by
  constructor
  · intro h
    rw [← lines_mapLines src dst hd a, ← lines_mapLines src dst hd b, h]
  · intro h
    rw [mapLines_eq, mapLines_eq, h]


/-- the ESC byte (start of every ANSI colour sequence) -/
local notation "esc" => (27 : Byte)

theorem natToTextAux_noEsc (fuel n : Nat) (acc : Text) (h : esc ∉ acc) :
    esc ∉ natToTextAux fuel n acc := by
  induction fuel generalizing n acc with
  | zero => simpa [natToTextAux] using h
  | succ f ih =>
    have hd : esc ∉ UInt8.ofNat (48 + n % 10) :: acc := by
      simp only [List.mem_cons, not_or]
      refine ⟨?_, h⟩
      intro e
      have := congrArg UInt8.toNat e
      simp at this
      omega
    simp only [natToTextAux]
    split
    · exact hd
    · exact ih _ _ hd

theorem esc_not_in_natToText (n : Nat) : esc ∉ natToText n :=
  natToTextAux_noEsc _ _ _ (by simp)

theorem esc_not_in_ofString_nat (n : Nat) : esc ∉ ofString (toString n) := by
  rw [Tie.ofString_toString_nat]; exact esc_not_in_natToText n

theorem esc_not_in_ofString_int (i : Int) : esc ∉ ofString (toString i) := by
  show esc ∉ ofString (Int.repr i)
  cases i with
  | ofNat m => exact esc_not_in_ofString_nat m
  | negSucc m =>
    rw [Int.repr, ofString_append, List.mem_append, not_or]
    exact ⟨by decide +kernel, esc_not_in_ofString_nat _⟩

theorem esc_not_in_formatRangeUnified (s e : Nat) : esc ∉ ofString (formatRangeUnified s e) := by
  simp only [formatRangeUnified]
  split
  · exact esc_not_in_ofString_nat _
  · rw [ofString_append, ofString_append, List.mem_append, List.mem_append, not_or, not_or]
    exact ⟨⟨esc_not_in_ofString_nat _, by decide +kernel⟩, esc_not_in_ofString_int _⟩

theorem esc_not_in_spaces (n : Nat) : esc ∉ spaces n := by
  simp [spaces, List.mem_replicate]

theorem esc_not_in_intPadding (i d : Nat) : esc ∉ (intPadding i d).1 ∧ esc ∉ (intPadding i d).2 := by
  unfold intPadding
  simp only
  split
  · simp
  · split
    · exact ⟨by simp, esc_not_in_spaces _⟩
    · exact ⟨esc_not_in_spaces _, by simp⟩

theorem esc_not_in_rangeRow (g : List OpCode) : esc ∉ rangeRow g := by
  unfold rangeRow
  split
  · simp only [List.mem_append, not_or]
    -- the pieces in order: "@@ -", a range, " +", a range, " @@", the newlines
    exact ⟨⟨⟨⟨⟨by decide +kernel, esc_not_in_formatRangeUnified _ _⟩, by decide +kernel⟩,
      esc_not_in_formatRangeUnified _ _⟩, by decide +kernel⟩, by decide⟩
  · simp

theorem mem_of_mem_splitNewlines {s l : Text} {c : Byte} (hl : l ∈ splitNewlines s) (hc : c ∈ l)
    (hne : c ≠ nl) : c ∈ s := by
  have h1 : c ∈ (lines s).flatMap (· ++ [nl]) := by
    rw [List.mem_flatMap]
    simp only [splitNewlines, List.mem_map] at hl
    obtain ⟨x, hx, rfl⟩ := hl
    exact ⟨x, hx, hc⟩
  rw [flatMap_lines, List.mem_append, List.mem_singleton] at h1
  rcases h1 with h | h
  · exact h
  · exact absurd h hne

theorem esc_of_rowEqual {l : Text} (h : esc ∈ rowEqual l) : esc ∈ l := by
  rw [rowEqual_eq] at h
  split at h
  · exact absurd h (by decide)
  · simpa using h

theorem esc_of_rowDelete {l : Text} (h : esc ∈ rowDelete l) : esc ∈ l := by
  rw [rowDelete_eq] at h; simpa using h

theorem esc_of_rowInsert {l : Text} (h : esc ∈ rowInsert l) : esc ∈ l := by
  rw [rowInsert_eq] at h; simpa using h

theorem mem_of_mem_ite {β : Type} {c : Prop} [Decidable c] {l : List β} {x : β}
    (h : x ∈ if c then l else []) : x ∈ l := by
  split at h
  · exact h
  · cases h

theorem mem_diffRows_cases {a b : Text} {r : Row} (h : r ∈ diffRows a b) :
    (∃ l, l ∈ splitNewlines a ∧ (r = .eq l ∨ r = .del l)) ∨
    (∃ l, l ∈ splitNewlines b ∧ r = .ins l) ∨ (∃ g, r = .range (rangeRow g)) := by
  obtain ⟨g, _, hr⟩ := List.mem_flatMap.mp h
  rcases List.mem_append.mp hr with hr | hr
  · exact Or.inr (Or.inr ⟨g, List.mem_singleton.mp (mem_of_mem_ite hr)⟩)
  · obtain ⟨c, _, hr⟩ := List.mem_flatMap.mp hr
    unfold opRowsS at hr
    split at hr
    · obtain ⟨l, hl, rfl⟩ := List.mem_map.mp hr
      exact Or.inl ⟨l, mem_of_mem_sliceL hl, Or.inl rfl⟩
    · rcases List.mem_append.mp hr with hr | hr
      · obtain ⟨l, hl, rfl⟩ := List.mem_map.mp hr
        exact Or.inl ⟨l, mem_of_mem_sliceL (mem_of_mem_ite hl), Or.inr rfl⟩
      · obtain ⟨l, hl, rfl⟩ := List.mem_map.mp hr
        exact Or.inr (Or.inl ⟨l, mem_of_mem_sliceL (mem_of_mem_ite hl), rfl⟩)

theorem esc_of_diff_text {a b : Text} (h : esc ∈ (getUnifiedDiff a b).text) : esc ∈ a ∨ esc ∈ b := by
  rw [getUnifiedDiff_text] at h
  simp only [renderRows, List.mem_flatten, List.mem_map] at h
  obtain ⟨t, ⟨r, hr, rfl⟩, ht⟩ := h
  have hnl : esc ≠ nl := by decide
  rcases mem_diffRows_cases hr with ⟨l, hl, rfl | rfl⟩ | ⟨l, hl, rfl⟩ | ⟨g, rfl⟩
  · exact Or.inl (mem_of_mem_splitNewlines hl (esc_of_rowEqual ht) hnl)
  · exact Or.inl (mem_of_mem_splitNewlines hl (esc_of_rowDelete ht) hnl)
  · exact Or.inr (mem_of_mem_splitNewlines hl (esc_of_rowInsert ht) hnl)
  · exact absurd ht (esc_not_in_rangeRow g)

theorem esc_of_buildDiffReport {i d : Nat} {diff name : Text} {line : Nat}
    (h : esc ∈ buildDiffReport i d diff name line) : esc ∈ diff ∨ esc ∈ name := by
  unfold buildDiffReport at h
  split at h
  · simp at h
  · obtain ⟨hp1, hp2⟩ := esc_not_in_intPadding i d
    generalize intPadding i d = p at h hp1 hp2
    obtain ⟨iPad, dPad⟩ := p
    -- every piece of the report other than `diff` and `name` is ESC-free: the literals, the numbers,
    -- the paddings (`hp1`, `hp2`); membership in the concatenation then leaves only those two
    have lits : esc ∉ ofString "Snapshot " ∧ esc ∉ ofString "Received " ∧ esc ∉ ofString "at " ∧
        esc ∉ ofString ":" ∧ esc ∉ ofString "- " ∧ esc ∉ ofString "+ " ∧ esc ≠ nl := by decide +kernel
    have nums := esc_not_in_natToText
    simp only at hp1 hp2
    by_cases hn : name = []
    · simp only [rowDelete, rowInsert, hn, List.mem_append, List.mem_singleton, ne_eq,
        not_true_eq_false, ↓reduceIte, List.not_mem_nil, or_false] at h
      simp_all
    · simp only [rowDelete, rowInsert, hn, List.mem_append, List.mem_singleton, ne_eq,
        not_false_eq_true, ↓reduceIte] at h
      simp_all

end GoSnaps
