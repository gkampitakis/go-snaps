/-
The file-level results (C01, C04, C06Refine) lifted to CALLS of the step functions `entryTail` /
`matchEntry` / `standaloneTail` of `GoSnaps/Model.lean`: file states (`Holds`), the compared text
(`cmpText`), lookups on `Good` files, and each tail as a function of its lookup result.
-/
import GoSnaps.Props.C02
import GoSnaps.Props.C03
import GoSnaps.Props.C05
import GoSnaps.Props.C06Refine
import GoSnaps.Props.C19
import GoSnaps.Props.C20

namespace GoSnaps.Wld

open GoSnaps GoSnaps.C06Refine
open GoSnaps.C03 (testID testID_eq)

/-- path `p` holds the entry list `es`: the file's bytes are `render es`, or the file does not
exist and `es` is empty -/
def Holds (fs : FS) (p : Text) (es : List Entry) : Prop :=
  fsRead fs p = some (render es) ∨ (fsRead fs p = none ∧ es = [])

/-- what `os.OpenFile(O_APPEND|O_CREATE)` sees: a missing file starts empty -/
def fileOf (fs : FS) (p : Text) : Text :=
  match fsRead fs p with
  | some t => t
  | none => []

/-- the text that is compared: `unescapeEndChars` of the stored / received text for
MatchSnapshot and MatchYAML, the text itself for MatchJSON -/
def cmpText : Cmp → Text → Text
  | .escaped, s => unescape s
  | .raw, s => s

theorem Holds.fileOf {fs : FS} {p : Text} {es : List Entry} (h : Holds fs p es) :
    fileOf fs p = render es := by
  unfold Wld.fileOf
  rcases h with h | ⟨h, rfl⟩
  · rw [h]
  · rw [h]; rfl

theorem frame_ne_nil (e : Entry) : frame e ≠ [] := by simp [frame]

theorem render_eq_nil {es : List Entry} (h : render es = []) : es = [] := by
  cases es with
  | nil => rfl
  | cons e es => rw [render_cons] at h; simp [frame] at h

theorem Holds.some_of_ne_nil {fs : FS} {p : Text} {es : List Entry} (h : Holds fs p es)
    (hne : es ≠ []) : fsRead fs p = some (render es) := by
  rcases h with h | ⟨_, rfl⟩
  · exact h
  · exact absurd rfl hne

theorem getPrev_nil (id : Line) : getPrev id [] = none := by
  simp [getPrev, scan, lines, getPrevL]

/-- the lookup `entryTail` starts with, on a file state -/
theorem Holds.lookup {fs : FS} {p : Text} {es : List Entry} (h : Holds fs p es) (id : Line) :
    (fsRead fs p).bind (getPrev id) = getPrev id (render es) := by
  rcases h with h | ⟨h, rfl⟩
  · rw [h]; rfl
  · rw [h]; simp [render, getPrev_nil]

theorem Holds.write {fs : FS} {p : Text} (t : Text) {es : List Entry} (h : t = render es) :
    Holds (fsWrite fs p t) p es := by
  left; rw [C19.fsRead_fsWrite_same, h]

theorem good_sublist {a b : List Entry} (hs : a.Sublist b) (h : Good b) : Good a :=
  ⟨⟨fun e he => h.1.1 e (hs.subset he),
    fun e he o ho => h.1.2 e (hs.subset he) o (hs.subset ho)⟩,
   List.Nodup.sublist (hs.map _) h.2⟩

theorem good_prefix {a b : List Entry} (h : Good (a ++ b)) : Good a :=
  good_sublist (List.sublist_append_left a b) h

theorem good_suffix {a b : List Entry} (h : Good (a ++ b)) : Good b :=
  good_sublist (List.sublist_append_right a b) h

theorem good_nil : Good [] := by decide

/-- with pairwise distinct headers, the header of an entry is the header of no other entry -/
theorem ids_nodup_split {pre post : List Entry} {e : Entry}
    (hnd : (ids (pre ++ e :: post)).Nodup) : ∀ o, o ∈ pre ∨ o ∈ post → o.id ≠ e.id := by
  simp only [ids, List.map_append, List.map_cons] at hnd
  obtain ⟨_, hnd2, hdisj⟩ := List.nodup_append.mp hnd
  rintro o (ho | ho) heq
  · exact hdisj o.id (List.mem_map.mpr ⟨o, ho, rfl⟩) e.id List.mem_cons_self heq
  · exact (List.nodup_cons.mp hnd2).1 (heq ▸ List.mem_map.mpr ⟨o, ho, rfl⟩)

/-- in a `Good` file the header of an entry occurs on no other line of the file -/
theorem good_headerUnique {pre post : List Entry} {e : Entry} (h : Good (pre ++ e :: post)) :
    C04.HeaderUnique pre e post := by
  have he : e ∈ pre ++ e :: post := List.mem_append_right _ List.mem_cons_self
  obtain ⟨_, _, hne, hend⟩ := (h.1.1 e he).1
  have hd := ids_nodup_split h.2
  -- the header is no header of `l` (distinct headers) and no body line of `l` (NoShadow)
  have key : ∀ l : List Entry, (∀ o ∈ l, o ∈ pre ++ e :: post ∧ o.id ≠ e.id) →
      e.id ∉ fileLines l := fun l hl =>
    not_mem_fileLines _ _ hne hend fun o ho => ⟨(hl o ho).2, h.1.2 o (hl o ho).1 e he⟩
  exact ⟨key pre fun o ho => ⟨List.mem_append_left _ ho, hd o (.inl ho)⟩,
    key post fun o ho =>
      ⟨List.mem_append_right _ (List.mem_cons_of_mem _ ho), hd o (.inr ho)⟩⟩

/-- **lookup of an entry of a `Good` file**: exactly its body, at its header's line -/
theorem good_lookup_split {pre post : List Entry} {e : Entry} (h : Good (pre ++ e :: post)) :
    getPrev e.id (render (pre ++ e :: post)) = some (e.body, (fileLines pre).length + 2) := by
  have he : e ∈ pre ++ e :: post := List.mem_append_right _ List.mem_cons_self
  obtain ⟨hgid, hgb⟩ := h.1.1 e he
  exact C01.getPrev_render pre e post h.wf hgid.2.2.1 hgb.1 (good_headerUnique h).1

theorem good_lookup_mem {es : List Entry} (h : Good es) {id : Line} {s : Text}
    (hm : (⟨id, s⟩ : Entry) ∈ es) : ∃ line, getPrev id (render es) = some (s, line) := by
  obtain ⟨pre, post, rfl⟩ := List.append_of_mem hm
  exact ⟨_, good_lookup_split h⟩

theorem good_lookup_absent {es : List Entry} (h : Good es) {id : Line} (ha : id ∉ fileLines es) :
    getPrev id (render es) = none :=
  C01.getPrev_absent id es h.wf ha

/-- with pairwise distinct headers, `setBody` rewrites exactly the one entry -/
theorem setBody_split (pre post : List Entry) (e : Entry) (b : Text)
    (hnd : (ids (pre ++ e :: post)).Nodup) :
    setBody (pre ++ e :: post) e.id b = pre ++ ⟨e.id, b⟩ :: post := by
  have hd := ids_nodup_split hnd
  have hid : ∀ l : List Entry, (∀ o ∈ l, o.id ≠ e.id) →
      l.map (fun x => if x.id = e.id then (⟨e.id, b⟩ : Entry) else x) = l := fun l hl =>
    (List.map_congr_left fun o ho => if_neg (hl o ho)).trans (List.map_id' l)
  simp only [setBody, List.map_append, List.map_cons, ↓reduceIte]
  rw [hid pre fun o ho => hd o (.inl ho), hid post fun o ho => hd o (.inr ho)]

/-- **`Good` is preserved by replacing one body** with a usable body none of whose lines is a
header of the file -/
theorem good_replace {pre post : List Entry} {e : Entry} (h : Good (pre ++ e :: post)) {b : Text}
    (hb : GoodBody b) (hold : ∀ o ∈ pre ++ e :: post, o.id ∉ lines b) :
    Good (pre ++ ⟨e.id, b⟩ :: post) := by
  rw [← setBody_split pre post e b h.2]
  exact h.setBody e.id hb hold

/-- the byte-level update of an entry of a `Good` file rewrites exactly that entry; ANY new body -/
theorem good_update_split {pre post : List Entry} {e : Entry} (h : Good (pre ++ e :: post))
    (b : Text) :
    update e.id b (render (pre ++ e :: post)) = render (pre ++ ⟨e.id, b⟩ :: post) := by
  have he : e ∈ pre ++ e :: post := List.mem_append_right _ List.mem_cons_self
  obtain ⟨hgid, hgb⟩ := h.1.1 e he
  exact C04.update_render pre e post b h.wf hgid.2.2.1 hgb.1 (good_headerUnique h)

/-- the header of a test whose name has no newline is a usable id -/
theorem goodId_testID (t : Text) (k : Nat) (ht : NoNL t) : GoodId (testID t k) := by
  refine ⟨C03.testID_noNL t k ht, ?_, C03.testID_ne_nil t k, fun h => ?_⟩
  · unfold NoCRLine testID
    rw [List.getLast?_concat]; decide
  · -- a header starts with '[', the terminator with '-'
    have h' : some (91 : Byte) = some 45 := congrArg List.head? h
    exact absurd h' (by decide)

/-! ## `entryTail` as a function of the lookup result -/

theorem entryTail_absent (w : World) (c : Cfg) (p rel id s : Text) (cmp : Cmp)
    (hq : (fsRead w.fs p).bind (getPrev id) = none)
    (hc : Generated.shouldCreate w.env c.update = true) :
    entryTail w c p rel id s cmp =
      ({ w with fs := fsWrite w.fs p (fileOf w.fs p ++ frame ⟨id, s⟩),
                events := { w.events with added := w.events.added + 1 } },
       { events := [.log Generated.go_addedMsg], writes := [p] }) := by
  unfold entryTail fileOf
  simp only [hq, hc, frameFmt_eq]
  rfl

theorem entryTail_absent_ro (w : World) (c : Cfg) (p rel id s : Text) (cmp : Cmp)
    (hq : (fsRead w.fs p).bind (getPrev id) = none)
    (hc : Generated.shouldCreate w.env c.update = false) :
    entryTail w c p rel id s cmp = handleError w errNotFound := by
  unfold entryTail
  simp only [hq, hc]
  rfl

theorem entryTail_found (w : World) (c : Cfg) (p rel id s : Text) (cmp : Cmp) (prev : Text)
    (line : Nat) (hq : (fsRead w.fs p).bind (getPrev id) = some (prev, line)) :
    entryTail w c p rel id s cmp =
      if prettyDiff (cmpText cmp prev) (cmpText cmp s) rel line = [] then
        ({ w with events := { w.events with passed := w.events.passed + 1 } }, {})
      else if !Generated.shouldUpdate w.env c.update then
        handleError w (prettyDiff (cmpText cmp prev) (cmpText cmp s) rel line)
      else
        match fsRead w.fs p with
        | none => unsup w "update of a vanished file"
        | some file =>
          ({ w with fs := fsWrite w.fs p (update id s file),
                    events := { w.events with updated := w.events.updated + 1 } },
           { events := [.log Generated.go_updatedMsg], writes := [p] }) := by
  unfold entryTail
  simp only [hq]
  cases cmp <;> rfl

/-- found and the compared texts are equal: silent pass in every mode -/
theorem entryTail_found_eq (w : World) (c : Cfg) (p rel id s : Text) (cmp : Cmp) (prev : Text)
    (line : Nat) (hq : (fsRead w.fs p).bind (getPrev id) = some (prev, line))
    (heq : cmpText cmp prev = cmpText cmp s) :
    entryTail w c p rel id s cmp =
      ({ w with events := { w.events with passed := w.events.passed + 1 } }, {}) := by
  rw [entryTail_found w c p rel id s cmp prev line hq, heq,
    if_pos ((C13.report_empty_iff _ _ _ _).mpr rfl)]

/-- on a `Good` file containing `⟨id, s₀⟩`, equal compared texts pass silently in EVERY mode -/
theorem entryTail_pass (w : World) (c : Cfg) (p rel id s s₀ : Text) (cmp : Cmp)
    (es : List Entry) (hfile : Holds w.fs p es) (hgood : Good es)
    (hm : (⟨id, s₀⟩ : Entry) ∈ es) (heq : cmpText cmp s₀ = cmpText cmp s) :
    entryTail w c p rel id s cmp =
      ({ w with events := { w.events with passed := w.events.passed + 1 } }, {}) := by
  obtain ⟨line, hl⟩ := good_lookup_mem hgood hm
  exact entryTail_found_eq w c p rel id s cmp s₀ line ((hfile.lookup id).trans hl) heq

/-- found, the compared texts differ, updating not allowed: one non-empty error -/
theorem entryTail_found_ne_ro (w : World) (c : Cfg) (p rel id s : Text) (cmp : Cmp) (prev : Text)
    (line : Nat) (hq : (fsRead w.fs p).bind (getPrev id) = some (prev, line))
    (hne : cmpText cmp prev ≠ cmpText cmp s)
    (hu : Generated.shouldUpdate w.env c.update = false) :
    entryTail w c p rel id s cmp =
      handleError w (prettyDiff (cmpText cmp prev) (cmpText cmp s) rel line) ∧
    prettyDiff (cmpText cmp prev) (cmpText cmp s) rel line ≠ [] := by
  have hd : prettyDiff (cmpText cmp prev) (cmpText cmp s) rel line ≠ [] :=
    fun h => hne ((C13.report_empty_iff _ _ _ _).mp h)
  refine ⟨?_, hd⟩
  rw [entryTail_found w c p rel id s cmp prev line hq, if_neg hd, hu]
  rfl

/-- found, the compared texts differ, updating allowed: the file is rewritten by `update` -/
theorem entryTail_found_ne_upd (w : World) (c : Cfg) (p rel id s : Text) (cmp : Cmp) (prev : Text)
    (line : Nat) (file : Text) (hf : fsRead w.fs p = some file)
    (hq : getPrev id file = some (prev, line))
    (hne : cmpText cmp prev ≠ cmpText cmp s)
    (hu : Generated.shouldUpdate w.env c.update = true) :
    entryTail w c p rel id s cmp =
      ({ w with fs := fsWrite w.fs p (update id s file),
                events := { w.events with updated := w.events.updated + 1 } },
       { events := [.log Generated.go_updatedMsg], writes := [p] }) := by
  have hd : prettyDiff (cmpText cmp prev) (cmpText cmp s) rel line ≠ [] :=
    fun h => hne ((C13.report_empty_iff _ _ _ _).mp h)
  have hq' : (fsRead w.fs p).bind (getPrev id) = some (prev, line) := by rw [hf]; exact hq
  rw [entryTail_found w c p rel id s cmp prev line hq', if_neg hd, hu, hf]
  rfl

theorem entryTail_env (w : World) (c : Cfg) (p rel id s : Text) (cmp : Cmp) :
    (entryTail w c p rel id s cmp).1.env = w.env :=
  (entryTail_touches ..).env

/-! ## `matchEntry` = registry bump, then `entryTail` at the header `[tName - n]` -/

/-- the world `entryTail` runs in: both counters of `(p, tName)` bumped, cleanup registered -/
def bumped (w : World) (p tName : Text) (texec : Nat) : World :=
  { (regBump w (p, tName)).1 with
    pending := (texec, .reg (p, tName)) :: (regBump w (p, tName)).1.pending }

theorem bumped_fs (w : World) (p t : Text) (x : Nat) : (bumped w p t x).fs = w.fs := rfl
theorem bumped_env (w : World) (p t : Text) (x : Nat) : (bumped w p t x).env = w.env := rfl
theorem bumped_events (w : World) (p t : Text) (x : Nat) : (bumped w p t x).events = w.events := rfl
theorem bumped_running (w : World) (p t : Text) (x : Nat) :
    (bumped w p t x).running = (regBump w (p, t)).1.running := rfl
theorem bumped_pending (w : World) (p t : Text) (x : Nat) :
    (bumped w p t x).pending = (x, .reg (p, t)) :: w.pending := rfl

theorem matchEntry_eq (w : World) (c : Cfg) (caller tName : Text) (texec : Nat) (cmp : Cmp)
    (s p rel : Text) (hsp : snapshotPath c caller tName false = (p, some rel)) :
    matchEntry w c caller tName texec cmp (.ok s) =
      entryTail (bumped w p tName texec) c p rel
        (testID tName (alGet w.running (p, tName) + 1)) s cmp := by
  unfold matchEntry
  rw [hsp]
  simp only [regBump, testID_eq]
  rfl

theorem matchEntry_error_eq (w : World) (c : Cfg) (caller tName : Text) (texec : Nat) (cmp : Cmp)
    (msg p rel : Text) (hsp : snapshotPath c caller tName false = (p, some rel)) :
    matchEntry w c caller tName texec cmp (.error msg) =
      handleError (bumped w p tName texec) msg := by
  unfold matchEntry
  rw [hsp]
  simp only [regBump, testID_eq]
  rfl

theorem endTest_fs (w : World) (texec : Nat) : (endTest w texec).fs = w.fs := by
  obtain ⟨_, _, h⟩ := endTest_frame w texec
  rw [h]

theorem endTest_env (w : World) (texec : Nat) : (endTest w texec).env = w.env := by
  obtain ⟨_, _, h⟩ := endTest_frame w texec
  rw [h]

/-! ## `matchStandalone` = registry bump, then `standaloneTail` at the numbered path -/

def sbumped (w : World) (g : Text) (texec : Nat) : World :=
  { (sregBump w g).1 with pending := (texec, .sreg g) :: (sregBump w g).1.pending }

theorem matchStandalone_eq (w : World) (c : Cfg) (caller tName : Text) (texec : Nat)
    (s g grel pth rel : Text) (hsp : snapshotPath c caller tName true = (g, some grel))
    (hp : sprintf g [.d (alGet w.srunning g + 1)] = some pth)
    (hr : sprintf grel [.d (alGet w.srunning g + 1)] = some rel) :
    matchStandalone w c caller tName texec (.ok s) =
      standaloneTail (sbumped w g texec) c pth rel s := by
  unfold matchStandalone
  rw [hsp]
  simp only [sregBump, hp, hr]
  rfl

theorem standaloneTail_create_eq (w : World) (c : Cfg) (p rel s : Text)
    (hf : fsRead w.fs p = none) (hc : Generated.shouldCreate w.env c.update = true) :
    standaloneTail w c p rel s =
      ({ w with fs := fsWrite w.fs p s,
                events := { w.events with added := w.events.added + 1 } },
       { events := [.log Generated.go_addedMsg], writes := [p] }) := by
  unfold standaloneTail
  simp only [hf, hc]
  rfl

theorem standaloneTail_replay_eq (w : World) (c : Cfg) (p rel s : Text)
    (hf : fsRead w.fs p = some s) :
    standaloneTail w c p rel s =
      ({ w with events := { w.events with passed := w.events.passed + 1 } }, {}) := by
  unfold standaloneTail
  rw [hf]
  exact if_pos ((C13.report_empty_iff _ _ _ _).mpr rfl)

end GoSnaps.Wld
