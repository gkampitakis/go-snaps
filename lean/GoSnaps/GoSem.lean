/-
Go run-time semantics needed by the transliterated functions of `GoSnaps.Generated.Funcs`
(tools/extract/funcs.go): `int`, `len`, indexing, slicing, index assignment, counting and range
loops, and the few library functions that have no total counterpart in the model.

Conventions
* Go `int` is `Int` (no overflow: the translated functions only compute values bounded by
  `len x + 3`, a digit count, or `start + 1` / `stop - start`).
* `string` and `[]byte` are `List UInt8`; a `[]byte` is modelled with `cap = len`.
* An operation that can panic returns `Option`: `none` = the Go program panics with a run-time
  error (`index out of range`, `slice bounds out of range`, `negative Repeat count`).  For a
  `[]byte` operand `slice` is also `none` for `len < hi ≤ cap`, where Go would expose bytes
  beyond `len` that a list cannot represent; no theorem of `Props/Tie.lean` depends on that case
  (all are proved to yield `some`).
-/
import GoSnaps.Bytes
import GoSnaps.Path
namespace GoSnaps.GoSem

/-- `len(x)` -/
def len {α : Type} (l : List α) : Int := (l.length : Int)

/-- `x[i]`; `none` = panic: index out of range -/
def index {α : Type} (l : List α) (i : Int) : Option α :=
  if i < 0 then none else l[i.toNat]?

/-- `x[lo:hi]`; `none` = panic: slice bounds out of range (`0 ≤ lo ≤ hi ≤ len x` is required) -/
def slice {α : Type} (l : List α) (lo hi : Int) : Option (List α) :=
  if 0 ≤ lo ∧ lo ≤ hi ∧ hi ≤ (l.length : Int) then some ((l.drop lo.toNat).take (hi.toNat - lo.toNat))
  else none

/-- `x[i] = v`; `none` = panic: index out of range -/
def setIndex {α : Type} (l : List α) (i : Int) (v : α) : Option (List α) :=
  if 0 ≤ i ∧ i < (l.length : Int) then some (l.set i.toNat v) else none

/-- `x[i] = v` where `i` is in range by construction (the index variable of a `range` loop over
    `x` whose body cannot change `len x`) -/
def setAt {α : Type} (l : List α) (i : Int) (v : α) : List α := l.set i.toNat v

def intRangeAux (lo : Int) : Nat → List Int
  | 0 => []
  | n + 1 => lo :: intRangeAux (lo + 1) n

/-- the values taken by `i` in `for i := lo; i < hi; i++` (the body assigns neither `i` nor a
    variable of `hi`) -/
def intRange (lo hi : Int) : List Int := intRangeAux lo (hi - lo).toNat

def enumFrom {α : Type} (k : Int) : List α → List (Int × α)
  | [] => []
  | x :: xs => (k, x) :: enumFrom (k + 1) xs

/-- the (index, element) pairs of `for i, x := range xs` -/
def enum {α : Type} (l : List α) : List (Int × α) := enumFrom 0 l

/-- `strings.Index` / `bytes.Index`: `-1` when `sep` does not occur -/
def indexInt (s sep : Text) : Int :=
  match indexOf s sep with
  | some i => (i : Int)
  | none => -1

/-- `strings.Split(s, sep)[0]` for `sep ≠ ""`: the text before the first occurrence of `sep`,
    or all of `s` -/
def splitHead (s sep : Text) : Text :=
  match indexOf s sep with
  | some i => s.take i
  | none => s

/-- `strings.SplitAfter(s, "\n")`: the `strings.Split` segments, each but the last followed by
    its newline -/
def splitAfterNL : Text → List Text
  | [] => [[]]
  | c :: cs =>
    if c = nl then [nl] :: splitAfterNL cs
    else match splitAfterNL cs with
      | [] => [[c]]
      | l :: ls => (c :: l) :: ls

/-- `strconv.Itoa` -/
def itoa (n : Int) : Text :=
  if n < 0 then 45 :: natToText n.natAbs else natToText n.toNat

/-- `strings.Repeat(s, n)`; `none` = panic: negative Repeat count -/
def stringsRepeat (s : Text) (n : Int) : Option Text :=
  if n < 0 then none else some (List.replicate n.toNat s).flatten

/-- `filepath.Rel(base, targ)` as (result, `err != nil`), built on the model's partial `fpRel`:
    exact when both operands are absolute (Go: both are cleaned, the result is never an error).
    When an operand is relative the model has no answer (`fpRel = none`); this function then
    returns Go's error shape `("", true)`, which is what Go does when exactly one operand is
    relative, but NOT necessarily when both are (Go can still succeed then). -/
def filepathRel (base targ : Text) : Text × Bool :=
  match fpRel base targ with
  | some r => (r, false)
  | none => ([], true)

/-- `make([]string, n)`: `n` empty strings (`n ≥ 0`: it is a `len`) -/
def makeTexts (n : Int) : List Text := List.replicate n.toNat []

theorem intRangeAux_length (lo : Int) (n : Nat) : (intRangeAux lo n).length = n := by
  induction n generalizing lo with
  | zero => rfl
  | succ n ih => simp [intRangeAux, ih]

theorem intRange_zero_len {α : Type} (l : List α) : intRange 0 (len l) = intRangeAux 0 l.length := by
  simp [intRange, len]

theorem index_ofNat {α : Type} (l : List α) (k : Nat) : index l (k : Int) = l[k]? := by
  simp [index]
  omega

theorem index_append_length {α : Type} (pre : List α) (x : α) (suf : List α) :
    index (pre ++ x :: suf) (pre.length : Int) = some x := by
  rw [index_ofNat]; simp

theorem index_neg {α : Type} (l : List α) (i : Int) (h : i < 0) : index l i = none := by
  simp [index, h]

theorem index_len_sub_one {α : Type} (l : List α) : index l (len l - 1) = l.getLast? := by
  cases l with
  | nil => simp [index, len]
  | cons x xs =>
    have : (len (x :: xs) - 1) = ((xs.length : Nat) : Int) := by simp [len]
    rw [this, index_ofNat, List.getLast?_eq_getElem?]; simp

theorem slice_ofNat {α : Type} (l : List α) (lo hi : Nat) (h1 : lo ≤ hi) (h2 : hi ≤ l.length) :
    slice l (lo : Int) (hi : Int) = some ((l.drop lo).take (hi - lo)) := by
  unfold slice
  rw [if_pos (by omega)]
  simp

theorem stringsRepeat_ofNat (s : Text) (n : Nat) :
    stringsRepeat s (n : Int) = some (List.replicate n s).flatten := by
  unfold stringsRepeat
  rw [if_neg (by omega)]
  simp

theorem setAt_append_length {α : Type} (pre : List α) (x v : α) (suf : List α) :
    setAt (pre ++ x :: suf) (pre.length : Int) v = pre ++ v :: suf := by
  simp [setAt]

theorem setIndex_append_length {α : Type} (pre : List α) (x v : α) (suf : List α) :
    setIndex (pre ++ x :: suf) (pre.length : Int) v = some (pre ++ v :: suf) := by
  unfold setIndex
  rw [if_pos (by simp; omega)]
  simp

theorem itoa_natCast (n : Nat) : itoa (n : Int) = natToText n := by
  unfold itoa
  rw [if_neg (by omega)]
  simp

/-- a `for … range` loop whose body always continues is a left fold, in any lawful monad -/
theorem forIn_yield_foldl {m : Type → Type} [Monad m] [LawfulMonad m] {α β : Type} (l : List α)
    (F : α → β → m (ForInStep β)) (f : β → α → β)
    (hF : ∀ a b, F a b = pure (ForInStep.yield (f b a))) (b : β) :
    forIn l b F = pure (l.foldl f b) := by
  induction l generalizing b with
  | nil => rfl
  | cons x xs ih => rw [List.forIn_cons, hF, pure_bind]; exact ih _

end GoSnaps.GoSem
