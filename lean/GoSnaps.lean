-- the executable model
import GoSnaps.Bytes
import GoSnaps.Fmt
import GoSnaps.Escape
import GoSnaps.Format
import GoSnaps.Path
import GoSnaps.Natural
import GoSnaps.Difflib
import GoSnaps.DifflibSpec
import GoSnaps.Diff
import GoSnaps.Model
import GoSnaps.Clean
import GoSnaps.Conc
import GoSnaps.Json
import GoSnaps.JsonPath
import GoSnaps.Driver
import GoSnaps.DriverX
-- Go semantics for the transliterations (`Generated/*` comes in through the ties)
import GoSnaps.GoSem
import GoSnaps.GoIO
import GoSnaps.GoDiff
-- lemmas about the model
import GoSnaps.Lemmas.Format
import GoSnaps.Lemmas.Update
import GoSnaps.Lemmas.Difflib
import GoSnaps.Lemmas.Diff
import GoSnaps.Lemmas.Clean
import GoSnaps.Lemmas.Conc
import GoSnaps.Lemmas.NaturalOrder
import GoSnaps.Lemmas.World
import GoSnaps.Lemmas.Json
import GoSnaps.Lemmas.JsonPath
import GoSnaps.Lemmas.CleanTop
import GoSnaps.Lemmas.EndToEndClean
import GoSnaps.Lemmas.EndToEndClean2
import GoSnaps.Lemmas.EndToEndSkip
import GoSnaps.Lemmas.JsonEndToEnd
import GoSnaps.Lemmas.CleanWorld
-- the properties C01 … C20 on the model
import GoSnaps.Props.C01
import GoSnaps.Props.C02
import GoSnaps.Props.C03
import GoSnaps.Props.C04
import GoSnaps.Props.C05
import GoSnaps.Props.C06
import GoSnaps.Props.C06Refine
import GoSnaps.Props.C07
import GoSnaps.Props.C09
import GoSnaps.Props.C10
import GoSnaps.Props.C10Order
import GoSnaps.Props.C13Difflib
import GoSnaps.Props.C13
import GoSnaps.Props.C15
import GoSnaps.Props.C19
import GoSnaps.Props.C20
import GoSnaps.Props.C01World
import GoSnaps.Props.C02World
import GoSnaps.Props.C04World
import GoSnaps.Props.C08
import GoSnaps.Props.C11
import GoSnaps.Props.C11Standalone
import GoSnaps.Props.C12
import GoSnaps.Props.C14
import GoSnaps.Props.C14Json
import GoSnaps.Props.C16
import GoSnaps.Props.C16Json
import GoSnaps.Props.C17
import GoSnaps.Props.C18
import GoSnaps.Props.C05Clean
import GoSnaps.Props.C20Summary
import GoSnaps.Props.C07World
-- ties of the transliterated Go code to the model
import GoSnaps.Props.Tie
import GoSnaps.Props.Tie.Snapshot
import GoSnaps.Props.Tie.SnapshotIO
import GoSnaps.Props.Tie.Registry
import GoSnaps.Props.Tie.CleanIO
import GoSnaps.Props.Tie.Flows
import GoSnaps.Props.Tie.Wrappers
import GoSnaps.Props.Tie.Pipeline
import GoSnaps.Props.Tie.Matchers
import GoSnaps.Props.Tie.Caller
import GoSnaps.Props.Tie.DiffIO
import GoSnaps.Props.Tie.SingleLine
import GoSnaps.Props.Tie.SingleLineC02
import GoSnaps.Props.Tie.DifflibGen
import GoSnaps.Props.Tie.DifflibGen2
import GoSnaps.Props.Tie.DifflibGen3
import GoSnaps.Props.Tie.EndToEnd
import GoSnaps.Props.Tie.CleanTopIO
import GoSnaps.Props.Tie.EndToEndClean
import GoSnaps.Props.Tie.EndToEndClean2
import GoSnaps.Props.Tie.EndToEndSkip
import GoSnaps.Props.Tie.JsonEndToEnd
import GoSnaps.Props.Tie.EndToEndOrder
